import Gofasta.Lemmas.Balance
import Gofasta.Lemmas.PushBins
/-
TopRankingSpec: the model of `updown topranking` passes its own specification checker (`Spec.checkBins`) on
every input.  The conjuncts of the checker are proved one at a time for the bins that `topRankingQuery` returns
(as `Driver.parseTR` in Driver/C08 reads them back from the printed form), then assembled.
-/
namespace Gofasta.Lemmas.TopRankingSpec
open Gofasta Base Model Spec Lemmas

/-- one reported entry: the name, and the distance when the table form is printed (the list form shows none) -/
def rep (table : Bool) (h : UDHit) : String × Option Nat := (h.name, if table then some h.dist else none)

/-- the four bins of one query as `Driver.parseTR` extracts them -/
def reportedBins (table : Bool) (res : List (List UDHit)) : List (List (String × Option Nat)) :=
  res.map fun b => b.map (rep table)

/-- what the model keeps of a declarative candidate (the hit of `WhichWaySpec.candHit`) -/
def hitOf (c : Cand) : UDHit := UDHit.mk c.name c.dist c.amb

/-! ### sorting: the checker's ranking is the model's ranking -/

theorem insCand_eq (x : Cand) (l : List Cand) : insCand x l = insSorted candLt x l := by
  induction l with
  | nil => rfl
  | cons y t ih => simp only [insCand, insSorted, ih]

theorem sortCands_eq (l : List Cand) : sortCands l = sortStable candLt l := by
  unfold sortCands sortStable
  congr 1
  funext acc x
  exact insCand_eq x acc

/-- file order decides last: the checker's comparison of a later candidate with an earlier one is the model's
comparison of the two hits -/
theorem candLt_later (x y : Cand) (h : y.idx < x.idx) : candLt x y = udLt (hitOf x) (hitOf y) := by
  have : ¬ x.idx < y.idx := by omega
  simp only [candLt, udLt, hitOf, this, decide_false, Bool.and_false, Bool.or_false]
  rfl

theorem sortCands_hits (l : List Cand) (hp : l.Pairwise fun a b => a.idx < b.idx) :
    (sortCands l).map hitOf = sortStable udLt (l.map hitOf) := by
  rw [sortCands_eq]
  apply map_sortStable
  exact hp.imp (fun {a b} h => candLt_later b a h)

/-! ### the checker, conjunct by conjunct

The definitions down to `pushOkB` are the `let`s and conjuncts of `Spec.checkBins`, copied word for word, so that
`checkBins_eq` below holds by `rfl`; they are to be changed only together with `Spec.checkBins`. -/

def perOf (cands : List Cand) (b : Nat) : List Cand := sortCands (cands.filter fun c => c.bin == b)
def limOf (cands : List Cand) (dists : List Nat) (b : Nat) : List Cand := (perOf cands b).filter fun c => c.dist ≤ dists.getD b 0
def totalOf (sizes : List Nat) : Nat := if sizes.contains bigN then bigN else sizes.sum

def perL (cands : List Cand) := (List.range 4).map (perOf cands)
def limL (cands : List Cand) (dists : List Nat) := (List.range 4).map fun b => ((perL cands).getD b []).filter fun c => c.dist ≤ dists.getD b 0
def gotL (bins : List (List (String × Option Nat))) := (List.range 4).map fun b => bins.getD b []
def nL (bins : List (List (String × Option Nat))) := (gotL bins).map (·.length)
def obsL (cands : List Cand) (dists : List Nat) := (limL cands dists).map (·.length)
def wantL (cands : List Cand) (sizes dists : List Nat) := (List.range 4).map fun b => min (sizes.getD b 0) ((obsL cands dists).getD b 0)
def prefixOkB (cands : List Cand) (dists : List Nat) (bins : List (List (String × Option Nat))) : Bool :=
  (List.range 4).all fun b =>
      ((gotL bins).getD b []).map (·.1) == (((limL cands dists).getD b []).take ((gotL bins).getD b []).length).map (·.name)
def distOkB (cands : List Cand) (dists : List Nat) (bins : List (List (String × Option Nat))) : Bool :=
  (List.range 4).all fun b => (((gotL bins).getD b []).zip ((limL cands dists).getD b [])).all fun (g, c) =>
      match g.2 with | some d => d == c.dist | none => true
def sumOkB (sizes : List Nat) (bins : List (List (String × Option Nat))) : Bool := (nL bins).sum ≤ totalOf sizes
def nofillOkB (cands : List Cand) (sizes dists : List Nat) (nofill : Bool) (bins : List (List (String × Option Nat))) : Bool :=
  !nofill || nL bins == wantL cands sizes dists
def atLeastB (cands : List Cand) (sizes dists : List Nat) (bins : List (List (String × Option Nat))) : Bool :=
  (List.range 4).all fun b => (wantL cands sizes dists).getD b 0 ≤ (nL bins).getD b 0
def fillOkB (cands : List Cand) (sizes dists : List Nat) (nofill : Bool) (bins : List (List (String × Option Nat))) : Bool :=
  nofill || (nL bins).sum == min (totalOf sizes) (obsL cands dists).sum
def extrasL (cands : List Cand) (sizes dists : List Nat) (bins : List (List (String × Option Nat))) :=
  (List.range 4).map fun b => (nL bins).getD b 0 - (wantL cands sizes dists).getD b 0
def evenOkB (cands : List Cand) (sizes dists : List Nat) (nofill : Bool) (bins : List (List (String × Option Nat))) : Bool :=
  nofill || ((List.range 4).filter fun b => (nL bins).getD b 0 < (obsL cands dists).getD b 0).all fun a => (List.range 4).all fun b =>
      (extrasL cands sizes dists bins).getD b 0 ≤ (extrasL cands sizes dists bins).getD a 0 + 1 &&
        (!(b > a) || (extrasL cands sizes dists bins).getD b 0 ≤ (extrasL cands sizes dists bins).getD a 0 ||
          (nL bins).getD a 0 == (obsL cands dists).getD a 0)
def pushOkB (cands : List Cand) (push : Nat) (bins : List (List (String × Option Nat))) : Bool :=
  (List.range 4).all fun b =>
      let cs := (perL cands).getD b []
      let expect := if b = 0 then cands.filter (fun c => c.bin == 0) else
        let ds := ((cs.map (·.dist)).eraseDups).take push
        cs.filter fun c => ds.contains c.dist
      (bins.getD b []).map (·.1) == expect.map (·.name)

theorem checkBins_eq (cands : List Cand) (sizes dists : List Nat) (nofill : Bool) (push : Nat)
    (bins : List (List (String × Option Nat))) :
    checkBins cands sizes dists nofill push bins =
      if push > 0 then (if pushOkB cands push bins then none else some "push-bins-are-not-the-k-nearest-distances")
      else if !prefixOkB cands dists bins then some "a-bin-is-not-a-prefix-of-its-ranked-candidates"
      else if !distOkB cands dists bins then some "reported-distance-is-not-the-number-of-differing-resolved-columns"
      else if !sumOkB sizes bins then some "total-exceeds-the-requested-size"
      else if !nofillOkB cands sizes dists nofill bins then some "no-fill-bin-size-is-not-min(requested,available)"
      else if !atLeastB cands sizes dists bins then some "a-bin-got-fewer-than-min(requested,available)"
      else if !fillOkB cands sizes dists nofill bins then some "fill-did-not-reach-min(total,supply)"
      else if !evenOkB cands sizes dists nofill bins then some "fill-is-not-even"
      else none := rfl

theorem all_range4 (f : Nat → Bool) : (List.range 4).all f = true ↔ ∀ b < 4, f b = true := by
  simp only [List.all_eq_true, List.mem_range]

theorem getD4 (a b c d : Nat) (k : Nat) (hk : k < 4) :
    [a, b, c, d].getD k 0 = if k = 0 then a else if k = 1 then b else if k = 2 then c else d := by
  have : k = 0 ∨ k = 1 ∨ k = 2 ∨ k = 3 := by omega
  rcases this with rfl | rfl | rfl | rfl <;> rfl

theorem perL_getD (cands : List Cand) (b : Nat) (hb : b < 4) : (perL cands).getD b [] = perOf cands b :=
  getD_map_range _ 4 b [] hb

theorem limL_getD (cands : List Cand) (dists : List Nat) (b : Nat) (hb : b < 4) :
    (limL cands dists).getD b [] = limOf cands dists b := by
  rw [limL, getD_map_range _ 4 b [] hb, perL_getD cands b hb]; rfl

theorem gotL_getD (bins : List (List (String × Option Nat))) (b : Nat) (hb : b < 4) :
    (gotL bins).getD b [] = bins.getD b [] := getD_map_range _ 4 b [] hb

theorem nL_eq (bins : List (List (String × Option Nat))) :
    nL bins = (List.range 4).map fun b => (bins.getD b []).length := by
  simp [nL, gotL, List.map_map]

theorem nL_getD (bins : List (List (String × Option Nat))) (b : Nat) (hb : b < 4) :
    (nL bins).getD b 0 = (bins.getD b []).length := by
  rw [nL_eq, getD_map_range _ 4 b 0 hb]

theorem obsL_eq (cands : List Cand) (dists : List Nat) :
    obsL cands dists = (List.range 4).map fun b => (limOf cands dists b).length := by
  simp only [obsL, limL, List.map_map]
  apply List.map_congr_left
  intro b hb
  have hb' : b < 4 := List.mem_range.1 hb
  simp only [Function.comp, perL_getD cands b hb']; rfl

theorem obsL_getD (cands : List Cand) (dists : List Nat) (b : Nat) (hb : b < 4) :
    (obsL cands dists).getD b 0 = (limOf cands dists b).length := by
  rw [obsL_eq, getD_map_range _ 4 b 0 hb]

theorem wantL_getD (cands : List Cand) (sizes dists : List Nat) (b : Nat) (hb : b < 4) :
    (wantL cands sizes dists).getD b 0 = min (sizes.getD b 0) (limOf cands dists b).length := by
  rw [wantL, getD_map_range _ 4 b 0 hb, obsL_getD cands dists b hb]

theorem extrasL_getD (cands : List Cand) (sizes dists : List Nat) (bins : List (List (String × Option Nat))) (b : Nat) (hb : b < 4) :
    (extrasL cands sizes dists bins).getD b 0 =
      (bins.getD b []).length - min (sizes.getD b 0) (limOf cands dists b).length := by
  rw [extrasL, getD_map_range _ 4 b 0 hb, nL_getD bins b hb, wantL_getD cands sizes dists b hb]

/-! ### the model side: the bins of `binsOf` on declarative candidates -/

def dirHitsC (cs : List Cand) (b : Nat) : List UDHit := (cs.filter fun c => c.bin == b).map hitOf

theorem dir_filter (cs : List Cand) (b : Nat) :
    ((cs.map WhichWaySpec.candHit).filter fun c => c.1 == b).map (·.2) = dirHitsC cs b := by
  rw [List.filter_map, List.map_map]; rfl

def ranked (cs : List Cand) (dists : List Nat) (b : Nat) : List UDHit :=
  sortStable udLt ((dirHitsC cs b).filter fun h => h.dist ≤ dists.getD b 0)

theorem per_hits (cs : List Cand) (b : Nat) (hp : cs.Pairwise fun a b => a.idx < b.idx) :
    (perOf cs b).map hitOf = sortStable udLt (dirHitsC cs b) :=
  sortCands_hits _ (hp.sublist List.filter_sublist)

theorem lim_hits (cs : List Cand) (dists : List Nat) (b : Nat) (hp : cs.Pairwise fun a b => a.idx < b.idx) :
    (limOf cs dists b).map hitOf = ranked cs dists b := by
  rw [ranked, ← filter_sortStable Props.C08.udLt_swo, ← per_hits cs b hp, List.filter_map]
  rfl

theorem lim_length (cs : List Cand) (dists : List Nat) (b : Nat) (hp : cs.Pairwise fun a b => a.idx < b.idx) :
    (limOf cs dists b).length = (ranked cs dists b).length := by
  rw [← lim_hits cs dists b hp, List.length_map]

/-- the bounded catchment is the first `K` of the stable sort, also for `K = 0` -/
theorem topKG_eq (K : Nat) (l : List UDHit) : topKG udLt K l = (sortStable udLt l).take K :=
  topK_spec Props.C08.udLt_swo K l

/-- the supplies `balance` is given: the ranked hits of each direction, cut at the total -/
def modelObs (o : TROpts) (cs : List Cand) : List Nat :=
  (List.range 4).map fun b => min (totalOf o.sizes) (ranked cs o.dists b).length

def modelSize (o : TROpts) (cs : List Cand) : List Nat :=
  balance (totalOf o.sizes) o.sizes (modelObs o cs) o.nofill

/-- **the bins without push**: each is a prefix of the ranked, distance-limited hits of its direction -/
theorem binsOf_nopush (o : TROpts) (cs : List Cand) (hp : o.push = 0) (hd : o.sizes.length = 4) :
    WhichWaySpec.binsOf o (cs.map WhichWaySpec.candHit) =
      (List.range 4).map fun b => (ranked cs o.dists b).take (min ((modelSize o cs).getD b 0) (totalOf o.sizes)) := by
  have hlen := balance_length (totalOf o.sizes) o.sizes (modelObs o cs) o.nofill hd
  unfold WhichWaySpec.binsOf
  have hp' : ¬ o.push > 0 := by omega
  simp only [hp', if_false, dir_filter, topKG_eq]
  have hobs : ((List.range 4).map fun dir => (sortStable udLt ((dirHitsC cs dir).filter fun h => h.dist ≤ o.dists.getD dir 0)).take
      (if o.sizes.contains bigN then bigN else o.sizes.sum)).map (·.length) = modelObs o cs := by
    simp only [modelObs, List.map_map, totalOf, ranked]
    apply List.map_congr_left
    intro b _
    simp [List.length_take]
  rw [hobs]
  change (List.zip _ (modelSize o cs)).map _ = _
  obtain ⟨s0, s1, s2, s3, hs⟩ := list4 (modelSize o cs) hlen
  rw [hs]
  -- both sides written out for the four bins; `take s` after `take total` is `take (min s total)`
  simp [List.range, List.range.loop, ranked, totalOf, List.take_take]

/-! ### the sizes: arithmetic of `balance` on supplies cut at the total -/

/-- the facts about the sizes that the checker's size conjuncts need, for requested sizes `sizes`, supplies `L`
(before the cut at the total) and the sizes `n` of the bins (in `size_facts`: what `balance` returns on the supplies
cut at the total, cut again at the total and at the supply) -/
structure SizeFacts (sizes : List Nat) (L : Nat → Nat) (nofill : Bool) (n : Nat → Nat) : Prop where
  sumOk : n 0 + n 1 + n 2 + n 3 ≤ totalOf sizes
  nofillOk : nofill = true → ∀ b < 4, n b = min (sizes.getD b 0) (L b)
  atLeast : ∀ b < 4, min (sizes.getD b 0) (L b) ≤ n b
  le : ∀ b < 4, n b ≤ L b
  fillOk : nofill = false → n 0 + n 1 + n 2 + n 3 = min (totalOf sizes) (L 0 + L 1 + L 2 + L 3)
  evenOk : nofill = false → ∀ a < 4, n a < L a → ∀ b < 4,
    n b - min (sizes.getD b 0) (L b) ≤ n a - min (sizes.getD a 0) (L a) + 1 ∧
    (b ≤ a ∨ n b - min (sizes.getD b 0) (L b) ≤ n a - min (sizes.getD a 0) (L a))

/-- one bin whose supply `L` is cut at the total `T`, the request `d` being within the total unless the supply is
below it: cutting the result `r` again changes nothing, and the fill starts from min(requested, supply) -/
theorem cut_bin (T d L r : Nat) (h1 : min (min T L) d ≤ r) (h2 : r ≤ min T L) (hT : d ≤ T ∨ L < T) :
    min (min r T) L = r ∧ min (min T L) d = min d L := by
  omega

theorem cut_sum (T : Nat) (L : Nat → Nat) :
    min T (min T (L 0) + min T (L 1) + min T (L 2) + min T (L 3)) = min T (L 0 + L 1 + L 2 + L 3) := by
  by_cases h : ∀ k < 4, L k ≤ T
  · rw [Nat.min_eq_right (h 0 (by omega)), Nat.min_eq_right (h 1 (by omega)), Nat.min_eq_right (h 2 (by omega)),
      Nat.min_eq_right (h 3 (by omega))]
  · -- a supply above the total: both sides are the total
    obtain ⟨k, hk⟩ := Classical.not_forall.1 h
    obtain ⟨hk4, hlt⟩ := Classical.not_imp.1 hk
    have h1 := le_sum4 (fun k => min T (L k)) k hk4
    have h2 := le_sum4 L k hk4
    rw [Nat.min_eq_left (Nat.le_of_not_le hlt)] at h1
    rw [Nat.min_eq_left h1, Nat.min_eq_left (Nat.le_trans (Nat.le_of_not_le hlt) h2)]

/-- The sizes are stated as they come out of `binsOf_nopush` through `prefixBins_length`: what `balance` returns, cut
at the total and then at the supply. -/
theorem size_facts (sizes : List Nat) (hd : sizes.length = 4) (L : Nat → Nat) (nofill : Bool)
    (hbig : sizes.contains bigN = true → L 0 + L 1 + L 2 + L 3 < bigN) :
    SizeFacts sizes L nofill fun b =>
      min (min ((balance (totalOf sizes) sizes ((List.range 4).map fun b => min (totalOf sizes) (L b)) nofill).getD b 0)
        (totalOf sizes)) (L b) := by
  -- the total is at most the sum of the requests, and equal to it unless the whole supply is below it
  obtain ⟨hT, hT', hdT⟩ : totalOf sizes ≤ sizes.sum ∧
      (sizes.sum = totalOf sizes ∨ L 0 + L 1 + L 2 + L 3 < totalOf sizes) ∧
      ∀ k < 4, sizes.getD k 0 ≤ totalOf sizes ∨ L k < totalOf sizes := by
    have hds := sum4_eq sizes hd
    rw [totalOf]
    split
    · rename_i hc
      have hL := hbig hc
      exact ⟨le_sum_of_mem _ _ (List.contains_iff_mem.1 hc), Or.inr hL,
        fun k hk => Or.inr (Nat.lt_of_le_of_lt (le_sum4 L k hk) hL)⟩
    · exact ⟨Nat.le_refl _, Or.inl rfl, fun k hk => Or.inl (hds ▸ le_sum4 (fun k => sizes.getD k 0) k hk)⟩
  generalize ho : ((List.range 4).map fun b => min (totalOf sizes) (L b)) = o
  have hog : ∀ k < 4, o.getD k 0 = min (totalOf sizes) (L k) := fun k hk => by rw [← ho, getD_map_range _ 4 k 0 hk]
  have hoL : ∀ k < 4, o.getD k 0 ≤ L k := fun k hk => by rw [hog k hk]; exact Nat.min_le_right _ _
  have hb := balance_bounds (totalOf sizes) sizes o nofill
  -- bin by bin: the cuts of the result change nothing, and the fill starts from min(requested, supply)
  have hbin : ∀ k < 4,
      min (min ((balance (totalOf sizes) sizes o nofill).getD k 0) (totalOf sizes)) (L k) =
        (balance (totalOf sizes) sizes o nofill).getD k 0 ∧
      min (o.getD k 0) (sizes.getD k 0) = min (sizes.getD k 0) (L k) := by
    intro k hk
    have := hb k hk
    rw [hog k hk] at this ⊢
    exact cut_bin _ _ _ _ this.1 this.2 (hdT k hk)
  have hsum := balance_total (totalOf sizes) sizes o nofill hd hT
    (hT'.imp id (Nat.lt_of_le_of_lt (sum4_le (f := fun k => o.getD k 0) hoL)))
  rw [sum4_eq _ (balance_length (totalOf sizes) sizes o nofill hd)] at hsum
  have hnf : nofill = true → ∀ k < 4,
      (balance (totalOf sizes) sizes o nofill).getD k 0 = min (o.getD k 0) (sizes.getD k 0) := by
    intro h; subst h; exact balance_nofill _ sizes o
  have hev := balance_extras (totalOf sizes) sizes o nofill
  generalize balance (totalOf sizes) sizes o nofill = r at *
  obtain ⟨b0, b1, b2, b3⟩ := forall_lt4.1 hbin
  obtain ⟨g0, g1, g2, g3⟩ := forall_lt4.1 hog
  refine ⟨?_, ?_, ?_, ?_, ?_, ?_⟩
  · rw [b0.1, b1.1, b2.1, b3.1]
    exact hsum.1
  · intro h k hk
    rw [(hbin k hk).1, hnf h k hk, (hbin k hk).2]
  · intro k hk
    rw [(hbin k hk).1, ← (hbin k hk).2]
    exact (hb k hk).1
  · intro k hk
    exact Nat.min_le_right _ _
  · intro h
    rw [b0.1, b1.1, b2.1, b3.1, hsum.2 h, g0, g1, g2, g3]
    exact cut_sum _ L
  · intro h a ha hna b hb4
    rw [(hbin a ha).1] at hna ⊢
    rw [(hbin b hb4).1, ← (hbin a ha).2, ← (hbin b hb4).2]
    by_cases hra : r.getD a 0 < o.getD a 0
    · exact hev a b ha hb4 hra
    · -- bin `a` holds its whole cut supply, not its whole supply: that is the total, and the other bins hold nothing
      by_cases hab : a = b
      · subst hab; exact ⟨Nat.le_succ _, Or.inl (Nat.le_refl _)⟩
      · have hrb : r.getD b 0 = 0 := by
          have := two_le_sum4 (fun k => r.getD k 0) a b ha hb4 hab
          have := (hb a ha).2
          have := hog a ha
          have := hsum.1
          omega
        rw [hrb, Nat.zero_sub]
        exact ⟨Nat.zero_le _, Or.inr (Nat.zero_le _)⟩

/-! ### the conjuncts of the checker on the bins of the model (no push) -/

theorem reported_getD (table : Bool) (f : Nat → List UDHit) (b : Nat) (hb : b < 4) :
    (reportedBins table ((List.range 4).map f)).getD b [] = (f b).map (rep table) := by
  rw [reportedBins, List.map_map, getD_map_range _ 4 b [] hb]; rfl

theorem take_length_take {α : Type} (l : List α) (k : Nat) : l.take (l.take k).length = l.take k := by
  rw [List.length_take, ← List.take_take, List.take_length]

def prefixBins (table : Bool) (cs : List Cand) (dists : List Nat) (k : Nat → Nat) : List (List (String × Option Nat)) :=
  reportedBins table ((List.range 4).map fun b => (ranked cs dists b).take (k b))

theorem prefixBins_getD (table : Bool) (cs : List Cand) (dists : List Nat) (k : Nat → Nat)
    (hp : cs.Pairwise fun a b => a.idx < b.idx) (b : Nat) (hb : b < 4) :
    (prefixBins table cs dists k).getD b [] = ((limOf cs dists b).take (k b)).map fun c => rep table (hitOf c) := by
  rw [prefixBins, reported_getD table _ b hb, ← lim_hits cs dists b hp, ← List.map_take, List.map_map]
  rfl

theorem prefixBins_length (table : Bool) (cs : List Cand) (dists : List Nat) (k : Nat → Nat)
    (hp : cs.Pairwise fun a b => a.idx < b.idx) (b : Nat) (hb : b < 4) :
    ((prefixBins table cs dists k).getD b []).length = min (k b) (ranked cs dists b).length := by
  rw [prefixBins_getD table cs dists k hp b hb, List.length_map, List.length_take, lim_length cs dists b hp]

theorem prefixOk (table : Bool) (cs : List Cand) (dists : List Nat) (k : Nat → Nat)
    (hp : cs.Pairwise fun a b => a.idx < b.idx) : prefixOkB cs dists (prefixBins table cs dists k) = true := by
  rw [prefixOkB, all_range4]
  intro b hb
  rw [gotL_getD _ b hb, limL_getD _ _ b hb, prefixBins_getD table cs dists k hp b hb, beq_iff_eq,
    List.length_map, take_length_take, List.map_map]
  rfl

theorem zip_take_all (table : Bool) : ∀ (l : List Cand) (k : Nat),
    (((l.take k).map fun c => rep table (hitOf c)).zip l).all (fun (g, c) =>
      match g.2 with | some d => d == c.dist | none => true) = true := by
  intro l
  induction l with
  | nil => intro k; simp
  | cons c t ih =>
    intro k
    cases k with
    | zero => simp
    | succ k =>
      simp only [List.take_succ_cons, List.map_cons, List.zip_cons_cons, List.all_cons, ih k, Bool.and_true]
      cases table <;> simp [rep, hitOf]

theorem distOk (table : Bool) (cs : List Cand) (dists : List Nat) (k : Nat → Nat)
    (hp : cs.Pairwise fun a b => a.idx < b.idx) : distOkB cs dists (prefixBins table cs dists k) = true := by
  rw [distOkB, all_range4]
  intro b hb
  rw [gotL_getD _ b hb, limL_getD _ _ b hb, prefixBins_getD table cs dists k hp b hb]
  exact zip_take_all table _ _

/-! the size conjuncts follow from `SizeFacts` about the lengths of the reported bins -/

section sizes
variable (cs : List Cand) (sizes dists : List Nat) (nofill : Bool) (bins : List (List (String × Option Nat)))
  (n : Nat → Nat) (hn : ∀ b < 4, (bins.getD b []).length = n b)
  (F : SizeFacts sizes (fun b => (limOf cs dists b).length) nofill n)
include hn F

theorem sumOk_of : sumOkB sizes bins = true := by
  rw [sumOkB, nL_eq, sum_map_range4, hn 0 (by omega), hn 1 (by omega), hn 2 (by omega), hn 3 (by omega)]
  exact decide_eq_true F.sumOk

theorem nofillOk_of : nofillOkB cs sizes dists nofill bins = true := by
  rw [nofillOkB]
  cases hnf : nofill with
  | false => rfl
  | true =>
    simp only [Bool.not_true, Bool.false_or, beq_iff_eq]
    rw [nL_eq, wantL]
    apply List.map_congr_left
    intro b hb
    have hb' : b < 4 := List.mem_range.1 hb
    rw [hn b hb', obsL_getD cs dists b hb']
    exact F.nofillOk hnf b hb'

theorem atLeast_of : atLeastB cs sizes dists bins = true := by
  rw [atLeastB, all_range4]
  intro b hb
  rw [wantL_getD cs sizes dists b hb, nL_getD bins b hb, hn b hb]
  exact decide_eq_true (F.atLeast b hb)

theorem fillOk_of : fillOkB cs sizes dists nofill bins = true := by
  rw [fillOkB]
  cases hnf : nofill with
  | true => rfl
  | false =>
    simp only [Bool.false_or, beq_iff_eq]
    rw [nL_eq, obsL_eq, sum_map_range4, sum_map_range4, hn 0 (by omega), hn 1 (by omega), hn 2 (by omega), hn 3 (by omega)]
    exact F.fillOk hnf

theorem evenOk_of : evenOkB cs sizes dists nofill bins = true := by
  rw [evenOkB]
  cases hnf : nofill with
  | true => rfl
  | false =>
    simp only [Bool.false_or, List.all_eq_true, List.mem_filter, List.mem_range, decide_eq_true_eq, and_imp]
    intro a ha hna b hb
    rw [nL_getD bins a ha, obsL_getD cs dists a ha, hn a ha] at hna
    rw [extrasL_getD cs sizes dists bins b hb, extrasL_getD cs sizes dists bins a ha, hn a ha, hn b hb]
    have := F.evenOk hnf a ha hna b hb
    simp only [Bool.and_eq_true, Bool.or_eq_true, decide_eq_true_eq, Bool.not_eq_true', decide_eq_false_iff_not, beq_iff_eq]
    refine ⟨this.1, ?_⟩
    rcases this.2 with h | h
    · left; left; omega
    · left; right; exact h

end sizes

theorem take_eraseDups_asc (l : List Nat) : l.Pairwise (· ≤ ·) → ∀ (k d : Nat), d ∈ l →
    (d ∈ l.eraseDups.take k ↔ ((l.eraseDups).filter (fun x => decide (x < d))).length < k) := by
  induction l using eraseDups_induction with
  | nil => intro _ k d hd; cases hd
  | cons a t ih =>
    intro hasc k d hd
    have hat : ∀ x ∈ t, a ≤ x := (List.pairwise_cons.1 hasc).1
    have hsub : (t.filter fun b => !b == a).Pairwise (· ≤ ·) :=
      List.Pairwise.sublist List.filter_sublist (List.pairwise_cons.1 hasc).2
    have hgt : ∀ x ∈ (t.filter fun b => !b == a).eraseDups, a < x := by
      intro x hx
      rw [List.mem_eraseDups, List.mem_filter] at hx
      have h1 := hat x hx.1
      have h2 : x ≠ a := by simpa using hx.2
      omega
    rw [List.eraseDups_cons]
    cases k with
    | zero => simp
    | succ k =>
      rw [List.take_succ_cons, List.mem_cons, List.filter_cons]
      by_cases hda : d = a
      · subst hda
        have hnil : ((t.filter fun b => !b == d).eraseDups).filter (fun x => decide (x < d)) = [] := by
          rw [List.filter_eq_nil_iff]
          intro x hx
          have := hgt x hx
          simp; omega
        simp [hnil]
      · have hdt : d ∈ t := (List.mem_cons.1 hd).resolve_left hda
        have hdt' : d ∈ t.filter fun b => !b == a := by
          rw [List.mem_filter]; exact ⟨hdt, by simpa using hda⟩
        have had : a < d := by have := hat d hdt; omega
        simp only [hda, false_or, had, decide_true, if_true, List.length_cons]
        rw [ih hsub k d hdt']
        omega

theorem kept_sorted (S : List UDHit) (hs : Sorted udLt S) (k : Nat) (h : UDHit) (hh : h ∈ S) :
    (((S.map (·.dist)).eraseDups).take k).contains h.dist = PushBins.kept k S h.dist := by
  have hasc : (S.map (·.dist)).Pairwise (· ≤ ·) := by
    rw [List.pairwise_map]
    apply hs.imp
    intro a b hab
    simp [udLt] at hab
    omega
  have hmem : h.dist ∈ S.map (·.dist) := List.mem_map.2 ⟨h, hh, rfl⟩
  have := take_eraseDups_asc _ hasc k h.dist hmem
  rw [Bool.eq_iff_iff, List.contains_iff_mem, this, PushBins.kept, decide_eq_true_eq, PushBins.smallerCount_eq]
  rfl

theorem binsOf_push (o : TROpts) (cs : List Cand) (hp : 0 < o.push) :
    WhichWaySpec.binsOf o (cs.map WhichWaySpec.candHit) = (List.range 4).map fun b =>
      if b = 0 then dirHitsC cs 0
      else sortStable udLt ((dirHitsC cs b).filter fun h => PushBins.kept o.push (dirHitsC cs b) h.dist) := by
  rw [PushBins.binsOf_kept o _ hp]
  simp only [dir_filter]
  apply List.map_congr_left
  intro b _
  split
  · rename_i hb; rw [hb]
  · rfl

/-- **the push conjunct** — `same` lists every identical candidate in file order, the other bins every candidate at
the `push` smallest occurring distances, ranked -/
theorem pushOk (table : Bool) (o : TROpts) (cs : List Cand) (hp : 0 < o.push)
    (hi : cs.Pairwise fun a b => a.idx < b.idx) :
    pushOkB cs o.push (reportedBins table (WhichWaySpec.binsOf o (cs.map WhichWaySpec.candHit))) = true := by
  rw [pushOkB, all_range4, binsOf_push o cs hp]
  intro b hb
  rw [reported_getD table _ b hb, perL_getD cs b hb, beq_iff_eq, List.map_map]
  by_cases hb0 : b = 0
  · subst hb0
    simp only [if_true, dirHitsC, List.map_map]
    rfl
  · simp only [hb0, if_false]
    have hS := per_hits cs b hi
    rw [← filter_sortStable Props.C08.udLt_swo, ← hS, List.filter_map, List.map_map]
    have hcong : (perOf cs b).filter ((fun h => PushBins.kept o.push (dirHitsC cs b) h.dist) ∘ hitOf) =
        (perOf cs b).filter fun c => (((perOf cs b).map (·.dist)).eraseDups.take o.push).contains c.dist := by
      apply List.filter_congr
      intro c hc
      have hsorted : Sorted udLt ((perOf cs b).map hitOf) := by rw [hS]; exact sorted_sortStable Props.C08.udLt_swo _
      have hk := kept_sorted _ hsorted o.push (hitOf c) (List.mem_map.2 ⟨c, hc, rfl⟩)
      rw [List.map_map] at hk
      have hperm : ((perOf cs b).map hitOf).Perm (dirHitsC cs b) := by rw [hS]; exact sortStable_perm _
      rw [PushBins.kept_perm hperm] at hk
      exact hk.symm
    rw [hcong]
    rfl

/-! ### the model passes the checker -/

theorem filter_bins_length (cs : List Cand) :
    (cs.filter fun c => c.bin == 0).length + (cs.filter fun c => c.bin == 1).length +
      (cs.filter fun c => c.bin == 2).length + (cs.filter fun c => c.bin == 3).length ≤ cs.length := by
  induction cs with
  | nil => simp
  | cons c t ih =>
    simp only [List.filter_cons, List.length_cons]
    by_cases h0 : c.bin = 0
    · simp [h0]; omega
    · by_cases h1 : c.bin = 1
      · simp [h1]; omega
      · by_cases h2 : c.bin = 2
        · simp [h2]; omega
        · by_cases h3 : c.bin = 3
          · simp [h3]; omega
          · simp [h0, h1, h2, h3]; omega

theorem ranked_length_le (cs : List Cand) (dists : List Nat) (b : Nat) :
    (ranked cs dists b).length ≤ (cs.filter fun c => c.bin == b).length := by
  rw [ranked, length_sortStable, dirHitsC]
  have := List.length_filter_le (fun h : UDHit => decide (h.dist ≤ dists.getD b 0)) ((cs.filter fun c => c.bin == b).map hitOf)
  rw [List.length_map] at this
  exact this

theorem model_sizeFacts (o : TROpts) (cs : List Cand) (hd : o.sizes.length = 4)
    (hi : cs.Pairwise fun a b => a.idx < b.idx) (hbig : o.sizes.contains bigN = true → cs.length < bigN) :
    SizeFacts o.sizes (fun b => (limOf cs o.dists b).length) o.nofill
      fun b => min (min ((modelSize o cs).getD b 0) (totalOf o.sizes)) (ranked cs o.dists b).length := by
  have hL : (fun b => (limOf cs o.dists b).length) = fun b => (ranked cs o.dists b).length := by
    funext b; exact lim_length cs o.dists b hi
  rw [hL]
  apply size_facts o.sizes hd (fun b => (ranked cs o.dists b).length) o.nofill
  intro hc
  have := hbig hc
  have h0 := ranked_length_le cs o.dists 0
  have h1 := ranked_length_le cs o.dists 1
  have h2 := ranked_length_le cs o.dists 2
  have h3 := ranked_length_le cs o.dists 3
  have := filter_bins_length cs
  show (ranked cs o.dists 0).length + (ranked cs o.dists 1).length + (ranked cs o.dists 2).length +
    (ranked cs o.dists 3).length < bigN
  omega

theorem model_bins (table : Bool) (o : TROpts) (cs : List Cand) (hp : o.push = 0) (hd : o.sizes.length = 4) :
    reportedBins table (WhichWaySpec.binsOf o (cs.map WhichWaySpec.candHit)) =
      prefixBins table cs o.dists fun b => min ((modelSize o cs).getD b 0) (totalOf o.sizes) := by
  rw [binsOf_nopush o cs hp hd]; rfl

/-- **what the checker accepts without push**: prefixes of the ranked, limited hits of every direction whose lengths
satisfy `SizeFacts`, in either printed form -/
theorem checkBins_prefixBins (table : Bool) (cs : List Cand) (sizes dists : List Nat) (nofill : Bool) (k : Nat → Nat)
    (hi : cs.Pairwise fun a b => a.idx < b.idx)
    (F : SizeFacts sizes (fun b => (limOf cs dists b).length) nofill fun b => min (k b) (ranked cs dists b).length) :
    checkBins cs sizes dists nofill 0 (prefixBins table cs dists k) = none := by
  have hn := prefixBins_length table cs dists k hi
  rw [checkBins_eq, if_neg (Nat.lt_irrefl 0), prefixOk table cs dists k hi, distOk table cs dists k hi,
    sumOk_of cs sizes dists nofill _ _ hn F, nofillOk_of cs sizes dists nofill _ _ hn F,
    atLeast_of cs sizes dists nofill _ _ hn F, fillOk_of cs sizes dists nofill _ _ hn F,
    evenOk_of cs sizes dists nofill _ _ hn F]
  rfl

theorem checkBins_binsOf (table : Bool) (o : TROpts) (cs : List Cand) (hd : o.sizes.length = 4)
    (hi : cs.Pairwise fun a b => a.idx < b.idx) (hbig : o.sizes.contains bigN = true → cs.length < bigN) :
    checkBins cs o.sizes o.dists o.nofill o.push
      (reportedBins table (WhichWaySpec.binsOf o (cs.map WhichWaySpec.candHit))) = none := by
  by_cases hp : o.push > 0
  · rw [checkBins_eq, if_pos hp, pushOk table o cs hp hi]; rfl
  · have hp0 : o.push = 0 := by omega
    rw [model_bins table o cs hp0 hd, hp0]
    exact checkBins_prefixBins table cs o.sizes o.dists o.nofill _ hi (model_sizeFacts o cs hd hi hbig)

theorem specCand_idx (ref q : List Nat) (n d tt : Nat) (ig : List String) (x : (String × List Nat) × Nat) (c : Cand)
    (h : WhichWaySpec.specCand ref q n d tt ig x = some c) : c.idx = x.2 := by
  unfold WhichWaySpec.specCand at h
  simp only at h
  split at h
  · cases h
  · split at h
    · cases h
    · cases h; rfl

theorem candidates_idx (ref q : List Nat) (ts : List (String × List Nat)) (n d tt : Nat) (ig : List String) :
    (candidates ref q ts n d tt ig).Pairwise fun a b => a.idx < b.idx := by
  rw [WhichWaySpec.candidates_eq]
  refine (pairwise_snd_zip_range ts).filterMap _ fun x y hxy c hc c' hc' => ?_
  rw [specCand_idx ref q n d tt ig x c hc, specCand_idx ref q n d tt ig y c' hc']
  exact hxy

theorem candidates_length_le (ref q : List Nat) (ts : List (String × List Nat)) (n d tt : Nat) (ig : List String) :
    (candidates ref q ts n d tt ig).length ≤ ts.length := by
  rw [WhichWaySpec.candidates_eq]
  have := List.length_filterMap_le (WhichWaySpec.specCand ref q n d tt ig) (ts.zip (List.range ts.length))
  simp only [List.length_zip, List.length_range, Nat.min_self] at this
  exact this

/-- **the closing theorem** — the model passes its own specification checker: for an A/C/G/T reference, a query and
targets of the reference's length over the accepted alphabet, four requested sizes, and fewer than 2^31 - 1 targets
when some size is unlimited, the checker accepts, against the declarative candidates computed from the sequences,
the four bins that `topRankingQuery` computes from the `updown list` rows, read back from either printed form -/
theorem model_passes_checker (table : Bool) (o : TROpts) (idq : String) (ref q : List Nat) (ts : List (String × List Nat))
    (hq : ref.length = q.length) (ht : ∀ x ∈ ts, ref.length = x.2.length) (hacgt : ∀ r ∈ ref, isACGT r = true)
    (hr : Props.C10.Accepted ref) (haq : Props.C10.Accepted q) (hat : ∀ x ∈ ts, Props.C10.Accepted x.2)
    (hd : o.sizes.length = 4) (hbig : o.sizes.contains bigN = true → ts.length < bigN) :
    checkBins (candidates ref q ts o.thrNum o.thrDen o.threshTarg o.ignore) o.sizes o.dists o.nofill o.push
      (reportedBins table (topRankingQuery o (getLine idq (ref.map (enc false)) (q.map (enc false)))
        (ts.map fun x => getLine x.1 (ref.map (enc false)) (x.2.map (enc false))))) = none := by
  rw [WhichWaySpec.topRankingQuery_getLine o idq ref q ts hq ht hacgt hr haq hat]
  apply checkBins_binsOf table o _ hd (candidates_idx ref q ts _ _ _ _)
  intro hc
  have := candidates_length_le ref q ts o.thrNum o.thrDen o.threshTarg o.ignore
  have := hbig hc
  omega

theorem udCheckArgs_length (a b c d e f g h i j : Int) (sz ds : List Nat)
    (hk : udCheckArgs a b c d e f g h i j = some (sz, ds)) : sz.length = 4 ∧ ds.length = 4 := by
  unfold udCheckArgs at hk
  simp only [Option.ite_none_left_eq_some, Option.some.injEq, Prod.mk.injEq] at hk
  obtain ⟨-, -, rfl, rfl⟩ := hk
  constructor
  · split
    · rfl
    · split <;> rfl
  · split
    · rfl
    · split <;> rfl

def optsOf (sz ds : List Nat) (nofill : Bool) (thrNum thrDen threshTarg push : Nat) (ignore : List String) : TROpts :=
  TROpts.mk sz ds nofill thrNum thrDen threshTarg push ignore

/-- **the closing theorem for every option set the command accepts** — whatever `udCheckArgs` accepts (any mix of
size-total, per-bin sizes with -1 for unlimited, dist-all, per-bin distances, dist-push), any no-fill, thresholds,
ignore list: the model's bins pass the checker. Fewer than 2^31 - 1 targets are asked for outright here, and `push` is
any number: the driver passes `distpush.toNat` (Driver/C08), which the statement does not ask for -/
theorem model_passes_checker_args (table : Bool) (sizetotal sizeup sizedown sizeside sizesame : Int)
    (distall distup distdown distside distpush : Int) (sz ds : List Nat)
    (hk : udCheckArgs sizetotal sizeup sizedown sizeside sizesame distall distup distdown distside distpush = some (sz, ds))
    (nofill : Bool) (thrNum thrDen threshTarg push : Nat) (ignore : List String)
    (idq : String) (ref q : List Nat) (ts : List (String × List Nat))
    (hq : ref.length = q.length) (ht : ∀ x ∈ ts, ref.length = x.2.length) (hacgt : ∀ r ∈ ref, isACGT r = true)
    (hr : Props.C10.Accepted ref) (haq : Props.C10.Accepted q) (hat : ∀ x ∈ ts, Props.C10.Accepted x.2)
    (hbig : ts.length < bigN) :
    checkBins (candidates ref q ts thrNum thrDen threshTarg ignore) sz ds nofill push
      (reportedBins table (topRankingQuery (optsOf sz ds nofill thrNum thrDen threshTarg push ignore)
        (getLine idq (ref.map (enc false)) (q.map (enc false)))
        (ts.map fun x => getLine x.1 (ref.map (enc false)) (x.2.map (enc false))))) = none :=
  model_passes_checker table (optsOf sz ds nofill thrNum thrDen threshTarg push ignore) idq ref q ts hq ht hacgt hr haq hat
    (udCheckArgs_length _ _ _ _ _ _ _ _ _ _ sz ds hk).1 (fun _ => hbig)

/-! ### the hypotheses are needed; non-vacuity -/

abbrev sb (s : String) : List Nat := stringToBytes s

def verdict (table : Bool) (o : TROpts) (ref q : String) (ts : List (String × String)) : Option String :=
  checkBins (candidates (sb ref) (sb q) (ts.map fun x => (x.1, sb x.2)) o.thrNum o.thrDen o.threshTarg o.ignore)
    o.sizes o.dists o.nofill o.push
    (reportedBins table (topRankingQuery o (getLine "q" ((sb ref).map (enc false)) ((sb q).map (enc false)))
      ((ts.map fun x => (x.1, sb x.2)).map fun x => getLine x.1 ((sb ref).map (enc false)) (x.2.map (enc false)))))

def allBig : List Nat := [bigN, bigN, bigN, bigN]

/-- **the reference must be A/C/G/T** — reference ARC, query CRT, target RGC, threshold 1/2: the rows see one
consequential ambiguous site out of two (kept: the target is reported `up` at distance 1), the checker, which compares
letters, counts the target's G under the reference's R as well, two out of three (dropped): the checker rejects the
model's bins -/
example : verdict true (TROpts.mk allBig allBig false 1 2 100 0 []) "ARC" "CRT" [("t", "RGC")] =
    some "a-bin-is-not-a-prefix-of-its-ranked-candidates" := by decide +kernel

/-- **rows of the reference's length** — a query shorter than reference and target: the rows still see the target's
differences beyond the query's end -/
example : verdict true (TROpts.mk allBig allBig false 1 2 100 0 []) "GGTG" "RG" [("t", "N-AC")] =
    some "a-bin-is-not-a-prefix-of-its-ranked-candidates" := by decide +kernel

/-- non-vacuity: repeated target names, a target equal to the query, an ignored name, an ambiguous target, fill from a
short bin, both printed forms -/
example :
    let ts := [("a", "ACGTAC"), ("a", "ACGTAA"), ("b", "TCGTAC"), ("a", "TCGAAC"), ("c", "ACNTAC"), ("x", "ACGTAC"),
      ("b", "ACGTCC"), ("d", "CCGTCA"), ("d", "ACGTTT")]
    verdict true (TROpts.mk [1, 1, 1, 1] allBig false 1 2 100 0 ["x"]) "ACGTAA" "ACGTAC" ts = none ∧
    verdict false (TROpts.mk [1, 1, 1, 1] allBig false 1 2 100 0 ["x"]) "ACGTAA" "ACGTAC" ts = none ∧
    verdict true (TROpts.mk [2, 0, 3, 0] [0, 1, 1, 1] true 1 2 0 0 ["x"]) "ACGTAA" "ACGTAC" ts = none ∧
    verdict true (TROpts.mk allBig allBig false 0 1 100 2 []) "ACGTAA" "ACGTAC" ts = none := by decide +kernel

/-- a short bin is filled from the others: three identical targets requested, two available (one ignored), the
spare place goes to `down`, the first bin in turn with a spare candidate -/
example :
    let ts := [("a", "ACGTAC"), ("a", "ACGTAA"), ("b", "TCGTAC"), ("a", "TCGAAC"), ("c", "ACNTAC"), ("x", "ACGTAC"),
      ("b", "ACGTCC"), ("d", "CCGTCA"), ("d", "ACGTTT"), ("e", "ACGTAG")]
    let o := TROpts.mk [3, 1, 1, 1] allBig false 1 2 100 0 ["x"]
    (topRankingQuery o (getLine "q" ((sb "ACGTAA").map (enc false)) ((sb "ACGTAC").map (enc false)))
      ((ts.map fun x => (x.1, sb x.2)).map fun x => getLine x.1 ((sb "ACGTAA").map (enc false)) (x.2.map (enc false)))).map
        (·.map (·.name)) = [["a", "c"], ["a"], ["b", "b"], ["e"]] ∧
    verdict true o "ACGTAA" "ACGTAC" ts = none := by decide +kernel

/-- **fewer than 2^31 - 1 candidates when a size is unlimited** — with requested sizes (-1, 5, 0, 0), i.e.
(2^31 - 1, 5, 0, 0), and as many candidates, `balance` returns the request, five more than the total 2^31 - 1 that
the checker (and `balance` itself) takes for the total: `size_facts` fails without its last hypothesis -/
example : balance (totalOf [bigN, 5, 0, 0]) [bigN, 5, 0, 0]
      ((List.range 4).map fun b => min (totalOf [bigN, 5, 0, 0]) ([bigN, 5, 0, 0].getD b 0)) false = [bigN, 5, 0, 0] ∧
    ¬ (bigN + 5 + 0 + 0 ≤ totalOf [bigN, 5, 0, 0]) := by decide

end Gofasta.Lemmas.TopRankingSpec
