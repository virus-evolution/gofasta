import Gofasta.Model.Pipeline
/-
A destination that may fail and the writer's view of it, shared by every model of C19 at goroutine level (the
streaming writer of Lemmas/SchedFaultWriter, the aggregating writer of Lemmas/SchedAggWriter, the write stage after
the fan-in of Lemmas/FanoutFaults):
`Dest` says which write calls (numbered from 1) are refused, `Sink` is what a writer that CHECKS every call knows
(text accepted, calls made, failed), `SinkInv` characterises the sink after a list of calls.  The three statements of
C19 are, for a run whose calls are `cs`: `sink_fails` (a fault at one of them is seen), `SinkInv.good` (no failure
means all of the text, in `cs.length` calls), `sink_text_take` (the accepted text is `cs` cut at a call boundary).
Then the sink against the call-list model `Model.Writer.run` that Props/C19 is about (`sink_eq_reportsFailure`), and
`Unchecked.putC`, a call site that may drop its error ((4) of Lemmas/SchedFaultWriter).
-/
set_option autoImplicit false

-- the namespace is that of Lemmas/SchedFaults: the full names of `Dest`, `Sink` and their lemmas are fixed
namespace Gofasta.Lemmas.SchedFaults
open Gofasta Gofasta.Model

/-- the output destination: which write calls (numbered from 1) it refuses -/
inductive Dest where
  | failFrom (k : Nat)    -- every call from the k-th on fails (disk full, closed pipe)
  | failOnce (k : Nat)    -- only the k-th call fails (a transient fault)
  | ok
  deriving DecidableEq, Repr

def Dest.fails : Dest → Nat → Bool
  | .failFrom k, i => decide (k ≤ i)
  | .failOnce k, i => decide (i = k)
  | .ok, _ => false

theorem Dest.fails_failFrom (k : Nat) : (Dest.failFrom k).fails k = true := decide_eq_true (Nat.le_refl k)
theorem Dest.fails_failOnce (k : Nat) : (Dest.failOnce k).fails k = true := decide_eq_true rfl
theorem Dest.fails_ok (i : Nat) : Dest.ok.fails i = false := rfl
theorem Dest.fails_failFrom_lt {k i : Nat} (h : i < k) : (Dest.failFrom k).fails i = false :=
  decide_eq_false (Nat.not_le_of_lt h)
theorem Dest.fails_failOnce_ne {k i : Nat} (h : i ≠ k) : (Dest.failOnce k).fails i = false := decide_eq_false h

theorem Dest.fails_of_at {d : Dest} {k : Nat} (hd : d = .failFrom k ∨ d = .failOnce k) : d.fails k = true := by
  rcases hd with rfl | rfl
  · exact Dest.fails_failFrom k
  · exact Dest.fails_failOnce k

/-- what the writer goroutine knows about its destination: the text accepted so far, the number of write calls
made so far (the failed one included), whether a (checked) call has failed -/
structure Sink where
  text : String
  calls : Nat
  failed : Bool
  deriving DecidableEq, Repr

def Sink.empty : Sink := ⟨"", 0, false⟩

/-- one CHECKED write call `_, err := w.Write(c); if err != nil { cErr <- err; return }`: after a failure no
further call is made; a failing call leaves nothing at the destination -/
def Sink.put (d : Dest) (s : Sink) (c : String) : Sink :=
  if s.failed then s
  else if d.fails (s.calls + 1) then ⟨s.text, s.calls + 1, true⟩
  else ⟨s.text ++ c, s.calls + 1, false⟩

def Sink.putAll (d : Dest) (s : Sink) (cs : List String) : Sink := cs.foldl (Sink.put d) s

theorem Sink.putAll_append (d : Dest) (s : Sink) (a b : List String) :
    Sink.putAll d s (a ++ b) = Sink.putAll d (Sink.putAll d s a) b :=
  List.foldl_append

theorem foldl_putAll {β : Type} (d : Dest) (chunks : β → List String) : ∀ (ys : List β) (s : Sink),
    ys.foldl (fun s y => Sink.putAll d s (chunks y)) s = Sink.putAll d s (ys.flatMap chunks) := by
  intro ys
  induction ys with
  | nil => intro s; rfl
  | cons y t ih => intro s; simp only [List.foldl_cons, List.flatMap_cons, ih, Sink.putAll_append]

theorem put_header_failed {d : Dest} (header : String) (hd : d.fails 1 = true) :
    Sink.put d Sink.empty header = ⟨"", 1, true⟩ := by
  simp [Sink.put, Sink.empty, hd]

theorem join_singleton (x : String) : String.join [x] = x := by
  rw [String.join_cons, String.join_nil, String.append_empty]

structure SinkInv (d : Dest) (s : Sink) (cs : List String) : Prop where
  good : s.failed = false → s.text = String.join cs ∧ s.calls = cs.length ∧
    ∀ i, 1 ≤ i → i ≤ cs.length → d.fails i = false
  bad : s.failed = true → 1 ≤ s.calls ∧ s.calls ≤ cs.length ∧ d.fails s.calls = true ∧
    s.text = String.join (cs.take (s.calls - 1)) ∧ ∀ i, 1 ≤ i → i < s.calls → d.fails i = false

theorem sinkInv_empty (d : Dest) : SinkInv d Sink.empty [] :=
  ⟨fun _ => ⟨rfl, rfl, fun _ h1 h2 => absurd (Nat.le_trans h1 h2) (by decide)⟩, fun h => nomatch h⟩

theorem sinkInv_put {d : Dest} {s : Sink} {cs : List String} (h : SinkInv d s cs) (c : String) :
    SinkInv d (Sink.put d s c) (cs ++ [c]) := by
  unfold Sink.put
  cases hf : s.failed with
  | true =>
    obtain ⟨h1, h2, h3, h4, h5⟩ := h.bad hf
    rw [if_pos rfl]
    refine ⟨fun hc => (nomatch hf.symm.trans hc), fun _ => ⟨h1, ?_, h3, ?_, h5⟩⟩
    · rw [List.length_append]; exact Nat.le_add_right_of_le h2
    · rw [List.take_append_of_le_length (Nat.le_trans (Nat.sub_le _ _) h2)]; exact h4
  | false =>
    obtain ⟨h1, h2, h3⟩ := h.good hf
    rw [if_neg Bool.false_ne_true]
    cases hd : d.fails (s.calls + 1) with
    | true =>
      -- this call fails: the text stays, all of `cs`
      rw [if_pos rfl]
      refine ⟨fun hc => (nomatch hc), fun _ => ⟨Nat.le_add_left 1 _, ?_, hd, ?_, fun i hi1 hi2 => ?_⟩⟩
      · rw [List.length_append, h2]; exact Nat.le_refl _
      · rw [Nat.add_sub_cancel, List.take_left' h2.symm]; exact h1
      · exact h3 i hi1 (h2 ▸ Nat.le_of_lt_succ hi2)
    | false =>
      rw [if_neg Bool.false_ne_true]
      refine ⟨fun _ => ⟨?_, ?_, fun i hi1 hi2 => ?_⟩, fun hc => nomatch hc⟩
      · rw [String.join_append, h1, join_singleton]
      · rw [List.length_append, h2]; rfl
      · rw [List.length_append] at hi2
        rcases Nat.lt_or_eq_of_le hi2 with hlt | heq
        · exact h3 i hi1 (Nat.le_of_lt_succ hlt)
        · rw [heq, ← h2]; exact hd

theorem sinkInv_putAll {d : Dest} : ∀ (cs' : List String) {s : Sink} {cs : List String}, SinkInv d s cs →
    SinkInv d (Sink.putAll d s cs') (cs ++ cs')
  | [], _, _, h => by rw [List.append_nil]; exact h
  | c :: t, _, cs, h => by
    rw [← List.singleton_append, ← List.append_assoc]
    exact sinkInv_putAll t (sinkInv_put h c)

theorem sinkInv_all (d : Dest) (cs : List String) : SinkInv d (Sink.putAll d Sink.empty cs) cs := by
  simpa using sinkInv_putAll cs (sinkInv_empty d)

theorem sink_text_take (d : Dest) (cs : List String) :
    ∃ j, j ≤ cs.length ∧ (Sink.putAll d Sink.empty cs).text = String.join (cs.take j) := by
  have h := sinkInv_all d cs
  cases hf : (Sink.putAll d Sink.empty cs).failed with
  | false => exact ⟨cs.length, Nat.le_refl _, by rw [List.take_length]; exact (h.good hf).1⟩
  | true =>
    obtain ⟨_, h2, _, h4, _⟩ := h.bad hf
    exact ⟨_, Nat.le_trans (Nat.sub_le _ _) h2, h4⟩

theorem sink_fails (d : Dest) (cs : List String) (k : Nat) (hk1 : 1 ≤ k) (hk : k ≤ cs.length)
    (hd : d.fails k = true) : (Sink.putAll d Sink.empty cs).failed = true := by
  cases hf : (Sink.putAll d Sink.empty cs).failed with
  | true => rfl
  | false => exact nomatch hd.symm.trans (((sinkInv_all d cs).good hf).2.2 k hk1 hk)

/-! ### the sink against the call-list model `Model.Writer.run` of Model/Pipeline, the one Props/C19 is about -/

theorem Sink.putAll_of_failed (d : Dest) : ∀ (cs : List String) (s : Sink), s.failed = true → Sink.putAll d s cs = s
  | [], _, _ => rfl
  | c :: t, s, h => by
    rw [Sink.putAll, List.foldl_cons, Sink.put, if_pos h]
    exact Sink.putAll_of_failed d t s h

theorem sink_eq_writer_run (k : Nat) : ∀ (cs : List String) (s : Sink), s.failed = false →
    (Sink.putAll (.failFrom k) s cs).failed = Writer.run (cs.map fun _ => true) k s.calls
  | [], _, h => h
  | c :: t, s, h => by
    rw [Sink.putAll, List.foldl_cons, List.map_cons, Writer.run, Sink.put, if_neg (h ▸ Bool.false_ne_true)]
    simp only [Dest.fails, decide_eq_true_eq, and_true, ge_iff_le]
    split
    · exact congrArg Sink.failed (Sink.putAll_of_failed _ t ⟨_, _, true⟩ rfl)
    · exact sink_eq_writer_run k t _ rfl

/-- a run of checked calls to a destination that fails from call k on: the sink's `failed` flag is
`Model.Writer.reportsFailure` of Model/Pipeline (so `Props.C19.reports_every_fault` is `sink_fails` for `failFrom`) -/
theorem sink_eq_reportsFailure (k : Nat) (cs : List String) :
    (Sink.putAll (.failFrom k) Sink.empty cs).failed = Writer.reportsFailure (cs.map fun _ => true) k :=
  sink_eq_writer_run k cs Sink.empty rfl

namespace Unchecked

/-- a write call at a site that checks its error (`chk = true`: as `Sink.put`) or drops it (`chk = false`:
`w.Write(c)` with the result ignored - the call is made, fails, nothing reaches the destination, the writer goes on) -/
def putC (d : Dest) (chk : Bool) (s : Sink) (c : String) : Sink :=
  if s.failed then s
  else if d.fails (s.calls + 1) then ⟨s.text, s.calls + 1, chk⟩
  else ⟨s.text ++ c, s.calls + 1, false⟩

/-- the chunks of one record, written at the call sites j, j+1, ... of the loop body; `sites j`: site j checks -/
def putSites (d : Dest) (sites : Nat → Bool) : Nat → Sink → List String → Sink
  | _, s, [] => s
  | j, s, c :: cs => putSites d sites (j + 1) (putC d (sites j) s c) cs

theorem putC_true (d : Dest) (s : Sink) (c : String) : putC d true s c = Sink.put d s c := rfl

theorem putSites_checked (d : Dest) : ∀ (cs : List String) (j : Nat) (s : Sink),
    putSites d (fun _ => true) j s cs = Sink.putAll d s cs := by
  intro cs
  induction cs with
  | nil => intro j s; rfl
  | cons c t ih => intro j s; simp only [putSites, ih, putC_true]; rfl

end Unchecked

end Gofasta.Lemmas.SchedFaults
