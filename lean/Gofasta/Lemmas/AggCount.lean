import Gofasta.Lemmas.AggVariants
/-
C13 for `variants --aggregate` (and `sam variants --aggregate`, which feeds the same writer): the table lists each
distinct mutation once, with count = number of query sequences whose per-sequence output contains it, total = number
of query sequences (the record named like the reference excluded), keeps exactly the entries with
count/total ≥ thrNum/thrDen, and is ordered by genomic position.
-/
namespace Gofasta.Lemmas.AggCount
open Gofasta Model Gofasta.Lemmas.AggVariants

def qrows (refID : String) (rows : List (String × List Variant)) : List (String × List Variant) :=
  rows.filter fun r => r.1 != refID

/-- the denominator of every frequency -/
def total (refID : String) (rows : List (String × List Variant)) : Nat := (qrows refID rows).length

def rowKeys (a : Bool) (s e : Int) (r : String × List Variant) : List AggKey :=
  (r.2.filter (inWindow s e)).map (aggKeyOf a)

/-- the per-sequence output of one row as a list of strings (what `variantsLine` joins with a bar) -/
def seqMuts (a : Bool) (s e : Int) (r : String × List Variant) : List String :=
  (r.2.filter (inWindow s e)).map (formatVariant a)

theorem variantsLine_eq (a : Bool) (s e : Int) (r : String × List Variant) :
    variantsLine a s e r.1 r.2 = r.1 ++ "," ++ joinWith "|" (seqMuts a s e r) ++ "\n" := rfl

theorem variantsOutput_eq (a : Bool) (s e : Int) (refID : String) (rows : List (String × List Variant)) :
    variantsOutput a s e refID rows = "query,mutations\n" ++ String.join ((qrows refID rows).map fun r =>
      r.1 ++ "," ++ joinWith "|" (seqMuts a s e r) ++ "\n") := rfl

theorem aggKeys_eq (a : Bool) (s e : Int) (refID : String) (rows : List (String × List Variant)) :
    aggKeys a s e refID rows = (qrows refID rows).flatMap (rowKeys a s e) := rfl

theorem seqMuts_eq (a : Bool) (s e : Int) (r : String × List Variant) :
    seqMuts a s e r = (rowKeys a s e r).map (·.rep) := by
  unfold seqMuts rowKeys
  rw [List.map_map]
  rfl

def rowCount (a : Bool) (s e : Int) (refID : String) (rows : List (String × List Variant)) (k : AggKey) : Nat :=
  ((qrows refID rows).filter fun r => (rowKeys a s e r).contains k).length

def seqCount (a : Bool) (s e : Int) (refID : String) (rows : List (String × List Variant)) (m : String) : Nat :=
  ((qrows refID rows).filter fun r => (seqMuts a s e r).contains m).length

/-- **C13** (variants) — the count stored for a key after the two nested folds of `variantsAggregate` is the number of
occurrences of the key among the window-filtered, `snps`-erased records of all query rows. No hypothesis. -/
theorem agg_count (a : Bool) (s e : Int) (refID : String) (rows : List (String × List Variant)) (k : AggKey) :
    cnt k (aggCounts a s e refID rows) = (aggKeys a s e refID rows).count k :=
  cnt_insAll_nil k _

/-- the same, stated on the fold as it is written in `variantsAggregate` -/
theorem agg_count_fold (a : Bool) (s e : Int) (refID : String) (rows : List (String × List Variant)) (k : AggKey) :
    cnt k ((rows.filter fun r => r.1 != refID).foldl (fun m r => (r.2.filter (inWindow s e)).foldl (fun m v =>
      aggInsert { v := { v with snps := "" }, rep := formatVariant a v } m) m) []) =
    ((rows.filter fun r => r.1 != refID).flatMap fun r =>
      (r.2.filter (inWindow s e)).map fun v => ({ v := { v with snps := "" }, rep := formatVariant a v } : AggKey)).count k := by
  rw [counts_fold]
  exact agg_count a s e refID rows k

theorem aggCounts_keys_nodup (a : Bool) (s e : Int) (refID : String) (rows : List (String × List Variant)) :
    (keys (aggCounts a s e refID rows)).Nodup := nodup_keys_insAll_nil _

theorem mem_aggCounts (a : Bool) (s e : Int) (refID : String) (rows : List (String × List Variant)) (x : VEntry) :
    x ∈ aggCounts a s e refID rows ↔ x.1 ∈ aggKeys a s e refID rows ∧ x.2 = (aggKeys a s e refID rows).count x.1 :=
  mem_insAll_nil _ x

/-! ### with duplicate-free rows the count is the number of sequences -/

def RowsNodup (a : Bool) (s e : Int) (refID : String) (rows : List (String × List Variant)) : Prop :=
  ∀ r ∈ qrows refID rows, (rowKeys a s e r).Nodup

/-- **C13** (variants) — if no query row lists a key twice (`RowsNodup`), the count stored for a key is the number of query
rows whose (window-filtered, `snps`-erased) list contains the key -/
theorem agg_count_is_sequences (a : Bool) (s e : Int) (refID : String) (rows : List (String × List Variant))
    (h : RowsNodup a s e refID rows) (k : AggKey) :
    cnt k (aggCounts a s e refID rows) = rowCount a s e refID rows k := by
  rw [agg_count, aggKeys_eq]
  exact count_flatMap_nodup (rowKeys a s e) k _ h

theorem agg_count_ge_sequences (a : Bool) (s e : Int) (refID : String) (rows : List (String × List Variant)) (k : AggKey) :
    rowCount a s e refID rows k ≤ cnt k (aggCounts a s e refID rows) := by
  rw [agg_count, aggKeys_eq]
  exact count_flatMap_ge (rowKeys a s e) k _

def KeyInj (a : Bool) (l : List Variant) : Prop := ∀ v1 ∈ l, ∀ v2 ∈ l, aggKeyOf a v1 = aggKeyOf a v2 → v1 = v2

theorem rowKeys_nodup (a : Bool) (s e : Int) (r : String × List Variant) (hn : r.2.Nodup) (hi : KeyInj a r.2) :
    (rowKeys a s e r).Nodup :=
  nodup_map_of_inj_on _ _ (List.Nodup.sublist List.filter_sublist hn)
    fun v1 h1 v2 h2 => hi v1 (List.mem_filter.1 h1).1 v2 (List.mem_filter.1 h2).1

theorem rowsNodup_of_keyInj {a : Bool} {rows : List (String × List Variant)} (s e : Int) (refID : String)
    (hn : ∀ r ∈ rows, r.2.Nodup) (hi : ∀ r ∈ rows, KeyInj a r.2) : RowsNodup a s e refID rows :=
  fun r hr => rowKeys_nodup a s e r (hn r (List.mem_filter.1 hr).1) (hi r (List.mem_filter.1 hr).1)

def aggEntries (a : Bool) (s e : Int) (n d : Nat) (refID : String) (rows : List (String × List Variant)) : List VEntry :=
  (sortStable aggLt (aggCounts a s e refID rows)).filter fun x => x.2 * d ≥ n * total refID rows

theorem variantsAggregate_entries (a : Bool) (s e : Int) (n d : Nat) (refID : String) (rows : List (String × List Variant)) :
    variantsAggregate a s e n d refID rows =
      "mutation,frequency\n" ++ String.join ((aggEntries a s e n d refID rows).map fun x =>
        x.1.rep ++ "," ++ fmt9 x.2 (total refID rows) ++ "\n") :=
  variantsAggregate_eq a s e n d refID rows

/-- **C13** (variants) — an entry is printed iff its key occurs, its count is the number of occurrences, and
count * thrDen ≥ thrNum * total over the naturals (no rounding) -/
theorem mem_aggEntries (a : Bool) (s e : Int) (n d : Nat) (refID : String) (rows : List (String × List Variant)) (x : VEntry) :
    x ∈ aggEntries a s e n d refID rows ↔
      x.1 ∈ aggKeys a s e refID rows ∧ x.2 = (aggKeys a s e refID rows).count x.1 ∧ n * total refID rows ≤ x.2 * d := by
  unfold aggEntries
  rw [List.mem_filter, (sortStable_perm _).mem_iff, mem_aggCounts]
  simp only [ge_iff_le, decide_eq_true_eq, and_assoc]

/-- the cross-multiplied test IS the comparison of the two fractions (over the rationals of core Lean), equality
included -/
theorem cross_mul_iff (c t n d : Nat) (ht : 0 < t) (hd : 0 < d) :
    n * t ≤ c * d ↔ (n : Rat) / (d : Rat) ≤ (c : Rat) / (t : Rat) := by
  have ht' : (0 : Rat) < (t : Rat) := Rat.natCast_pos.2 ht
  have hd' : (0 : Rat) < (d : Rat) := Rat.natCast_pos.2 hd
  -- `n/d ≤ c/t` is `¬ c/t < n/d`; multiply by `t` (`c < n/d * t`), rearrange `n/d * t` to `(n * t)/d`, multiply by `d`
  -- (`c * d < n * t`), and go back from ℚ to ℕ
  rw [← Rat.not_lt, Rat.div_lt_iff ht', Rat.div_def, Rat.mul_assoc, Rat.mul_comm _ (t : Rat), ← Rat.mul_assoc, ← Rat.div_def,
    Rat.lt_div_iff hd', Rat.not_lt, ← Rat.natCast_mul, ← Rat.natCast_mul, Rat.natCast_le_natCast]

/-- **C13** (variants) — a key that occurs is printed iff count/total ≥ thrNum/thrDen as rationals, equality included;
total is the number of rows whose name differs from the reference name (`total`, `qrows`) -/
theorem agg_threshold (a : Bool) (s e : Int) (n d : Nat) (refID : String) (rows : List (String × List Variant))
    (hd : 0 < d) (k : AggKey) (hk : k ∈ aggKeys a s e refID rows) :
    (∃ c, (k, c) ∈ aggEntries a s e n d refID rows) ↔
      (n : Rat) / (d : Rat) ≤ (((aggKeys a s e refID rows).count k : Nat) : Rat) / ((total refID rows : Nat) : Rat) := by
  have ht : 0 < total refID rows := by
    rw [aggKeys_eq] at hk
    obtain ⟨r, hr, _⟩ := List.mem_flatMap.1 hk
    exact List.length_pos_of_mem hr
  rw [← cross_mul_iff _ _ _ _ ht hd]
  constructor
  · rintro ⟨c, hc⟩
    have := (mem_aggEntries a s e n d refID rows (k, c)).1 hc
    rw [← this.2.1]; exact this.2.2
  · intro h
    exact ⟨_, (mem_aggEntries a s e n d refID rows (k, _)).2 ⟨hk, rfl, h⟩⟩

theorem agg_threshold_equal_kept (a : Bool) (s e : Int) (refID : String) (rows : List (String × List Variant)) (x : VEntry)
    (hx : x ∈ aggCounts a s e refID rows) : x ∈ aggEntries a s e x.2 (total refID rows) refID rows := by
  rw [mem_aggEntries]
  have := (mem_aggCounts a s e refID rows x).1 hx
  exact ⟨this.1, this.2, Nat.le_refl _⟩

/-- **C13** (variants) — every key occurs at most once in the table -/
theorem agg_each_once (a : Bool) (s e : Int) (n d : Nat) (refID : String) (rows : List (String × List Variant)) :
    ((aggEntries a s e n d refID rows).map (·.1)).Nodup := by
  unfold aggEntries
  have h1 : ((sortStable aggLt (aggCounts a s e refID rows)).map (fun (x : VEntry) => x.1)).Nodup :=
    ((sortStable_perm (lt := aggLt) (aggCounts a s e refID rows)).map (fun (x : VEntry) => x.1)).nodup_iff.2
      (aggCounts_keys_nodup a s e refID rows)
  exact List.Nodup.sublist (List.Sublist.map _ List.filter_sublist) h1

theorem agg_rep_is_seq_text (a : Bool) (s e : Int) (n d : Nat) (refID : String) (rows : List (String × List Variant))
    (x : VEntry) (hx : x ∈ aggEntries a s e n d refID rows) :
    ∃ r ∈ qrows refID rows, ∃ v ∈ r.2.filter (inWindow s e), x.1 = aggKeyOf a v ∧ x.1.rep = formatVariant a v ∧
      x.1.rep ∈ seqMuts a s e r := by
  have hk := ((mem_aggEntries a s e n d refID rows x).1 hx).1
  rw [aggKeys_eq] at hk
  obtain ⟨r, hr, hkr⟩ := List.mem_flatMap.1 hk
  obtain ⟨v, hv, hvk⟩ := List.mem_map.1 hkr
  refine ⟨r, hr, v, hv, hvk.symm, by rw [← hvk]; rfl, ?_⟩
  rw [← hvk]
  exact List.mem_map.2 ⟨v, hv, rfl⟩

def posKindLe (x y : VEntry) : Prop :=
  x.1.v.pos < y.1.v.pos ∨ (x.1.v.pos = y.1.v.pos ∧ x.1.v.kind.rank ≤ y.1.v.kind.rank)

/-- `aggLt` refines "position, then kind", whichever way it answers -/
theorem aggLt_posKind (x y : VEntry) : (aggLt x y = true → posKindLe x y) ∧ (aggLt x y = false → posKindLe y x) := by
  unfold posKindLe
  rw [aggLt_eq]
  by_cases hp : x.1.v.pos = y.1.v.pos
  · rw [lexLt_of_eq (f := fun e : VEntry => e.1.v.pos) hp]
    by_cases hk : x.1.v.kind.rank = y.1.v.kind.rank
    · exact ⟨fun _ => Or.inr ⟨hp, by omega⟩, fun _ => Or.inr ⟨hp.symm, by omega⟩⟩
    · rw [lexLt_of_ne (f := fun e : VEntry => e.1.v.kind.rank) hk, decide_eq_true_eq, decide_eq_false_iff_not]
      exact ⟨fun h => Or.inr ⟨hp, by omega⟩, fun h => Or.inr ⟨hp.symm, by omega⟩⟩
  · rw [lexLt_of_ne (f := fun e : VEntry => e.1.v.pos) hp, decide_eq_true_eq, decide_eq_false_iff_not]
    exact ⟨Or.inl, fun h => Or.inl (by omega)⟩

theorem posKindLe_trans (x y z : VEntry) (h1 : posKindLe x y) (h2 : posKindLe y z) : posKindLe x z := by
  unfold posKindLe at *
  omega

/-- **C13** (variants) — the printed entries are in non-decreasing order of genomic position, and within one position
in the order aa, del, ins, nuc. No hypothesis: this holds although `aggLt` is not a strict weak order on all entries
(`AggVariants.aggLt_not_swo`). -/
theorem agg_sorted (a : Bool) (s e : Int) (n d : Nat) (refID : String) (rows : List (String × List Variant)) :
    (aggEntries a s e n d refID rows).Pairwise posKindLe :=
  List.Pairwise.filter _ (ClosestOrder.sortStable_pairwise (P := fun _ => True) (fun x y _ _ => (aggLt_posKind x y).1)
    (fun x y _ _ => (aggLt_posKind x y).2) (fun x y z _ _ _ => posKindLe_trans x y z) _ fun _ _ => trivial)

theorem agg_sorted_pos (a : Bool) (s e : Int) (n d : Nat) (refID : String) (rows : List (String × List Variant)) :
    (aggEntries a s e n d refID rows).Pairwise (fun x y => x.1.v.pos ≤ y.1.v.pos) := by
  refine List.Pairwise.imp ?_ (agg_sorted a s e n d refID rows)
  intro x y h
  unfold posKindLe at h
  omega

/-- **C13** (variants) — the printed entries are, up to order, exactly the entries of the
counting map that pass the threshold -/
theorem agg_perm (a : Bool) (s e : Int) (n d : Nat) (refID : String) (rows : List (String × List Variant)) :
    (aggEntries a s e n d refID rows).Perm
      ((aggCounts a s e refID rows).filter fun x => x.2 * d ≥ n * total refID rows) :=
  (sortStable_perm _).filter _

theorem agg_perm_all (a : Bool) (s e : Int) (d : Nat) (refID : String) (rows : List (String × List Variant)) :
    (aggEntries a s e 0 d refID rows).Perm (aggCounts a s e refID rows) := by
  have := agg_perm a s e 0 d refID rows
  simp only [Nat.zero_mul, ge_iff_le, Nat.zero_le, decide_true] at this
  rwa [List.filter_eq_self.2 (fun _ _ => rfl)] at this

/-! ### the table in terms of the per-sequence strings -/

/-- hypothesis H1: no per-sequence line lists the same mutation text twice (inside the window) -/
def SeqNodup (a : Bool) (s e : Int) (refID : String) (rows : List (String × List Variant)) : Prop :=
  ∀ r ∈ qrows refID rows, (seqMuts a s e r).Nodup

/-- hypothesis H2: two different keys that occur never print the same text -/
def RepInj (ks : List AggKey) : Prop := ∀ k1 ∈ ks, ∀ k2 ∈ ks, k1.rep = k2.rep → k1 = k2

section
variable {a : Bool} {s e : Int} {refID : String} {rows : List (String × List Variant)}

theorem mem_aggKeys_of_row {r : String × List Variant} (hr : r ∈ qrows refID rows) {k : AggKey} (hk : k ∈ rowKeys a s e r) :
    k ∈ aggKeys a s e refID rows := by
  rw [aggKeys_eq]
  exact List.mem_flatMap.2 ⟨r, hr, hk⟩

theorem rowsNodup_of_seqNodup (h : SeqNodup a s e refID rows) : RowsNodup a s e refID rows := by
  intro r hr
  have := h r hr
  rw [seqMuts_eq] at this
  exact nodup_of_map _ _ this

theorem seqNodup_of_rowsNodup (h : RowsNodup a s e refID rows) (h2 : RepInj (aggKeys a s e refID rows)) :
    SeqNodup a s e refID rows := by
  intro r hr
  rw [seqMuts_eq]
  exact nodup_map_of_inj_on _ _ (h r hr) fun k1 hk1 k2 hk2 => h2 k1 (mem_aggKeys_of_row hr hk1) k2 (mem_aggKeys_of_row hr hk2)

theorem contains_rep_iff (h2 : RepInj (aggKeys a s e refID rows)) {k : AggKey} (hk : k ∈ aggKeys a s e refID rows)
    {r : String × List Variant} (hr : r ∈ qrows refID rows) :
    (rowKeys a s e r).contains k = (seqMuts a s e r).contains k.rep := by
  rw [Bool.eq_iff_iff, List.contains_iff_mem, List.contains_iff_mem, seqMuts_eq]
  constructor
  · intro h; exact List.mem_map.2 ⟨k, h, rfl⟩
  · intro h
    obtain ⟨k', hk', hrep⟩ := List.mem_map.1 h
    rwa [← h2 k' (mem_aggKeys_of_row hr hk') k hk hrep]

theorem count_eq_seqCount (h1 : SeqNodup a s e refID rows) (h2 : RepInj (aggKeys a s e refID rows))
    {k : AggKey} (hk : k ∈ aggKeys a s e refID rows) :
    (aggKeys a s e refID rows).count k = seqCount a s e refID rows k.rep := by
  rw [← agg_count, agg_count_is_sequences a s e refID rows (rowsNodup_of_seqNodup h1), rowCount, seqCount,
    List.filter_congr fun r hr => contains_rep_iff h2 hk hr]

theorem seqCount_pos_iff (m : String) :
    0 < seqCount a s e refID rows m ↔ ∃ r ∈ qrows refID rows, m ∈ seqMuts a s e r := by
  unfold seqCount
  rw [List.length_pos_iff_exists_mem]
  constructor
  · rintro ⟨r, hr⟩
    have := List.mem_filter.1 hr
    exact ⟨r, this.1, List.contains_iff_mem.1 this.2⟩
  · rintro ⟨r, hr, hm⟩
    exact ⟨r, List.mem_filter.2 ⟨hr, List.contains_iff_mem.2 hm⟩⟩

theorem total_pos_of_seqCount_pos {m : String} (h : 0 < seqCount a s e refID rows m) : 0 < total refID rows :=
  Nat.lt_of_lt_of_le h (List.length_filter_le _ _)

end

def aggTable (a : Bool) (s e : Int) (n d : Nat) (refID : String) (rows : List (String × List Variant)) : List (String × Nat) :=
  (aggEntries a s e n d refID rows).map fun x => (x.1.rep, x.2)

theorem mem_aggTable (a : Bool) (s e : Int) (n d : Nat) (refID : String) (rows : List (String × List Variant))
    (h1 : SeqNodup a s e refID rows) (h2 : RepInj (aggKeys a s e refID rows)) (m : String) (c : Nat) :
    (m, c) ∈ aggTable a s e n d refID rows ↔
      0 < seqCount a s e refID rows m ∧ c = seqCount a s e refID rows m ∧ n * total refID rows ≤ c * d := by
  unfold aggTable
  constructor
  · intro h
    obtain ⟨x, hx, hxe⟩ := List.mem_map.1 h
    cases hxe
    obtain ⟨hk, hc, ht⟩ := (mem_aggEntries a s e n d refID rows x).1 hx
    rw [count_eq_seqCount h1 h2 hk] at hc
    exact ⟨by rw [← count_eq_seqCount h1 h2 hk]; exact List.count_pos_iff.2 hk, hc, ht⟩
  · rintro ⟨hp, rfl, ht⟩
    obtain ⟨r, hr, hm⟩ := (seqCount_pos_iff m).1 hp
    rw [seqMuts_eq] at hm
    obtain ⟨k, hk, rfl⟩ := List.mem_map.1 hm
    have hk' := mem_aggKeys_of_row hr hk
    exact List.mem_map.2 ⟨(k, _), (mem_aggEntries a s e n d refID rows _).2 ⟨hk', (count_eq_seqCount h1 h2 hk').symm, ht⟩, rfl⟩

theorem aggTable_nodup (a : Bool) (s e : Int) (n d : Nat) (refID : String) (rows : List (String × List Variant))
    (h2 : RepInj (aggKeys a s e refID rows)) : ((aggTable a s e n d refID rows).map (·.1)).Nodup := by
  have e1 : (aggTable a s e n d refID rows).map (·.1) = ((aggEntries a s e n d refID rows).map (·.1)).map (·.rep) := by
    rw [aggTable, List.map_map, List.map_map]
    rfl
  rw [e1]
  refine nodup_map_of_inj_on _ _ (agg_each_once a s e n d refID rows) fun k1 hk1 k2 hk2 => ?_
  obtain ⟨x1, hx1, rfl⟩ := List.mem_map.1 hk1
  obtain ⟨x2, hx2, rfl⟩ := List.mem_map.1 hk2
  exact h2 _ ((mem_aggEntries a s e n d refID rows x1).1 hx1).1 _ ((mem_aggEntries a s e n d refID rows x2).1 hx2).1

/-- **C13** (variants), headline. Assume (H1) no per-sequence line lists a mutation text twice and (H2) different keys that
occur print differently. Then the output of `variants --aggregate` is the header followed by one line
`m,fmt9 c total` per element `(m, c)` of a list `aggTable` such that
* `(m, c)` is in the list iff at least one query sequence has `m` in its per-sequence output, `c` is the number of
  query sequences whose per-sequence output contains `m`, and `c * thrDen ≥ thrNum * total` (for `thrDen > 0` and
  `total > 0`: `c / total ≥ thrNum / thrDen` over the rationals, `cross_mul_iff`), where `total` is the number of
  rows not named like the reference;
* no mutation text occurs twice;
* the lines are in non-decreasing order of genomic position (then aa, del, ins, nuc). -/
theorem variants_aggregate_spec (a : Bool) (s e : Int) (n d : Nat) (refID : String) (rows : List (String × List Variant))
    (h1 : SeqNodup a s e refID rows) (h2 : RepInj (aggKeys a s e refID rows)) :
    variantsAggregate a s e n d refID rows =
      "mutation,frequency\n" ++ String.join ((aggTable a s e n d refID rows).map fun p =>
        p.1 ++ "," ++ fmt9 p.2 (total refID rows) ++ "\n") ∧
    (∀ m c, (m, c) ∈ aggTable a s e n d refID rows ↔
      0 < seqCount a s e refID rows m ∧ c = seqCount a s e refID rows m ∧ n * total refID rows ≤ c * d) ∧
    ((aggTable a s e n d refID rows).map (·.1)).Nodup ∧
    (aggTable a s e n d refID rows = (aggEntries a s e n d refID rows).map fun x => (x.1.rep, x.2)) ∧
    (aggEntries a s e n d refID rows).Pairwise posKindLe :=
  ⟨by
      rw [variantsAggregate_entries]
      unfold aggTable
      rw [List.map_map]
      rfl,
    mem_aggTable a s e n d refID rows h1 h2, aggTable_nodup a s e n d refID rows h2, rfl, agg_sorted a s e n d refID rows⟩

theorem variants_aggregate_spec_rat (a : Bool) (s e : Int) (n d : Nat) (refID : String) (rows : List (String × List Variant))
    (h1 : SeqNodup a s e refID rows) (h2 : RepInj (aggKeys a s e refID rows)) (hd : 0 < d) (m : String) :
    (∃ c, (m, c) ∈ aggTable a s e n d refID rows) ↔
      0 < seqCount a s e refID rows m ∧
        (n : Rat) / (d : Rat) ≤ ((seqCount a s e refID rows m : Nat) : Rat) / ((total refID rows : Nat) : Rat) := by
  constructor
  · rintro ⟨c, hc⟩
    obtain ⟨hp, rfl, ht⟩ := (mem_aggTable a s e n d refID rows h1 h2 m c).1 hc
    exact ⟨hp, (cross_mul_iff _ _ _ _ (total_pos_of_seqCount_pos hp) hd).1 ht⟩
  · rintro ⟨hp, ht⟩
    exact ⟨_, (mem_aggTable a s e n d refID rows h1 h2 m _).2
      ⟨hp, rfl, (cross_mul_iff _ _ _ _ (total_pos_of_seqCount_pos hp) hd).2 ht⟩⟩

/-! ### for the model: when does the key decide the record -/

theorem getVariantsPair_noSnps (ref q : List Nat) (regions : List Region) (inter : List Nat) :
    ∀ v ∈ getVariantsPair ref q regions inter, v.kind ≠ .aa → v.snps = "" := by
  intro v hv k
  rcases mem_getVariantsPair ref q regions inter v hv with ⟨x, rfl | rfl⟩ | ⟨_, _, _, rfl⟩ | ⟨reg, _, _, b, h⟩
  · rfl
  · rfl
  · rfl
  · exact absurd (isAA_kind reg b v h) k

theorem eq_of_erase (v1 v2 : Variant) (h : erase v1 = erase v2) (hs : v1.snps = v2.snps) : v1 = v2 := by
  rw [show v1 = { erase v1 with snps := v1.snps } from rfl, show v2 = { erase v2 with snps := v2.snps } from rfl, h, hs]

/-- with `--append-snps` the printed form of an amino-acid record ends with its `snps` text, so the key decides it -/
theorem snps_of_key_true (v1 v2 : Variant) (k1 : v1.kind = .aa) (he : erase v1 = erase v2)
    (hf : formatVariant true v1 = formatVariant true v2) : v1.snps = v2.snps := by
  obtain ⟨e0, _, _, e2, e4, e1, e3⟩ := (erase_eq_iff v1 v2).1 he
  simp only [formatVariant, k1, e0.symm.trans k1, e1, e2, e3, e4, if_true] at hf
  exact (String.append_right_inj _).1 ((String.append_left_inj _).1 ((String.append_right_inj _).1 hf))

theorem keyInj_true (l : List Variant) (h : ∀ v ∈ l, v.kind ≠ .aa → v.snps = "") : KeyInj true l := by
  intro v1 hv1 v2 hv2 hk
  rw [aggKeyOf_eq, aggKeyOf_eq, AggKey.mk.injEq] at hk
  apply eq_of_erase v1 v2 hk.1
  by_cases k1 : v1.kind = .aa
  · exact snps_of_key_true v1 v2 k1 hk.1 hk.2
  · rw [h v1 hv1 k1, h v2 hv2 fun k => k1 (((erase_eq_iff v1 v2).1 hk.1).1.trans k)]

theorem keyInj_true_model (ref q : List Nat) (regions : List Region) (inter : List Nat) :
    KeyInj true (getVariantsPair ref q regions inter) :=
  keyInj_true _ (getVariantsPair_noSnps ref q regions inter)

theorem aa_same_region (ref q1 q2 : List Nat) (regions : List Region) (inter : List Nat)
    (hn : regions.Pairwise (fun r1 r2 => r1.name ≠ r2.name)) (v1 v2 : Variant)
    (hv1 : v1 ∈ getVariantsPair ref q1 regions inter) (hv2 : v2 ∈ getVariantsPair ref q2 regions inter)
    (k1 : v1.kind = .aa) (k2 : v2.kind = .aa) (hf : v1.feature = v2.feature) :
    ∃ g, v1 ∈ getAAsPair ref q1 (refCols ref) g ∧ v2 ∈ getAAsPair ref q2 (refCols ref) g := by
  have o1 := origin_of_kind ref q1 regions inter v1 hv1
  have o2 := origin_of_kind ref q2 regions inter v2 hv2
  rw [k1] at o1
  rw [k2] at o2
  obtain ⟨g1, hg1, m1, b1, a1⟩ := o1
  obtain ⟨g2, hg2, m2, b2, a2⟩ := o2
  rw [isAA_feature g1 b1 v1 a1, isAA_feature g2 b2 v2 a2] at hf
  cases inj_of_pairwise_ne Region.name hn g1 hg1 g2 hg2 hf
  exact ⟨g1, m1, m2⟩

theorem keyInj_model (a : Bool) (ref q : List Nat) (regions : List Region) (inter : List Nat)
    (hn : regions.Pairwise (fun r1 r2 => r1.name ≠ r2.name)) :
    KeyInj a (getVariantsPair ref q regions inter) := by
  intro v1 hv1 v2 hv2 hk
  rw [aggKeyOf_eq, aggKeyOf_eq, AggKey.mk.injEq] at hk
  obtain ⟨hkind, _, _, _, _, hfeat, hres⟩ := (erase_eq_iff v1 v2).1 hk.1
  by_cases k1 : v1.kind = .aa
  · -- two amino-acid records of one region with one residue number
    have k2 : v2.kind = .aa := hkind.symm.trans k1
    obtain ⟨g, m1, m2⟩ := aa_same_region ref q q regions inter hn v1 v2 hv1 hv2 k1 k2 hfeat
    exact (getAAsPair_scanInv ref q _ g).uniq v1 m1 v2 m2 k1 k2 hres
  · apply eq_of_erase v1 v2 hk.1
    rw [getVariantsPair_noSnps ref q regions inter v1 hv1 k1,
      getVariantsPair_noSnps ref q regions inter v2 hv2 fun k => k1 (hkind.trans k)]

/-! ### for the model: one text is one key -/

theorem format_erase (a : Bool) (ref q1 q2 : List Nat) (regions : List Region) (inter : List Nat)
    (hreg : RegionsOk regions) (hn : regions.Pairwise (fun r1 r2 => r1.name ≠ r2.name))
    (v1 v2 : Variant) (hv1 : v1 ∈ getVariantsPair ref q1 regions inter) (hv2 : v2 ∈ getVariantsPair ref q2 regions inter)
    (h : formatVariant a v1 = formatVariant a v2) : erase v1 = erase v2 := by
  obtain ⟨hk, hf, hr, he⟩ := rep_fields a ref q1 q2 regions inter hreg v1 v2 hv1 hv2 h
  -- the position of an amino-acid record: same feature name, so same region, where the residue number decides it
  refine he fun k1 => ?_
  obtain ⟨g, m1, m2⟩ := aa_same_region ref q1 q2 regions inter hn v1 v2 hv1 hv2 k1 (hk.symm.trans k1) hf
  exact getAAsPair_pos ref q1 q2 (refCols ref) g v1 m1 v2 m2 k1 (hk.symm.trans k1) hr

theorem repInj_model (a : Bool) (s e : Int) (refID : String) (ref : List Nat) (regions : List Region) (inter : List Nat)
    (recs : List (String × List Nat)) (hreg : RegionsOk regions) (hn : regions.Pairwise (fun r1 r2 => r1.name ≠ r2.name)) :
    RepInj (aggKeys a s e refID (modelRows ref regions inter recs)) := by
  intro k1 hk1 k2 hk2 hrep
  rw [aggKeys_eq_map] at hk1 hk2
  obtain ⟨v1, hv1, rfl⟩ := List.mem_map.1 hk1
  obtain ⟨v2, hv2, rfl⟩ := List.mem_map.1 hk2
  obtain ⟨q1, m1⟩ := mem_aggVariants_model hv1
  obtain ⟨q2, m2⟩ := mem_aggVariants_model hv2
  have hf : formatVariant a v1 = formatVariant a v2 := hrep
  rw [aggKeyOf_eq, aggKeyOf_eq, format_erase a ref q1 q2 regions inter hreg hn v1 v2 m1 m2 hf, hf]

theorem modelRows_nodup (ref : List Nat) (regions : List Region) (inter : List Nat) (recs : List (String × List Nat)) :
    ∀ r ∈ modelRows ref regions inter recs, r.2.Nodup := by
  intro r hr
  obtain ⟨x, _, rfl⟩ := List.mem_map.1 hr
  exact VariantsOrder.variants_nodup ref x.2 regions inter

theorem rowsNodup_model_true (s e : Int) (refID : String) (ref : List Nat) (regions : List Region) (inter : List Nat)
    (recs : List (String × List Nat)) : RowsNodup true s e refID (modelRows ref regions inter recs) := by
  refine rowsNodup_of_keyInj s e refID (modelRows_nodup ref regions inter recs) fun r hr => ?_
  obtain ⟨x, _, rfl⟩ := List.mem_map.1 hr
  exact keyInj_true_model ref x.2 regions inter

theorem rowsNodup_model (a : Bool) (s e : Int) (refID : String) (ref : List Nat) (regions : List Region) (inter : List Nat)
    (recs : List (String × List Nat)) (hn : regions.Pairwise (fun r1 r2 => r1.name ≠ r2.name)) :
    RowsNodup a s e refID (modelRows ref regions inter recs) := by
  refine rowsNodup_of_keyInj s e refID (modelRows_nodup ref regions inter recs) fun r hr => ?_
  obtain ⟨x, _, rfl⟩ := List.mem_map.1 hr
  exact keyInj_model a ref x.2 regions inter hn

/-- **C13** (variants) over the model, `--append-snps` — the count of a key is the number of query sequences whose list
contains it: every reference row, every alignment, every annotation -/
theorem agg_count_is_sequences_model_true (s e : Int) (refID : String) (ref : List Nat) (regions : List Region)
    (inter : List Nat) (recs : List (String × List Nat)) (k : AggKey) :
    cnt k (aggCounts true s e refID (modelRows ref regions inter recs)) =
      rowCount true s e refID (modelRows ref regions inter recs) k :=
  agg_count_is_sequences true s e refID _ (rowsNodup_model_true s e refID ref regions inter recs) k

/-- **C13** (variants) over the model — the same with or without `--append-snps` when no two features have the same name -/
theorem agg_count_is_sequences_model (a : Bool) (s e : Int) (refID : String) (ref : List Nat) (regions : List Region)
    (inter : List Nat) (recs : List (String × List Nat)) (hn : regions.Pairwise (fun r1 r2 => r1.name ≠ r2.name)) (k : AggKey) :
    cnt k (aggCounts a s e refID (modelRows ref regions inter recs)) =
      rowCount a s e refID (modelRows ref regions inter recs) k :=
  agg_count_is_sequences a s e refID _ (rowsNodup_model a s e refID ref regions inter recs hn) k

/-- **C13** (variants) over the model, headline. The conclusion of `variants_aggregate_spec` for every encoded reference row,
every alignment, every window and threshold, and every annotation whose feature names contain no colon and are pairwise
different and whose translations are characters (`RegionsOk`). -/
theorem variants_aggregate_spec_model (a : Bool) (s e : Int) (n d : Nat) (refID : String) (ref : List Nat)
    (regions : List Region) (inter : List Nat) (recs : List (String × List Nat))
    (hreg : RegionsOk regions) (hn : regions.Pairwise (fun r1 r2 => r1.name ≠ r2.name)) :
    variantsAggregate a s e n d refID (modelRows ref regions inter recs) =
      "mutation,frequency\n" ++ String.join ((aggTable a s e n d refID (modelRows ref regions inter recs)).map fun p =>
        p.1 ++ "," ++ fmt9 p.2 (total refID (modelRows ref regions inter recs)) ++ "\n") ∧
    (∀ m c, (m, c) ∈ aggTable a s e n d refID (modelRows ref regions inter recs) ↔
      0 < seqCount a s e refID (modelRows ref regions inter recs) m ∧
      c = seqCount a s e refID (modelRows ref regions inter recs) m ∧
      n * total refID (modelRows ref regions inter recs) ≤ c * d) ∧
    ((aggTable a s e n d refID (modelRows ref regions inter recs)).map (·.1)).Nodup ∧
    (aggTable a s e n d refID (modelRows ref regions inter recs) =
      (aggEntries a s e n d refID (modelRows ref regions inter recs)).map fun x => (x.1.rep, x.2)) ∧
    (aggEntries a s e n d refID (modelRows ref regions inter recs)).Pairwise posKindLe :=
  variants_aggregate_spec a s e n d refID _
    (seqNodup_of_rowsNodup (rowsNodup_model a s e refID ref regions inter recs hn)
      (repInj_model a s e refID ref regions inter recs hreg hn))
    (repInj_model a s e refID ref regions inter recs hreg hn)

theorem total_modelRows (refID : String) (ref : List Nat) (regions : List Region) (inter : List Nat)
    (recs : List (String × List Nat)) :
    total refID (modelRows ref regions inter recs) = (recs.filter fun r => r.1 != refID).length := by
  unfold total qrows modelRows
  rw [List.filter_map, List.length_map]
  rfl

/-! ### the hypotheses cannot be dropped: counterexamples -/

/-- reference ATG, query CCG; two features named g made of the same codon, written 1,2,3 and 2,1,3 -/
def cxbRegions : List Region := [⟨"g", 1, [1, 2, 3], [77]⟩, ⟨"g", 1, [2, 1, 3], [77]⟩]

def cxbRow : List Variant :=
  getVariantsPair ([65, 84, 71].map (enc false)) ([67, 67, 71].map (enc false)) cxbRegions []

/-- **`getVariantsPair` CAN return two records that differ only in `snps`**: the two records of this row print
differently with `--append-snps`, are different records (`variants_nodup` holds), and are equal once `snps` is erased -/
theorem cxb_differ_only_in_snps :
    cxbRow.map (formatVariant true) = ["aa:g:M1P(nuc:A1C;nuc:T2C)", "aa:g:M1P(nuc:T2C;nuc:A1C)"] ∧
    cxbRow.Nodup ∧ cxbRow.length = 2 ∧ (cxbRow.map erase).eraseDups.length = 1 := by
  refine ⟨?_, ?_, ?_, ?_⟩ <;> decide +kernel

/-- **so without `--append-snps` the count is NOT the number of sequences**: one query sequence, and the table gives
the mutation the frequency 2; the per-sequence output lists the text twice. `RowsNodup` fails, the stored count is 2,
the number of rows containing the key is 1. -/
theorem cxb_count_not_sequences :
    variantsAggregate false 0 0 0 1 "ref" [("q1", cxbRow)] = "mutation,frequency\naa:g:M1P,2.000000000\n" ∧
    variantsOutput false 0 0 "ref" [("q1", cxbRow)] = "query,mutations\nq1,aa:g:M1P|aa:g:M1P\n" ∧
    (aggCounts false 0 0 "ref" [("q1", cxbRow)]).map (·.2) = [2] ∧
    (aggCounts false 0 0 "ref" [("q1", cxbRow)]).map (fun x => rowCount false 0 0 "ref" [("q1", cxbRow)] x.1) = [1] := by
  refine ⟨?_, ?_, ?_, ?_⟩ <;> decide +kernel

/-- with `--append-snps` the same input is counted correctly (two keys, one sequence each) -/
theorem cxb_append_snps_ok :
    variantsAggregate true 0 0 0 1 "ref" [("q1", cxbRow)] =
      "mutation,frequency\naa:g:M1P(nuc:A1C;nuc:T2C),1.000000000\naa:g:M1P(nuc:T2C;nuc:A1C),1.000000000\n" := by
  decide +kernel

/-- reference ATGATG; two features named g, codon 1..3 and codon 4..6, both annotated M -/
def cxcRegions : List Region := [⟨"g", 1, [1, 2, 3], [77]⟩, ⟨"g", 1, [4, 5, 6], [77]⟩]

def cxcRows : List (String × List Variant) :=
  [("q1", getVariantsPair ([65, 84, 71, 65, 84, 71].map (enc false)) ([65, 65, 71, 65, 65, 71].map (enc false)) cxcRegions []),
   ("q2", getVariantsPair ([65, 84, 71, 65, 84, 71].map (enc false)) ([65, 65, 71, 65, 84, 71].map (enc false)) cxcRegions [])]

/-- **two different keys CAN print the same text** (H2 fails): the first residues of two features of one name, at
positions 1 and 4, both print as aa:g:M1K; the table lists the text twice, with two different frequencies, and the
first per-sequence line lists it twice (H1 fails as well) -/
theorem cxc_same_text_two_keys :
    variantsAggregate false 0 0 0 1 "ref" cxcRows = "mutation,frequency\naa:g:M1K,1.000000000\naa:g:M1K,0.500000000\n" ∧
    variantsOutput false 0 0 "ref" cxcRows = "query,mutations\nq1,aa:g:M1K|aa:g:M1K\nq2,aa:g:M1K\n" ∧
    (aggCounts false 0 0 "ref" cxcRows).map (fun x => (x.1.v.pos, x.1.rep, x.2)) = [(1, "aa:g:M1K", 2), (4, "aa:g:M1K", 1)] := by
  refine ⟨?_, ?_, ?_⟩ <;> decide +kernel

/-! ### non-vacuity: three query sequences, one mutation shared by two of them -/

def exNuc : Variant := { kind := .nuc, pos := 5, refAl := [67], queAl := [84] }
def exDel : Variant := { kind := .del, pos := 7, len := 1 }
def exRows : List (String × List Variant) := [("ref", []), ("a", [exNuc, exDel]), ("b", [exNuc]), ("c", [])]

example : SeqNodup false 0 0 "ref" exRows := by unfold SeqNodup; decide +kernel
example : RepInj (aggKeys false 0 0 "ref" exRows) := by unfold RepInj; decide +kernel
example : total "ref" exRows = 3 := by decide +kernel
example : seqCount false 0 0 "ref" exRows "nuc:C5T" = 2 ∧ seqCount false 0 0 "ref" exRows "del:7:1" = 1 := by
  constructor <;> decide +kernel
/-- threshold 2/3: the shared mutation (2 of 3) is kept, equality included; the other (1 of 3) is dropped -/
example : variantsAggregate false 0 0 2 3 "ref" exRows = "mutation,frequency\nnuc:C5T,0.666666667\n" := by decide +kernel
example : aggTable false 0 0 2 3 "ref" exRows = [("nuc:C5T", 2)] := by decide +kernel
/-- threshold 3/4: dropped -/
example : variantsAggregate false 0 0 3 4 "ref" exRows = "mutation,frequency\n" := by decide +kernel
/-- threshold 0: both, in order of position -/
example : variantsAggregate false 0 0 0 1 "ref" exRows =
    "mutation,frequency\nnuc:C5T,0.666666667\ndel:7:1,0.333333333\n" := by decide +kernel

/-- the same over the model: reference ATGA, queries ATGC, ATGC, ATGA, no coding region, position 4 listed as
intergenic; the hypotheses of `variants_aggregate_spec_model` hold for the empty annotation -/
def exRecs : List (String × List Nat) :=
  [("ref", [65, 84, 71, 65].map (enc false)), ("a", [65, 84, 71, 67].map (enc false)),
   ("b", [65, 84, 71, 67].map (enc false)), ("c", [65, 84, 71, 65].map (enc false))]

example : variantsAggregate false 0 0 2 3 "ref" (modelRows ([65, 84, 71, 65].map (enc false)) [] [4] exRecs) =
    "mutation,frequency\nnuc:A4C,0.666666667\n" := by decide +kernel
example : variantsAggregate false 0 0 3 4 "ref" (modelRows ([65, 84, 71, 65].map (enc false)) [] [4] exRecs) =
    "mutation,frequency\n" := by decide +kernel
example : RegionsOk [] ∧ ([] : List Region).Pairwise (fun r1 r2 => r1.name ≠ r2.name) :=
  ⟨(by intro r hr; cases hr), List.Pairwise.nil⟩

end Gofasta.Lemmas.AggCount
