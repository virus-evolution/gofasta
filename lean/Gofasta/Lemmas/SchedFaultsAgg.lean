import Gofasta.Lemmas.SchedFaults
import Gofasta.Lemmas.SchedHdrStart
/-
C19 ("a failed output write is never reported as success") at the level of the goroutines, for the commands that
Lemmas/SchedFaults does not cover: the aggregating writer `AW` of Lemmas/SchedAggWriter in `snps --aggregate`,
`variants --aggregate` (one worker pool) and `sam variants --aggregate` (two pools), and `snps` with its header written
at once.  (1), (2), (3) are the three statements of SchedFaultWriter; (A), (B) are the two cases of SchedAggWriter.
The `*_agg_*` theorems here are for (A), the header written AFTER the loop, which is NOT where the Go code writes it
(snps.go, variants.go write it before the loop and return at once when that fails): the placement of the code is in
Lemmas/SchedFaultsAggCode (`*_agg_code_*`, reported late) and, faithfully, in the `*_hdr_*` / `*_header_fault_immediate`
theorems (B).
-/
set_option autoImplicit false

namespace Gofasta.Lemmas.SchedFaultsAgg
open Gofasta Gofasta.Model
open Gofasta.Lemmas.SchedCommands
open Gofasta.Lemmas.Sched (outputs_exist)
open Gofasta.Lemmas.SchedFaults Gofasta.Lemmas.SchedRun

section snpsAggregate
open Gofasta.Model.Sched Gofasta.Lemmas.Sched Gofasta.Lemmas.AggOrder

/-- what snps.aggregateWriteOutput accumulates: the counting map (association list in first-seen order) and the
number of records received -/
abbrev SnpAcc := List (Snp × Nat) × Nat

/-- the loop body: count every SNP of the row that arrived, count the record (`AggW.absorb` of SchedCommands) -/
def snpsAccum (acc : SnpAcc) (r : Nat × (String × List Snp)) : SnpAcc :=
  (r.2.2.foldl (fun m s => countInsert s m) acc.1, acc.2 + 1)

/-- the rows printed after the loop: sort by (position, query allele), keep what reaches the threshold, one line each
(`AggW.finish` of SchedCommands, line by line) -/
def snpsAggRowsOf (thrNum thrDen : Nat) (acc : SnpAcc) : List String :=
  ((sortStable snpLt acc.1).filter fun e => keepFreq e.2 acc.2 thrNum thrDen).map fun e =>
    fmtSnp e.1 ++ "," ++ fmt9 e.2 acc.2 ++ "\n"

/-- `AW` keeps the sink apart from what the loop accumulates, `AggW` of SchedCommands has the text in its state: the loop
body stands in both forms (likewise `varAccum_eq_absorb`), and a change of snps.go / variants.go goes into both -/
theorem snpsAccum_eq_absorb (st : AggW) (r : Nat × (String × List Snp)) :
    snpsAccum (st.counts, st.n) r = ((AggW.absorb st r).counts, (AggW.absorb st r).n) := rfl

def snpsAggHeader : String := "SNP,frequency\n"

/-- the rows of the sequential table `Model.snpsAggregate` -/
def snpsAggLines (hard : Bool) (thrNum thrDen : Nat) (ref : List Nat) (recs : List (String × List Nat)) : List String :=
  snpsAggRowsOf thrNum thrDen (countAll (recs.map fun r => snpsRow hard ref r.2), recs.length)

theorem snpsAggregate_eq_join (hard : Bool) (thrNum thrDen : Nat) (ref : List Nat) (recs : List (String × List Nat)) :
    snpsAggregate hard thrNum thrDen ref recs = String.join (snpsAggHeader :: snpsAggLines hard thrNum thrDen ref recs) := by
  simp only [String.join_cons]; rfl

/-- `gofasta snps --aggregate` writing to the destination d; the calls `hs` before the loop, the calls `pre` and the
rows after it: (A) is `hs = []`, `pre = [snpsAggHeader]` (not the placement of snps.go); the code's is
`hs = [snpsAggHeader]`, `pre = []`.  For both, `aggW hs pre R` is `1 + R.length` and `aggCalls hs pre R` is
`snpsAggHeader :: R` by unfolding: that is how the statements below, which say `1 + (…Lines …).length` and
`header :: …Lines …`, meet the general ones of Lemmas/SchedAggWriter (here and for the two variants commands) -/
def snpsAggFCfg (d : Dest) (hs pre : List String) (hard : Bool) (thrNum thrDen : Nat) (ref : List Nat)
    (recs : List (String × List Nat)) (N capIn capOut : Nat) (rf : Option (Nat × RunErr)) :
    Cfg (String × List Nat) (String × List Snp) RunErr (AW SnpAcc) where
  items := encItems hard recs
  f := liftW (snpsWorker (ref.map (enc hard)))
  N := N
  capIn := capIn
  capOut := capOut
  readFail := rf
  absorb := AW.absorb snpsAccum
  finish := AW.finish d pre (snpsAggRowsOf thrNum thrDen) .write
  init := AW.start d hs ([], 0)

theorem snpsAggF_isAW (hs pre : List String) {d : Dest} {hard : Bool} {thrNum thrDen : Nat} {ref : List Nat}
    {recs : List (String × List Nat)} {N capIn capOut : Nat} {rf : Option (Nat × RunErr)} :
    IsAW (snpsAggFCfg d hs pre hard thrNum thrDen ref recs N capIn capOut rf) d hs pre ([], 0) snpsAccum
      (snpsAggRowsOf thrNum thrDen) .write :=
  ⟨fun _ _ => rfl, fun _ => rfl, rfl⟩

/-- **the table does not depend on the order of arrival** (no hypothesis on the symbols: rows computed against one
reference) -/
theorem snps_rowsAre (hard : Bool) (thrNum thrDen : Nat) (ref : List Nat) (recs : List (String × List Nat)) :
    RowsAre (encItems hard recs) (liftW (snpsWorker (ref.map (enc hard)))) (([], 0) : SnpAcc) snpsAccum
      (snpsAggRowsOf thrNum thrDen) (snpsAggLines hard thrNum thrDen ref recs) := by
  intro arr hc
  obtain ⟨ys, hys⟩ := outputs_exist (all_ok_of_arrival hc.1 hc.2)
  have hsnd := complete_snd_perm hc hys
  rw [snps_results (map_liftW_ok.mp hys)] at hsnd
  obtain ⟨hn, hsort⟩ := snps_sorted_any_arrival hsnd
  have hcnt : (arr.map (·.2.2)).foldl (fun m row => row.foldl (fun m s => countInsert s m) m) [] =
      countAll (arr.map (·.2.2)) := rfl
  rw [List.foldl_hom (fun st : AggW => (st.counts, st.n)) (init := ⟨[], 0, ""⟩) snpsAccum_eq_absorb, AggW.foldl_absorb]
  simp only [snpsAggRowsOf, snpsAggLines, hcnt, hsort, hn, Nat.zero_add]

theorem snps_agg_fault_reported (d : Dest) (hard : Bool) (thrNum thrDen : Nat) (ref : List Nat)
    (recs : List (String × List Nat)) (N capIn capOut : Nat) (rf : Option (Nat × RunErr)) (hN : 1 ≤ N) (k : Nat)
    (hd : d = .failFrom k ∨ d = .failOnce k) (hk1 : 1 ≤ k)
    (hkW : k ≤ 1 + (snpsAggLines hard thrNum thrDen ref recs).length) {s : State _ _ _ _}
    (hr : Reach (snpsAggFCfg d [] [snpsAggHeader] hard thrNum thrDen ref recs N capIn capOut rf) s) :
    s.main ≠ .ret none :=
  agg_fault_reported (snpsAggF_isAW [] [snpsAggHeader]) hN (snps_rowsAre hard thrNum thrDen ref recs) k hd hk1 hkW hr

theorem snps_agg_fault_maximal_run_write_error (d : Dest) (hard : Bool) (thrNum thrDen : Nat) (ref : List Nat)
    (recs : List (String × List Nat)) (N capIn capOut : Nat) (hN : 1 ≤ N) (hw : ∀ r ∈ recs, r.2.length = ref.length)
    (k : Nat) (hd : d = .failFrom k ∨ d = .failOnce k) (hk1 : 1 ≤ k)
    (hkW : k ≤ 1 + (snpsAggLines hard thrNum thrDen ref recs).length) {s : State _ _ _ _}
    (hr : Reach (snpsAggFCfg d [] [snpsAggHeader] hard thrNum thrDen ref recs N capIn capOut none) s)
    (hstuck : enabled (snpsAggFCfg d [] [snpsAggHeader] hard thrNum thrDen ref recs N capIn capOut none) s = []) :
    s.main = .ret (some .write) :=
  agg_fault_maximal_run_write_error (snpsAggF_isAW [] [snpsAggHeader]) hN rfl (liftW_all_ok (snps_all_ok hard ref recs hw))
    (snps_rowsAre hard thrNum thrDen ref recs) k hd hk1 hkW hr hstuck

theorem snps_agg_fault_beyond_run_harmless (d : Dest) (hard : Bool) (thrNum thrDen : Nat) (ref : List Nat)
    (recs : List (String × List Nat)) (N capIn capOut : Nat) (rf : Option (Nat × RunErr)) (hN : 1 ≤ N)
    {s : State _ _ _ _}
    (hr : Reach (snpsAggFCfg d [] [snpsAggHeader] hard thrNum thrDen ref recs N capIn capOut rf) s)
    (hm : s.main = .ret none) :
    s.wst.sink.text = snpsAggregate hard thrNum thrDen ref recs ∧
      s.wst.sink.calls = 1 + (snpsAggLines hard thrNum thrDen ref recs).length ∧
      ∀ i, 1 ≤ i → i ≤ 1 + (snpsAggLines hard thrNum thrDen ref recs).length → d.fails i = false := by
  obtain ⟨h1, _, h3, h4⟩ :=
    agg_fault_beyond_run_harmless (snpsAggF_isAW [] [snpsAggHeader]) hN (snps_rowsAre hard thrNum thrDen ref recs) hr hm
  exact ⟨h1.trans (snpsAggregate_eq_join hard thrNum thrDen ref recs).symm, h3, h4⟩

theorem snps_agg_fault_beyond_run_maximal (d : Dest) (hard : Bool) (thrNum thrDen : Nat) (ref : List Nat)
    (recs : List (String × List Nat)) (N capIn capOut : Nat) (hN : 1 ≤ N) (hw : ∀ r ∈ recs, r.2.length = ref.length)
    (hd : ∀ i, 1 ≤ i → i ≤ 1 + (snpsAggLines hard thrNum thrDen ref recs).length → d.fails i = false)
    {s : State _ _ _ _}
    (hr : Reach (snpsAggFCfg d [] [snpsAggHeader] hard thrNum thrDen ref recs N capIn capOut none) s)
    (hstuck : enabled (snpsAggFCfg d [] [snpsAggHeader] hard thrNum thrDen ref recs N capIn capOut none) s = []) :
    s.main = .ret none ∧ s.wst.sink.text = snpsAggregate hard thrNum thrDen ref recs := by
  obtain ⟨h1, h2⟩ := agg_fault_beyond_run_maximal (snpsAggF_isAW [] [snpsAggHeader]) hN rfl (liftW_all_ok (snps_all_ok hard ref recs hw))
    (snps_rowsAre hard thrNum thrDen ref recs) hd hr hstuck
  exact ⟨h1, h2.trans (snpsAggregate_eq_join hard thrNum thrDen ref recs).symm⟩

/-- **snps --aggregate (3)**: the header and the first rows of `snpsAggregate hard thrNum thrDen ref recs`, whole, in
table order (`snpsAggregate_eq_join`) -/
theorem snps_agg_written_is_prefix (d : Dest) (hard : Bool) (thrNum thrDen : Nat) (ref : List Nat)
    (recs : List (String × List Nat)) (N capIn capOut : Nat) (rf : Option (Nat × RunErr)) (hN : 1 ≤ N)
    {s : State _ _ _ _}
    (hr : Reach (snpsAggFCfg d [] [snpsAggHeader] hard thrNum thrDen ref recs N capIn capOut rf) s) :
    ∃ j, aggAccepted d [] [snpsAggHeader] ([], 0) snpsAccum (snpsAggRowsOf thrNum thrDen) s =
      String.join ((snpsAggHeader :: snpsAggLines hard thrNum thrDen ref recs).take j) :=
  agg_written_is_prefix (snpsAggF_isAW [] [snpsAggHeader]) hN (snps_rowsAre hard thrNum thrDen ref recs) hr

theorem snps_agg_sink_empty_before_all_arrived (d : Dest) (hard : Bool) (thrNum thrDen : Nat) (ref : List Nat)
    (recs : List (String × List Nat)) (N capIn capOut : Nat) (rf : Option (Nat × RunErr)) (hN : 1 ≤ N)
    {s : State _ _ _ _}
    (hr : Reach (snpsAggFCfg d [] [snpsAggHeader] hard thrNum thrDen ref recs N capIn capOut rf) s)
    {i : Nat} (hi : i < recs.length) (hni : i ∉ s.arrival.map Prod.fst) :
    s.wst.sink = Sink.empty ∧
      aggAccepted d [] [snpsAggHeader] ([], 0) snpsAccum (snpsAggRowsOf thrNum thrDen) s = "" :=
  agg_sink_empty_before_all_arrived (snpsAggF_isAW [] [snpsAggHeader]) hN hr
    (Nat.lt_of_lt_of_eq hi (encItems_length hard recs).symm) hni

/-- **snps --aggregate (B)**: the aggregating writer that writes its header before the loop -/
theorem snps_agg_header_fault_immediate (d : Dest) (hard : Bool) (thrNum thrDen : Nat) (ref : List Nat)
    (recs : List (String × List Nat)) (N capIn capOut : Nat) (rf : Option (Nat × RunErr))
    (hd : d = .failFrom 1 ∨ d = .failOnce 1) {s : State _ _ _ _}
    (hr : ReachFrom (snpsAggFCfg d [snpsAggHeader] [] hard thrNum thrDen ref recs N capIn capOut rf)
      (hdrStart (snpsAggFCfg d [snpsAggHeader] [] hard thrNum thrDen ref recs N capIn capOut rf) .write
        (Sink.putAll d Sink.empty [snpsAggHeader]).failed) s) :
    s.arrival = [] ∧ s.writer = .errS .write ∧ s.wst.sink = ⟨"", 1, true⟩ ∧ s.main ≠ .ret none := by
  obtain ⟨h1, h2, h3, _, h5⟩ := agg_header_fault_immediate (snpsAggF_isAW [snpsAggHeader] []) (Dest.fails_of_at hd) hr
  exact ⟨h1, h2, h3, h5⟩

end snpsAggregate

section snpsHeaderFirst
open Gofasta.Model.Sched Gofasta.Lemmas.Sched

theorem snps_hdr_fault_reported (d : Dest) (hard : Bool) (ref : List Nat) (recs : List (String × List Nat))
    (N capIn capOut : Nat) (rf : Option (Nat × RunErr)) (hN : 1 ≤ N) (k : Nat)
    (hd : d = .failFrom k ∨ d = .failOnce k) (hk1 : 1 ≤ k) (hkW : k ≤ 1 + recs.length) {s : State _ _ _ _}
    (hr : ReachFrom (snpsFCfg d hard ref recs N capIn capOut rf)
      (hdrStart (snpsFCfg d hard ref recs N capIn capOut rf) .write (d.fails 1)) s) : s.main ≠ .ret none :=
  hdr_fault_reported (snpsF_isFW d hard ref recs N capIn capOut rf) hN k hd hk1
    (fun _ hys => (snpsF_cmd d hard ref recs N capIn capOut rf).calls hys ▸ hkW) hr

theorem snps_hdr_fault_beyond_run_harmless (d : Dest) (hard : Bool) (ref : List Nat) (recs : List (String × List Nat))
    (N capIn capOut : Nat) (rf : Option (Nat × RunErr)) (hN : 1 ≤ N) {s : State _ _ _ _}
    (hr : ReachFrom (snpsFCfg d hard ref recs N capIn capOut rf)
      (hdrStart (snpsFCfg d hard ref recs N capIn capOut rf) .write (d.fails 1)) s) (hm : s.main = .ret none) :
    s.wst.sink.text = snpsOutput hard ref recs ∧ s.wst.sink.calls = 1 + recs.length ∧
      ∀ i, 1 ≤ i → i ≤ 1 + recs.length → d.fails i = false := by
  obtain ⟨ys, hys, htext, _, hcalls, hok⟩ :=
    hdr_fault_beyond_run_harmless (snpsF_isFW d hard ref recs N capIn capOut rf) hN hr hm
  have h := snpsF_cmd d hard ref recs N capIn capOut rf
  exact ⟨htext.trans (h.text hys), h.calls hys ▸ hcalls, h.calls hys ▸ hok⟩

theorem snps_hdr_written_is_prefix (d : Dest) (hard : Bool) (ref : List Nat) (recs : List (String × List Nat))
    (N capIn capOut : Nat) (rf : Option (Nat × RunErr)) (hw : ∀ r ∈ recs, r.2.length = ref.length) {s : State _ _ _ _}
    (hr : ReachFrom (snpsFCfg d hard ref recs N capIn capOut rf)
      (hdrStart (snpsFCfg d hard ref recs N capIn capOut rf) .write (d.fails 1)) s) :
    ∃ j, accepted d snpsChunks "query,SNPs\n" 0 s =
      String.join (("query,SNPs\n" :: snpsLines hard ref recs).take j) := by
  obtain ⟨ys, hys⟩ := liftW_outputs (snps_all_ok hard ref recs hw)
  obtain ⟨j, hj⟩ := hdr_written_is_prefix (snpsF_isFW d hard ref recs N capIn capOut rf) hr
  dsimp only [snpsFCfg] at hj
  rw [goodPrefix_all_ok hys, snps_results (map_liftW_ok.mp hys), snps_callSeq] at hj
  exact ⟨j, hj⟩

theorem snps_header_fault_immediate (d : Dest) (hard : Bool) (ref : List Nat) (recs : List (String × List Nat))
    (N capIn capOut : Nat) (rf : Option (Nat × RunErr)) (hd : d = .failFrom 1 ∨ d = .failOnce 1) {s : State _ _ _ _}
    (hr : ReachFrom (snpsFCfg d hard ref recs N capIn capOut rf)
      (hdrStart (snpsFCfg d hard ref recs N capIn capOut rf) .write (d.fails 1)) s) :
    s.arrival = [] ∧ s.writer = .errS .write ∧ s.wst.sink = ⟨"", 1, true⟩ ∧
      accepted d snpsChunks "query,SNPs\n" 0 s = "" ∧ s.main ≠ .ret none :=
  header_fault_immediate (snpsF_isFW d hard ref recs N capIn capOut rf) (Dest.fails_of_at hd) hr

end snpsHeaderFirst

section variantsAggregate
open Gofasta.Model.Sched Gofasta.Lemmas.Sched Gofasta.Driver Gofasta.Lemmas.SamVarPipeline
open Gofasta.Lemmas.AggVariants

/-- what the aggregating writer of variants accumulates: the counting map and the number of records counted -/
abbrev VarAcc := List (AggKey × Nat) × Nat

/-- the loop body (`VAggW.absorb` of SchedCommands): a record not named like the reference is counted, and so is each
of its mutations inside the window -/
def varAccum (vi : VarIn) (refID : String) (acc : VarAcc) (r : Nat × (String × List Variant)) : VarAcc :=
  if r.2.1 != refID then
    ((r.2.2.filter (inWindow vi.start vi.stop)).foldl (fun m v =>
      aggInsert { v := { v with snps := "" }, rep := formatVariant vi.append v } m) acc.1, acc.2 + 1)
  else acc

/-- the rows printed after the loop (`VAggW.finish` of SchedCommands, line by line) -/
def varAggRowsOf (vi : VarIn) (acc : VarAcc) : List String :=
  ((sortStable aggLt acc.1).filter fun e => e.2 * vi.thrd ≥ vi.thrn * acc.2).map fun e =>
    e.1.rep ++ "," ++ fmt9 e.2 acc.2 ++ "\n"

theorem varAccum_eq_absorb (vi : VarIn) (refID : String) (st : VAggW) (r : Nat × (String × List Variant)) :
    varAccum vi refID (st.counts, st.n) r =
      ((VAggW.absorb vi refID st r).counts, (VAggW.absorb vi refID st r).n) := by
  unfold varAccum VAggW.absorb
  split <;> rfl

def varAggHeader : String := "mutation,frequency\n"

/-- the rows of the sequential table `Model.variantsAggregate` over the mutation lists ys -/
def varAggLines (vi : VarIn) (refID : String) (ys : List (String × List Variant)) : List String :=
  varAggRowsOf vi (aggCounts vi.append vi.start vi.stop refID ys, (ys.filter fun r => r.1 != refID).length)

theorem variantsAggregate_eq_join (vi : VarIn) (refID : String) (ys : List (String × List Variant)) :
    variantsAggregate vi.append vi.start vi.stop vi.thrn vi.thrd refID ys =
      String.join (varAggHeader :: varAggLines vi refID ys) := by
  rw [variantsAggregate_eq]
  simp only [String.join_cons]
  rfl

def varAggFCfg (d : Dest) (hs pre : List String) (vi : VarIn)
    (pairFn : List Nat → List Nat → List Region → List Nat → List Variant)
    (refRow : List Nat) (rows : List (String × List Nat)) (refID : String) (regions : List Region) (inter : List Nat)
    (N capIn capOut : Nat) (rf : Option (Nat × RunErr)) :
    Cfg (String × List Nat) (String × List Variant) RunErr (AW VarAcc) where
  items := rows
  f := liftW (varWorker pairFn refRow regions inter)
  N := N
  capIn := capIn
  capOut := capOut
  readFail := rf
  absorb := AW.absorb (varAccum vi refID)
  finish := AW.finish d pre (varAggRowsOf vi) .write
  init := AW.start d hs ([], 0)

theorem varAggF_isAW (hs pre : List String) {d : Dest} {vi : VarIn}
    {pairFn : List Nat → List Nat → List Region → List Nat → List Variant} {refRow : List Nat}
    {rows : List (String × List Nat)} {refID : String} {regions : List Region} {inter : List Nat}
    {N capIn capOut : Nat} {rf : Option (Nat × RunErr)} :
    IsAW (varAggFCfg d hs pre vi pairFn refRow rows refID regions inter N capIn capOut rf) d hs pre ([], 0)
      (varAccum vi refID) (varAggRowsOf vi) .write :=
  ⟨fun _ _ => rfl, fun _ => rfl, rfl⟩

theorem var_fold_counts (vi : VarIn) (refID : String) (arr : List (Nat × (String × List Variant))) :
    arr.foldl (varAccum vi refID) ([], 0) =
      (aggCounts vi.append vi.start vi.stop refID (arr.map Prod.snd),
       ((arr.map Prod.snd).filter fun r => r.1 != refID).length) := by
  rw [List.foldl_hom (fun st : VAggW => (st.counts, st.n)) (init := ⟨[], 0, ""⟩) (varAccum_eq_absorb vi refID),
    VAggW.foldl_absorb, counts_fold]
  simp only [Nat.zero_add]
  rfl

/-- **the table does not depend on the order of arrival**, provided two different counters that occur are never tied
under the sort key (`Separated`, as in SchedCommands; it holds for the model's caller: `AggVariants.separated_model`) -/
theorem var_rowsAre {vi : VarIn} {pairFn : List Nat → List Nat → List Region → List Nat → List Variant}
    {refRow : List Nat} {rows : List (String × List Nat)} {refID : String} {regions : List Region} {inter : List Nat}
    (hsep : Separated (aggKeys vi.append vi.start vi.stop refID
      (rows.map fun r => (r.1, pairFn refRow r.2 regions inter)))) :
    RowsAre rows (liftW (varWorker pairFn refRow regions inter)) (([], 0) : VarAcc) (varAccum vi refID)
      (varAggRowsOf vi) (varAggLines vi refID (rows.map fun r => (r.1, pairFn refRow r.2 regions inter))) := by
  intro arr hc
  obtain ⟨ys, hys⟩ := outputs_exist (all_ok_of_arrival hc.1 hc.2)
  have hsnd := complete_snd_perm hc hys
  rw [(varF_results hys).1] at hsnd
  have hsort := sorted_counts_any_order vi.append vi.start vi.stop refID _ _ hsnd.symm hsep
  have hlen := (hsnd.filter fun r => r.1 != refID).length_eq
  rw [var_fold_counts]
  simp only [varAggRowsOf, varAggLines, hsort, hlen]

theorem varAgg_text_eq {vi : VarIn} {pairFn : List Nat → List Nat → List Region → List Nat → List Variant}
    {refRow : List Nat} {rows : List (String × List Nat)} {refID : String} {regions : List Region} {inter : List Nat}
    (hra : refAndRows vi = some (refRow, rows, refID)) (hregs : varRegions vi refRow = some (regions, inter))
    (hagg : vi.agg = true) (hwid : ∀ r ∈ rows, r.2.length = refRow.length) :
    String.join (varAggHeader :: varAggLines vi refID (rows.map fun r => (r.1, pairFn refRow r.2 regions inter))) =
      varCommand vi pairFn := by
  rw [varCommand_of_widths hra hregs hwid, hagg, if_pos rfl, variantsAggregate_eq_join]

/-- wherever the header call is placed: main has returned nil, so the worker has accepted every row, every row is as
wide as the reference row, and the sequential text is `varCommand vi pairFn` -/
theorem varAgg_text_of_nil {d : Dest} {hs pre : List String} {vi : VarIn}
    {pairFn : List Nat → List Nat → List Region → List Nat → List Variant}
    {refRow : List Nat} {rows : List (String × List Nat)} {refID : String} {regions : List Region} {inter : List Nat}
    {N capIn capOut : Nat} {rf : Option (Nat × RunErr)} {s : State _ _ _ _}
    (hra : refAndRows vi = some (refRow, rows, refID)) (hregs : varRegions vi refRow = some (regions, inter))
    (hagg : vi.agg = true) (hN : 1 ≤ N)
    (hr : Reach (varAggFCfg d hs pre vi pairFn refRow rows refID regions inter N capIn capOut rf) s)
    (hm : s.main = .ret none) :
    String.join (varAggHeader :: varAggLines vi refID (rows.map fun r => (r.1, pairFn refRow r.2 regions inter))) =
      varCommand vi pairFn :=
  varAgg_text_eq hra hregs hagg fun x hx => by
    obtain ⟨y, hy⟩ := ((sound hr).complete hN hm).all_ok x hx
    exact ((varWorker_widthChecked pairFn refRow regions inter).ok (liftW_ok.mp hy)).1

theorem variants_agg_fault_reported (d : Dest) (vi : VarIn)
    (pairFn : List Nat → List Nat → List Region → List Nat → List Variant)
    (refRow : List Nat) (rows : List (String × List Nat)) (refID : String) (regions : List Region) (inter : List Nat)
    (hsep : Separated (aggKeys vi.append vi.start vi.stop refID
      (rows.map fun r => (r.1, pairFn refRow r.2 regions inter))))
    (N capIn capOut : Nat) (rf : Option (Nat × RunErr)) (hN : 1 ≤ N) (k : Nat)
    (hd : d = .failFrom k ∨ d = .failOnce k) (hk1 : 1 ≤ k)
    (hkW : k ≤ 1 + (varAggLines vi refID (rows.map fun r => (r.1, pairFn refRow r.2 regions inter))).length)
    {s : State _ _ _ _}
    (hr : Reach (varAggFCfg d [] [varAggHeader] vi pairFn refRow rows refID regions inter N capIn capOut rf) s) :
    s.main ≠ .ret none :=
  agg_fault_reported (varAggF_isAW [] [varAggHeader]) hN (var_rowsAre hsep) k hd hk1 hkW hr

theorem variants_agg_fault_maximal_run_write_error (d : Dest) (vi : VarIn)
    (pairFn : List Nat → List Nat → List Region → List Nat → List Variant)
    (refRow : List Nat) (rows : List (String × List Nat)) (refID : String) (regions : List Region) (inter : List Nat)
    (hsep : Separated (aggKeys vi.append vi.start vi.stop refID
      (rows.map fun r => (r.1, pairFn refRow r.2 regions inter))))
    (N capIn capOut : Nat) (hN : 1 ≤ N) (hw : ∀ r ∈ rows, r.2.length = refRow.length) (k : Nat)
    (hd : d = .failFrom k ∨ d = .failOnce k) (hk1 : 1 ≤ k)
    (hkW : k ≤ 1 + (varAggLines vi refID (rows.map fun r => (r.1, pairFn refRow r.2 regions inter))).length)
    {s : State _ _ _ _}
    (hr : Reach (varAggFCfg d [] [varAggHeader] vi pairFn refRow rows refID regions inter N capIn capOut none) s)
    (hstuck : enabled (varAggFCfg d [] [varAggHeader] vi pairFn refRow rows refID regions inter N capIn capOut none) s
      = []) : s.main = .ret (some .write) :=
  agg_fault_maximal_run_write_error (varAggF_isAW [] [varAggHeader]) hN rfl (liftW_all_ok ((varWorker_widthChecked pairFn refRow regions inter).all_ok hw)) (var_rowsAre hsep)
    k hd hk1 hkW hr hstuck

theorem variants_agg_fault_beyond_run_harmless (d : Dest) (vi : VarIn)
    (pairFn : List Nat → List Nat → List Region → List Nat → List Variant)
    (refRow : List Nat) (rows : List (String × List Nat)) (refID : String) (regions : List Region) (inter : List Nat)
    (hra : refAndRows vi = some (refRow, rows, refID)) (hregs : varRegions vi refRow = some (regions, inter))
    (hagg : vi.agg = true)
    (hsep : Separated (aggKeys vi.append vi.start vi.stop refID
      (rows.map fun r => (r.1, pairFn refRow r.2 regions inter))))
    (N capIn capOut : Nat) (rf : Option (Nat × RunErr)) (hN : 1 ≤ N) {s : State _ _ _ _}
    (hr : Reach (varAggFCfg d [] [varAggHeader] vi pairFn refRow rows refID regions inter N capIn capOut rf) s)
    (hm : s.main = .ret none) :
    s.wst.sink.text = varCommand vi pairFn ∧
      s.wst.sink.calls =
        1 + (varAggLines vi refID (rows.map fun r => (r.1, pairFn refRow r.2 regions inter))).length ∧
      ∀ i, 1 ≤ i →
        i ≤ 1 + (varAggLines vi refID (rows.map fun r => (r.1, pairFn refRow r.2 regions inter))).length →
        d.fails i = false := by
  obtain ⟨h1, _, h3, h4⟩ :=
    agg_fault_beyond_run_harmless (varAggF_isAW [] [varAggHeader]) hN (var_rowsAre hsep) hr hm
  exact ⟨h1.trans (varAgg_text_of_nil hra hregs hagg hN hr hm), h3, h4⟩

theorem variants_agg_fault_beyond_run_maximal (d : Dest) (vi : VarIn)
    (pairFn : List Nat → List Nat → List Region → List Nat → List Variant)
    (refRow : List Nat) (rows : List (String × List Nat)) (refID : String) (regions : List Region) (inter : List Nat)
    (hra : refAndRows vi = some (refRow, rows, refID)) (hregs : varRegions vi refRow = some (regions, inter))
    (hagg : vi.agg = true)
    (hsep : Separated (aggKeys vi.append vi.start vi.stop refID
      (rows.map fun r => (r.1, pairFn refRow r.2 regions inter))))
    (N capIn capOut : Nat) (hN : 1 ≤ N) (hw : ∀ r ∈ rows, r.2.length = refRow.length)
    (hd : ∀ i, 1 ≤ i →
      i ≤ 1 + (varAggLines vi refID (rows.map fun r => (r.1, pairFn refRow r.2 regions inter))).length →
      d.fails i = false) {s : State _ _ _ _}
    (hr : Reach (varAggFCfg d [] [varAggHeader] vi pairFn refRow rows refID regions inter N capIn capOut none) s)
    (hstuck : enabled (varAggFCfg d [] [varAggHeader] vi pairFn refRow rows refID regions inter N capIn capOut none) s
      = []) :
    s.main = .ret none ∧ s.wst.sink.text = varCommand vi pairFn := by
  obtain ⟨h1, h2⟩ := agg_fault_beyond_run_maximal (varAggF_isAW [] [varAggHeader]) hN rfl (liftW_all_ok ((varWorker_widthChecked pairFn refRow regions inter).all_ok hw))
    (var_rowsAre hsep) hd hr hstuck
  exact ⟨h1, h2.trans (varAgg_text_eq hra hregs hagg hw)⟩

/-- **variants --aggregate (3)**: the whole sequence is `varCommand vi pairFn` when the rows are as wide as the reference
row (`varAgg_text_eq`) -/
theorem variants_agg_written_is_prefix (d : Dest) (vi : VarIn)
    (pairFn : List Nat → List Nat → List Region → List Nat → List Variant)
    (refRow : List Nat) (rows : List (String × List Nat)) (refID : String) (regions : List Region) (inter : List Nat)
    (hsep : Separated (aggKeys vi.append vi.start vi.stop refID
      (rows.map fun r => (r.1, pairFn refRow r.2 regions inter))))
    (N capIn capOut : Nat) (rf : Option (Nat × RunErr)) (hN : 1 ≤ N) {s : State _ _ _ _}
    (hr : Reach (varAggFCfg d [] [varAggHeader] vi pairFn refRow rows refID regions inter N capIn capOut rf) s) :
    ∃ j, aggAccepted d [] [varAggHeader] ([], 0) (varAccum vi refID) (varAggRowsOf vi) s =
      String.join ((varAggHeader ::
        varAggLines vi refID (rows.map fun r => (r.1, pairFn refRow r.2 regions inter))).take j) :=
  agg_written_is_prefix (varAggF_isAW [] [varAggHeader]) hN (var_rowsAre hsep) hr

theorem variants_agg_sink_empty_before_all_arrived (d : Dest) (vi : VarIn)
    (pairFn : List Nat → List Nat → List Region → List Nat → List Variant)
    (refRow : List Nat) (rows : List (String × List Nat)) (refID : String) (regions : List Region) (inter : List Nat)
    (N capIn capOut : Nat) (rf : Option (Nat × RunErr)) (hN : 1 ≤ N) {s : State _ _ _ _}
    (hr : Reach (varAggFCfg d [] [varAggHeader] vi pairFn refRow rows refID regions inter N capIn capOut rf) s)
    {i : Nat} (hi : i < rows.length) (hni : i ∉ s.arrival.map Prod.fst) :
    s.wst.sink = Sink.empty ∧
      aggAccepted d [] [varAggHeader] ([], 0) (varAccum vi refID) (varAggRowsOf vi) s = "" :=
  agg_sink_empty_before_all_arrived (varAggF_isAW [] [varAggHeader]) hN hr hi hni

end variantsAggregate

section samVariantsAggregate
open Gofasta.Model.SchedChain Gofasta.Lemmas.SchedChain Gofasta.Driver Gofasta.Lemmas.SamVarPipeline Gofasta.Base
open Gofasta.Lemmas.AggVariants

/-- the loop body of the aggregating writer at the end of the chain (`svAggAbsorb` of SchedCommands): it ranges over
cVariants -/
def svAccum (vi : VarIn) (refID : String) (acc : VarAcc) (r : Nat × SV) : VarAcc :=
  match r.2 with
  | .vars n vs => varAccum vi refID acc (r.1, (n, vs))
  | _ => acc

def samVarAggFCfg (d : Dest) (hs pre : List String) (vi : VarIn) (refID : String) (refRaw : List Nat)
    (blocks : List (List SamRec)) (pairOf : List SamRec → List Nat → List Nat × List Nat)
    (caller : List Nat → List Nat → List Region → List Nat → List Variant)
    (regions : List Region) (inter : List Nat) (N1 N2 cap0 cap1 cap2 : Nat) (rf : Option (Nat × RunErr)) :
    Cfg SV RunErr (AW VarAcc) where
  items := blocks.map .block
  pools := [⟨N1, liftW (svPair pairOf (refRaw.map upper)), cap1⟩, ⟨N2, liftW (svCall caller regions inter), cap2⟩]
  cap0 := cap0
  readFail := rf
  absorb := AW.absorb (svAccum vi refID)
  finish := AW.finish d pre (varAggRowsOf vi) .write
  init := AW.start d hs ([], 0)

theorem samVarAggF_isAW (hs pre : List String) {d : Dest} {vi : VarIn} {refID : String} {refRaw : List Nat}
    {blocks : List (List SamRec)} {pairOf : List SamRec → List Nat → List Nat × List Nat}
    {caller : List Nat → List Nat → List Region → List Nat → List Variant}
    {regions : List Region} {inter : List Nat} {N1 N2 cap0 cap1 cap2 : Nat} {rf : Option (Nat × RunErr)} :
    IsAWc (samVarAggFCfg d hs pre vi refID refRaw blocks pairOf caller regions inter N1 N2 cap0 cap1 cap2 rf) d hs pre
      ([], 0) (svAccum vi refID) (varAggRowsOf vi) .write :=
  ⟨fun _ _ => rfl, fun _ => rfl, rfl⟩

/-- the (name, mutation list) of each query, in file order: what the two pools make of the blocks -/
def samLists (refRaw : List Nat) (blocks : List (List SamRec))
    (pairOf : List SamRec → List Nat → List Nat × List Nat)
    (caller : List Nat → List Nat → List Region → List Nat → List Variant) (regions : List Region) (inter : List Nat) :
    List (String × List Variant) :=
  blocks.map fun b =>
    (qnameOf b, caller (pairOf b (refRaw.map upper)).1 (pairOf b (refRaw.map upper)).2 regions inter)

theorem samVar_rowsAre {d : Dest} {hs pre : List String} {vi : VarIn} {refID : String} {refRaw : List Nat}
    {blocks : List (List SamRec)} {pairOf : List SamRec → List Nat → List Nat × List Nat}
    {caller : List Nat → List Nat → List Region → List Nat → List Variant}
    {regions : List Region} {inter : List Nat} {N1 N2 cap0 cap1 cap2 : Nat} {rf : Option (Nat × RunErr)}
    (hsep : Separated (aggKeys vi.append vi.start vi.stop refID (samLists refRaw blocks pairOf caller regions inter))) :
    RowsAre (samVarAggFCfg d hs pre vi refID refRaw blocks pairOf caller regions inter N1 N2 cap0 cap1 cap2 rf).items
      (pass (samVarAggFCfg d hs pre vi refID refRaw blocks pairOf caller regions inter N1 N2 cap0 cap1 cap2 rf).pools)
      (([], 0) : VarAcc) (svAccum vi refID) (varAggRowsOf vi)
      (varAggLines vi refID (samLists refRaw blocks pairOf caller regions inter)) := by
  intro arr hc
  obtain ⟨hvars, hrows⟩ := sv_arrival_rows (complete_snd_perm hc svF_items_pass)
  replace hrows : ((arr.map fun r => (r.1, svRow r.2)).map Prod.snd).Perm
      (samLists refRaw blocks pairOf caller regions inter) := hrows
  have hsort := sorted_counts_any_order vi.append vi.start vi.stop refID _ _ hrows.symm hsep
  have hlen := (hrows.filter fun r => r.1 != refID).length_eq
  rw [sv_foldl (f := svAccum vi refID) (g := varAccum vi refID) (fun _ _ _ _ => rfl) arr _ hvars, var_fold_counts]
  simp only [varAggRowsOf, varAggLines, hsort, hlen]

theorem samVarAgg_text_eq {vi : VarIn} {refRaw : List Nat} {regions : List Region} {inter : List Nat}
    (refID : String) (blocks : List (List SamRec)) (pairOf : List SamRec → List Nat → List Nat × List Nat)
    (caller : List Nat → List Nat → List Region → List Nat → List Variant)
    (hregs : samRegions vi refRaw = some (regions, inter)) (hagg : vi.agg = true) :
    String.join (varAggHeader :: varAggLines vi refID (samLists refRaw blocks pairOf caller regions inter)) =
      samVarOn vi refID refRaw blocks pairOf caller := by
  rw [samVarOn_eq_aggregate refID blocks pairOf caller hregs hagg, variantsAggregate_eq_join]
  rfl

theorem sam_variants_agg_fault_reported (d : Dest) (vi : VarIn) (refID : String) (refRaw : List Nat)
    (blocks : List (List SamRec)) (pairOf : List SamRec → List Nat → List Nat × List Nat)
    (caller : List Nat → List Nat → List Region → List Nat → List Variant)
    (regions : List Region) (inter : List Nat)
    (hsep : Separated (aggKeys vi.append vi.start vi.stop refID (samLists refRaw blocks pairOf caller regions inter)))
    (N1 N2 cap0 cap1 cap2 : Nat) (rf : Option (Nat × RunErr)) (hN1 : 1 ≤ N1) (hN2 : 1 ≤ N2) (k : Nat)
    (hd : d = .failFrom k ∨ d = .failOnce k) (hk1 : 1 ≤ k)
    (hkW : k ≤ 1 + (varAggLines vi refID (samLists refRaw blocks pairOf caller regions inter)).length)
    {s : State _ _ _}
    (hr : Reach (samVarAggFCfg d [] [varAggHeader] vi refID refRaw blocks pairOf caller regions inter
      N1 N2 cap0 cap1 cap2 rf) s) : s.main ≠ .ret none :=
  chain_agg_fault_reported (samVarAggF_isAW [] [varAggHeader]) (two_pools_pos hN1 hN2) (samVar_rowsAre hsep)
    k hd hk1 hkW hr

theorem sam_variants_agg_fault_maximal_run_write_error (d : Dest) (vi : VarIn) (refID : String) (refRaw : List Nat)
    (blocks : List (List SamRec)) (pairOf : List SamRec → List Nat → List Nat × List Nat)
    (caller : List Nat → List Nat → List Region → List Nat → List Variant)
    (regions : List Region) (inter : List Nat)
    (hsep : Separated (aggKeys vi.append vi.start vi.stop refID (samLists refRaw blocks pairOf caller regions inter)))
    (N1 N2 cap0 cap1 cap2 : Nat) (hN1 : 1 ≤ N1) (hN2 : 1 ≤ N2) (k : Nat)
    (hd : d = .failFrom k ∨ d = .failOnce k) (hk1 : 1 ≤ k)
    (hkW : k ≤ 1 + (varAggLines vi refID (samLists refRaw blocks pairOf caller regions inter)).length)
    {s : State _ _ _}
    (hr : Reach (samVarAggFCfg d [] [varAggHeader] vi refID refRaw blocks pairOf caller regions inter
      N1 N2 cap0 cap1 cap2 none) s)
    (hstuck : enabled (samVarAggFCfg d [] [varAggHeader] vi refID refRaw blocks pairOf caller regions inter
      N1 N2 cap0 cap1 cap2 none) s = []) : s.main = .ret (some .write) :=
  chain_agg_fault_maximal_run_write_error (samVarAggF_isAW [] [varAggHeader]) (two_pools_pos hN1 hN2) rfl
    (all_ok_of_map svF_items_pass) (samVar_rowsAre hsep) k hd hk1 hkW hr hstuck

theorem sam_variants_agg_fault_beyond_run_harmless (d : Dest) (vi : VarIn) (refID : String) (refRaw : List Nat)
    (blocks : List (List SamRec)) (pairOf : List SamRec → List Nat → List Nat × List Nat)
    (caller : List Nat → List Nat → List Region → List Nat → List Variant)
    (regions : List Region) (inter : List Nat) (hregs : samRegions vi refRaw = some (regions, inter))
    (hagg : vi.agg = true)
    (hsep : Separated (aggKeys vi.append vi.start vi.stop refID (samLists refRaw blocks pairOf caller regions inter)))
    (N1 N2 cap0 cap1 cap2 : Nat) (rf : Option (Nat × RunErr)) (hN1 : 1 ≤ N1) (hN2 : 1 ≤ N2) {s : State _ _ _}
    (hr : Reach (samVarAggFCfg d [] [varAggHeader] vi refID refRaw blocks pairOf caller regions inter
      N1 N2 cap0 cap1 cap2 rf) s) (hm : s.main = .ret none) :
    s.wst.sink.text = samVarOn vi refID refRaw blocks pairOf caller ∧
      s.wst.sink.calls = 1 + (varAggLines vi refID (samLists refRaw blocks pairOf caller regions inter)).length ∧
      ∀ i, 1 ≤ i → i ≤ 1 + (varAggLines vi refID (samLists refRaw blocks pairOf caller regions inter)).length →
        d.fails i = false := by
  obtain ⟨h1, _, h3, h4⟩ := chain_agg_fault_beyond_run_harmless (samVarAggF_isAW [] [varAggHeader])
    (two_pools_pos hN1 hN2) (samVar_rowsAre hsep) hr hm
  exact ⟨h1.trans (samVarAgg_text_eq refID blocks pairOf caller hregs hagg), h3, h4⟩

theorem sam_variants_agg_written_is_prefix (d : Dest) (vi : VarIn) (refID : String) (refRaw : List Nat)
    (blocks : List (List SamRec)) (pairOf : List SamRec → List Nat → List Nat × List Nat)
    (caller : List Nat → List Nat → List Region → List Nat → List Variant)
    (regions : List Region) (inter : List Nat)
    (hsep : Separated (aggKeys vi.append vi.start vi.stop refID (samLists refRaw blocks pairOf caller regions inter)))
    (N1 N2 cap0 cap1 cap2 : Nat) (rf : Option (Nat × RunErr)) (hN1 : 1 ≤ N1) (hN2 : 1 ≤ N2) {s : State _ _ _}
    (hr : Reach (samVarAggFCfg d [] [varAggHeader] vi refID refRaw blocks pairOf caller regions inter
      N1 N2 cap0 cap1 cap2 rf) s) :
    ∃ j, chainAggAccepted d [] [varAggHeader] ([], 0) (svAccum vi refID) (varAggRowsOf vi) s =
      String.join ((varAggHeader ::
        varAggLines vi refID (samLists refRaw blocks pairOf caller regions inter)).take j) :=
  chain_agg_written_is_prefix (samVarAggF_isAW [] [varAggHeader]) (two_pools_pos hN1 hN2)
    (samVar_rowsAre hsep) hr

theorem sam_variants_agg_sink_empty_before_all_arrived (d : Dest) (vi : VarIn) (refID : String) (refRaw : List Nat)
    (blocks : List (List SamRec)) (pairOf : List SamRec → List Nat → List Nat × List Nat)
    (caller : List Nat → List Nat → List Region → List Nat → List Variant)
    (regions : List Region) (inter : List Nat)
    (N1 N2 cap0 cap1 cap2 : Nat) (rf : Option (Nat × RunErr)) (hN1 : 1 ≤ N1) (hN2 : 1 ≤ N2) {s : State _ _ _}
    (hr : Reach (samVarAggFCfg d [] [varAggHeader] vi refID refRaw blocks pairOf caller regions inter
      N1 N2 cap0 cap1 cap2 rf) s) {i : Nat} (hi : i < blocks.length) (hni : i ∉ s.arrival.map Prod.fst) :
    s.wst.sink = Sink.empty :=
  (chain_agg_nothing_before_all_arrived (samVarAggF_isAW [] [varAggHeader]) (two_pools_pos hN1 hN2) hr
    (i := i) (Nat.lt_of_lt_of_eq hi (List.length_map _).symm) hni).2.1

end samVariantsAggregate

/-! ## the statements are not vacuous: concrete inputs, two schedules each (by decide) -/

namespace Examples
open Gofasta.Lemmas.SchedCommands.Examples Gofasta.Lemmas.SchedFaults.Examples

/-! ### snps --aggregate (threshold 0): reference ACGT, rows ACGA, TCGT, AGGA; two workers, cIn of capacity 1,
cOut of capacity 2. The table has three rows - A1T, C2G, T4A - so W = 4: header, first row, MIDDLE row, LAST row -/

def aggRecs : List (String × List Nat) :=
  [("q1", [65, 67, 71, 65]), ("q2", [84, 67, 71, 84]), ("q3", [65, 71, 71, 65])]

def aggFEx (d : Dest) := snpsAggFCfg d [] [snpsAggHeader] false 0 1 exRef aggRecs 2 1 2 none

abbrev accEx (d : Dest) (s : Model.Sched.State (String × List Nat) (String × List Snp) RunErr (AW SnpAcc)) : String :=
  aggAccepted d [] [snpsAggHeader] ([], 0) snpsAccum (snpsAggRowsOf 0 1) s

example :
    snpsAggregate false 0 1 exRef aggRecs = "SNP,frequency\nA1T,0.333333333\nC2G,0.333333333\nT4A,0.666666667\n" ∧
    1 + (snpsAggLines false 0 1 exRef aggRecs).length = 4 := by
  decide +kernel

/-- **a fault at the header call** (the 1st of 4), permanent and transient -/
example :
    (Model.Sched.runSchedule (aggFEx (.failFrom 1)) sched1).arrival.map (·.1) = [0, 1, 2] ∧
    (Model.Sched.runSchedule (aggFEx (.failFrom 1)) sched2).arrival.map (·.1) = [1, 0, 2] ∧
    (Model.Sched.runSchedule (aggFEx (.failFrom 1)) sched1).main = .ret (some .write) ∧
    (Model.Sched.runSchedule (aggFEx (.failFrom 1)) sched2).main = .ret (some .write) ∧
    (Model.Sched.runSchedule (aggFEx (.failOnce 1)) sched1).main = .ret (some .write) ∧
    (Model.Sched.runSchedule (aggFEx (.failOnce 1)) sched2).main = .ret (some .write) ∧
    accEx (.failFrom 1) (Model.Sched.runSchedule (aggFEx (.failFrom 1)) sched1) = "" ∧
    accEx (.failOnce 1) (Model.Sched.runSchedule (aggFEx (.failOnce 1)) sched2) = "" := by
  decide +kernel

/-- **a fault at a middle row** (call 3 of 4: the row C2G).  Last conjunct: a `finish` that fails stores nothing, `wst`
is still the state before it - which is why the statements speak of `aggAccepted` and not of `wst.sink.text` -/
example :
    (Model.Sched.runSchedule (aggFEx (.failFrom 3)) sched1).main = .ret (some .write) ∧
    (Model.Sched.runSchedule (aggFEx (.failFrom 3)) sched2).main = .ret (some .write) ∧
    (Model.Sched.runSchedule (aggFEx (.failOnce 3)) sched1).main = .ret (some .write) ∧
    (Model.Sched.runSchedule (aggFEx (.failOnce 3)) sched2).main = .ret (some .write) ∧
    accEx (.failFrom 3) (Model.Sched.runSchedule (aggFEx (.failFrom 3)) sched1) = "SNP,frequency\nA1T,0.333333333\n" ∧
    accEx (.failOnce 3) (Model.Sched.runSchedule (aggFEx (.failOnce 3)) sched2) = "SNP,frequency\nA1T,0.333333333\n" ∧
    (Model.Sched.runSchedule (aggFEx (.failFrom 3)) sched1).wst.sink = Sink.empty := by
  decide +kernel

/-- **a fault at the last row** (call 4 of 4) -/
example :
    (Model.Sched.runSchedule (aggFEx (.failFrom 4)) sched1).main = .ret (some .write) ∧
    (Model.Sched.runSchedule (aggFEx (.failFrom 4)) sched2).main = .ret (some .write) ∧
    (Model.Sched.runSchedule (aggFEx (.failOnce 4)) sched1).main = .ret (some .write) ∧
    (Model.Sched.runSchedule (aggFEx (.failOnce 4)) sched2).main = .ret (some .write) ∧
    accEx (.failOnce 4) (Model.Sched.runSchedule (aggFEx (.failOnce 4)) sched2) =
      "SNP,frequency\nA1T,0.333333333\nC2G,0.333333333\n" := by
  decide +kernel

/-- **no fault, and a fault beyond the run** (k = 5 > W = 4) -/
example :
    (Model.Sched.runSchedule (aggFEx .ok) sched1).main = .ret none ∧
    (Model.Sched.runSchedule (aggFEx .ok) sched2).main = .ret none ∧
    (Model.Sched.runSchedule (aggFEx (.failFrom 5)) sched1).main = .ret none ∧
    (Model.Sched.runSchedule (aggFEx (.failFrom 5)) sched2).main = .ret none ∧
    (Model.Sched.runSchedule (aggFEx .ok) sched1).wst.sink.text = snpsAggregate false 0 1 exRef aggRecs ∧
    (Model.Sched.runSchedule (aggFEx .ok) sched2).wst.sink.text = snpsAggregate false 0 1 exRef aggRecs ∧
    (Model.Sched.runSchedule (aggFEx (.failFrom 5)) sched2).wst.sink.text = snpsAggregate false 0 1 exRef aggRecs ∧
    (Model.Sched.runSchedule (aggFEx .ok) sched2).wst.sink.calls = 4 ∧
    accEx .ok (Model.Sched.runSchedule (aggFEx .ok) sched2) = snpsAggregate false 0 1 exRef aggRecs := by
  decide +kernel

/-- **nothing is written before the last record**: the second schedule stopped after 12, 13 and 17 steps: one, two,
three records have arrived, the writer is at the head of its loop, no call has been made; the 18th step is `finish`:
four calls -/
example :
    (Model.Sched.runSchedule (aggFEx .ok) (sched2.take 12)).arrival.map (·.1) = [1] ∧
    (Model.Sched.runSchedule (aggFEx .ok) (sched2.take 12)).wst.sink = Sink.empty ∧
    (Model.Sched.runSchedule (aggFEx .ok) (sched2.take 13)).arrival.map (·.1) = [1, 0] ∧
    (Model.Sched.runSchedule (aggFEx .ok) (sched2.take 13)).wst.sink = Sink.empty ∧
    (Model.Sched.runSchedule (aggFEx .ok) (sched2.take 17)).arrival.map (·.1) = [1, 0, 2] ∧
    (Model.Sched.runSchedule (aggFEx .ok) (sched2.take 17)).wst.sink = Sink.empty ∧
    (Model.Sched.runSchedule (aggFEx .ok) (sched2.take 17)).writer = .recv ∧
    (Model.Sched.runSchedule (aggFEx .ok) (sched2.take 18)).writer = .doneS ∧
    (Model.Sched.runSchedule (aggFEx .ok) (sched2.take 18)).wst.sink.calls = 4 := by
  decide +kernel

example (sched : List Nat) : (Model.Sched.runSchedule (aggFEx (.failOnce 3)) sched).main ≠ .ret none :=
  snps_agg_fault_reported (.failOnce 3) false 0 1 exRef aggRecs 2 1 2 none (by decide) 3 (Or.inr rfl) (by decide)
    (by decide +kernel) (Lemmas.Sched.runSchedule_reach _ sched)

example (sched : List Nat) (h : (Model.Sched.runSchedule (aggFEx (.failFrom 5)) sched).main = .ret none) :
    (Model.Sched.runSchedule (aggFEx (.failFrom 5)) sched).wst.sink.text =
      "SNP,frequency\nA1T,0.333333333\nC2G,0.333333333\nT4A,0.666666667\n" :=
  (snps_agg_fault_beyond_run_harmless (.failFrom 5) false 0 1 exRef aggRecs 2 1 2 none (by decide)
    (Lemmas.Sched.runSchedule_reach _ sched) h).1.trans (by decide +kernel)

/-! ### variants --aggregate: the alignment of SchedCommands.Examples, reference from standard input; the table
has three rows, W = 4 -/

section variantsExample
open Gofasta.Driver Gofasta.Lemmas.SamVarPipeline Gofasta.Base Gofasta.Lemmas.AggVariants

def varAggFEx (d : Dest) :=
  varAggFCfg d [] [varAggHeader] (exVi "stdin" true) modelPair pvRef exRows "ref" exRegs.1 exRegs.2 2 1 2 none

/-- a fault at the header call, at the middle row, at the last row; no fault within the run -/
example :
    (Model.Sched.runSchedule (varAggFEx (.failOnce 3)) sched1).arrival.map (·.1) = [0, 1, 2] ∧
    (Model.Sched.runSchedule (varAggFEx (.failOnce 3)) sched2).arrival.map (·.1) = [1, 0, 2] ∧
    (Model.Sched.runSchedule (varAggFEx (.failFrom 1)) sched1).main = .ret (some .write) ∧
    (Model.Sched.runSchedule (varAggFEx (.failFrom 1)) sched2).main = .ret (some .write) ∧
    (Model.Sched.runSchedule (varAggFEx (.failOnce 3)) sched1).main = .ret (some .write) ∧
    (Model.Sched.runSchedule (varAggFEx (.failOnce 3)) sched2).main = .ret (some .write) ∧
    (Model.Sched.runSchedule (varAggFEx (.failFrom 4)) sched1).main = .ret (some .write) ∧
    (Model.Sched.runSchedule (varAggFEx (.failFrom 4)) sched2).main = .ret (some .write) ∧
    (Model.Sched.runSchedule (varAggFEx (.failOnce 5)) sched1).main = .ret none ∧
    (Model.Sched.runSchedule (varAggFEx .ok) sched2).main = .ret none ∧
    (Model.Sched.runSchedule (varAggFEx (.failOnce 5)) sched1).wst.sink.text = varCommand (exVi "stdin" true) modelPair ∧
    (Model.Sched.runSchedule (varAggFEx .ok) sched2).wst.sink.text = varCommand (exVi "stdin" true) modelPair ∧
    varCommand (exVi "stdin" true) modelPair =
      "mutation,frequency\naa:g:A2V(nuc:C5T),0.333333333\ndel:4:1,0.333333333\nnuc:C14T,0.333333333\n" := by
  decide +kernel

end variantsExample

/-! ### sam variants --aggregate: two pools of two workers (the blocks of SchedCommands.Examples); the table has four
rows, W = 5; a transient fault at call 3 (a middle row) -/

section chainExample
open Gofasta.Driver Gofasta.Lemmas.SamVarPipeline Gofasta.Base Gofasta.Lemmas.AggVariants

def samAggFEx (d : Dest) := samVarAggFCfg d [] [varAggHeader] (pvVi "gff" true) "ref" pvRef
  (samBlocks [pvRec, pvRec2, pvRec3]) (fun b r => blockToSeqPair b r) modelPair svRegs.1 svRegs.2 2 2 1 2 2 none

set_option maxRecDepth 100000 in
example :
    (Model.SchedChain.runSchedule (samAggFEx (.failOnce 3)) csched1).arrival.map (·.1) = [0, 1, 2] ∧
    (Model.SchedChain.runSchedule (samAggFEx (.failOnce 3)) csched2).arrival.map (·.1) = [1, 0, 2] ∧
    (Model.SchedChain.runSchedule (samAggFEx (.failOnce 3)) csched1).main = .ret (some .write) ∧
    (Model.SchedChain.runSchedule (samAggFEx (.failOnce 3)) csched2).main = .ret (some .write) ∧
    (Model.SchedChain.runSchedule (samAggFEx (.failFrom 1)) csched2).main = .ret (some .write) ∧
    (Model.SchedChain.runSchedule (samAggFEx (.failFrom 5)) csched2).main = .ret (some .write) ∧
    chainAggAccepted (.failOnce 3) [] [varAggHeader] ([], 0) (svAccum (pvVi "gff" true) "ref")
      (varAggRowsOf (pvVi "gff" true)) (Model.SchedChain.runSchedule (samAggFEx (.failOnce 3)) csched2) =
        "mutation,frequency\naa:g:A2E(nuc:C5A),0.333333333\n" := by
  decide +kernel

set_option maxRecDepth 100000 in
example :
    (Model.SchedChain.runSchedule (samAggFEx .ok) csched1).main = .ret none ∧
    (Model.SchedChain.runSchedule (samAggFEx (.failFrom 6)) csched2).main = .ret none ∧
    (Model.SchedChain.runSchedule (samAggFEx .ok) csched1).wst.sink.text =
      "mutation,frequency\naa:g:A2E(nuc:C5A),0.333333333\naa:g:A2V(nuc:C5T),0.333333333\nins:4:1,0.333333333\ndel:8:2,0.333333333\n" ∧
    (Model.SchedChain.runSchedule (samAggFEx (.failFrom 6)) csched2).wst.sink.text =
      "mutation,frequency\naa:g:A2E(nuc:C5A),0.333333333\naa:g:A2V(nuc:C5T),0.333333333\nins:4:1,0.333333333\ndel:8:2,0.333333333\n" ∧
    (Model.SchedChain.runSchedule (samAggFEx .ok) csched2).wst.sink.calls = 5 := by
  decide +kernel

/-- the general theorem on this input: no schedule of the two-pool chain returns nil (the tie hypothesis `Separated`
is decided on the four keys that occur) -/
example (sched : List Nat) : (Model.SchedChain.runSchedule (samAggFEx (.failOnce 3)) sched).main ≠ .ret none := by
  -- `Separated` and `3 ≤ W` both need the mutation lists of the three blocks: they are evaluated once
  refine (fun h : _ ∧ _ => sam_variants_agg_fault_reported (.failOnce 3) (pvVi "gff" true) "ref" pvRef
    (samBlocks [pvRec, pvRec2, pvRec3]) (fun b r => blockToSeqPair b r) modelPair svRegs.1 svRegs.2 h.1 2 2 1 2 2 none
    (by decide) (by decide) 3 (Or.inr rfl) (by decide) h.2 (Lemmas.SchedChain.runSchedule_reach _ sched)) ?_
  rw [separated_iff]
  decide +kernel

end chainExample

/-! ### (B) the header write at once: `gofasta snps` per-sequence output (the configuration of SchedFaults.Examples) -/

/-- the first call fails; the schedule [1] takes main's `cErr` arm as the very first step (SchedFaults: the same fault
is reported when the first record arrives - there one record has arrived) -/
example :
    (runHdr (snpsFEx (.failFrom 1)) .write ((Dest.failFrom 1).fails 1) sched1).main = .ret (some .write) ∧
    (runHdr (snpsFEx (.failFrom 1)) .write ((Dest.failFrom 1).fails 1) sched2).main = .ret (some .write) ∧
    (runHdr (snpsFEx (.failFrom 1)) .write ((Dest.failFrom 1).fails 1) sched2).arrival = [] ∧
    (runHdr (snpsFEx (.failOnce 1)) .write ((Dest.failOnce 1).fails 1) sched2).main = .ret (some .write) ∧
    (runHdr (snpsFEx (.failOnce 1)) .write ((Dest.failOnce 1).fails 1) sched2).wst.sink = ⟨"", 1, true⟩ ∧
    (runHdr (snpsFEx (.failFrom 1)) .write ((Dest.failFrom 1).fails 1) [1]).main = .ret (some .write) ∧
    (Model.Sched.runSchedule (snpsFEx (.failFrom 1)) sched1).arrival.length = 1 := by
  decide +kernel

/-- a schedule that lets the pipeline run as long as possible before main takes the error (a step other than main's
`cErr` arm is chosen as long as there is one): cOut fills up, a worker blocks on its send, main gets to stage 2, then
only main's `cErr` arm is left - and still nothing has reached the writer -/
example :
    (runHdr (snpsFEx (.failFrom 1)) .write true [0, 1, 0, 1, 1, 0, 1, 1, 1, 1]).arrival = [] ∧
    (runHdr (snpsFEx (.failFrom 1)) .write true [0, 1, 0, 1, 1, 0, 1, 1, 1, 1]).writer = .errS .write ∧
    (runHdr (snpsFEx (.failFrom 1)) .write true [0, 1, 0, 1, 1, 0, 1, 1, 1, 1]).main = .stage2 ∧
    (runHdr (snpsFEx (.failFrom 1)) .write true [0, 1, 0, 1, 1, 0, 1, 1, 1, 1]).cOut.queue.map (·.1) = [0, 1] ∧
    Model.Sched.enabled (snpsFEx (.failFrom 1))
      (runHdr (snpsFEx (.failFrom 1)) .write true [0, 1, 0, 1, 1, 0, 1, 1, 1, 1]) = [.mainErrWriter] ∧
    (runHdr (snpsFEx (.failFrom 1)) .write true [0, 1, 0, 1, 1, 0, 1, 1, 1, 1, 0]).main = .ret (some .write) := by
  decide +kernel

/-- the header call succeeds: the header-first start is `init`; a fault at a middle call, and no fault -/
example :
    (runHdr (snpsFEx (.failFrom 3)) .write ((Dest.failFrom 3).fails 1) sched1).main = .ret (some .write) ∧
    (runHdr (snpsFEx (.failFrom 3)) .write ((Dest.failFrom 3).fails 1) sched2).main = .ret (some .write) ∧
    (runHdr (snpsFEx .ok) .write (Dest.ok.fails 1) sched2).main = .ret none ∧
    (runHdr (snpsFEx .ok) .write (Dest.ok.fails 1) sched2).wst.sink.text = snpsOutput false exRef exRecs := by
  decide +kernel

/-- the general theorem: on EVERY schedule from the header-first start nothing is ever presented after the header -/
example (sched : List Nat) :
    (runHdr (snpsFEx (.failOnce 1)) .write ((Dest.failOnce 1).fails 1) sched).arrival = [] ∧
    (runHdr (snpsFEx (.failOnce 1)) .write ((Dest.failOnce 1).fails 1) sched).main ≠ .ret none := by
  obtain ⟨h1, _, _, _, h5⟩ := snps_header_fault_immediate (.failOnce 1) false exRef exRecs 2 1 2 none (Or.inr rfl)
    (runHdr_reachFrom _ _ _ sched)
  exact ⟨h1, h5⟩

/-- (B) for the aggregating writer that writes its header before the loop -/
example :
    (runHdr (snpsAggFCfg (.failFrom 1) [snpsAggHeader] [] false 0 1 exRef aggRecs 2 1 2 none) .write true sched2).main
      = .ret (some .write) ∧
    (runHdr (snpsAggFCfg (.failFrom 1) [snpsAggHeader] [] false 0 1 exRef aggRecs 2 1 2 none) .write true sched2).arrival
      = [] ∧
    (runHdr (snpsAggFCfg (.failOnce 3) [snpsAggHeader] [] false 0 1 exRef aggRecs 2 1 2 none) .write false sched2).main
      = .ret (some .write) ∧
    (runHdr (snpsAggFCfg .ok [snpsAggHeader] [] false 0 1 exRef aggRecs 2 1 2 none) .write false sched2).wst.sink.text
      = snpsAggregate false 0 1 exRef aggRecs := by
  decide +kernel

end Examples

end Gofasta.Lemmas.SchedFaultsAgg
