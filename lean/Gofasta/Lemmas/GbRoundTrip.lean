import Gofasta.Model.GbText
import Gofasta.Lemmas.TextFacts
import Gofasta.Lemmas.ListFacts
/-
C14 (text level): the GenBank location grammar and the flat-file reader read back what a writer of well-formed
records writes.
  * strconv.Atoi with its error kinds agrees with the Atoi of Model/Csv.lean;
  * GetPositions on the text of a well-formed location of any of the five shapes, with any number of segments, gives
    exactly locPositions of Model/Regions.lean;
  * unNestRecur terminates: the fuel handed to it by getPositions is never exhausted;
  * parseLocation is the inverse of renderLocation on the five location shapes of Model/Regions.lean;
  * ReadGenBank on the rendered flat file (line ends LF or CRLF, the last one present or not; its bufio.Scanner is the
    one of the GFF3 reader, Lemmas/TextFacts) gives back the feature table and the sequence; a line of 1 MiB or more is
    never read as a record (`gb_long_line_reported`; `gb_long_line_result` says where model and code differ there).
-/
namespace Gofasta.Lemmas.GbRT
open Gofasta Model Model.Csv Model.GbText
open Gofasta.Lemmas.CsvRT

/-! ### the byte constants are the texts they stand for -/

theorem joinCut_text : joinCut = "join(".toList.map Char.toNat := by decide +kernel
theorem compCut_text : compCut = "complement(".toList.map Char.toNat := by decide +kernel
theorem joinWord_text : joinWord = "join".toList.map Char.toNat := by decide +kernel
theorem compWord_text : compWord = "comp".toList.map Char.toNat := by decide +kernel
theorem joinOuter_text : joinOuter = "join()".toList.map Char.toNat := by decide +kernel
theorem compOuter_text : compOuter = "complement()".toList.map Char.toNat := by decide +kernel
theorem featuresWord_text : featuresWord = "FEATURES".toList.map Char.toNat := by decide +kernel
theorem originWord_text : originWord = "ORIGIN".toList.map Char.toNat := by decide +kernel

/-! ### first byte, last byte, every byte of a text -/

def Starts (P : Nat → Prop) (x : Bytes) : Prop := ∃ c t, x = c :: t ∧ P c
def Ends (P : Nat → Prop) (x : Bytes) : Prop := ∃ y c, x = y ++ [c] ∧ P c

theorem Starts.append {P : Nat → Prop} {x : Bytes} (h : Starts P x) (y : Bytes) : Starts P (x ++ y) := by
  obtain ⟨c, t, rfl, hc⟩ := h
  exact ⟨c, t ++ y, rfl, hc⟩

theorem Ends.append {P : Nat → Prop} {y : Bytes} (h : Ends P y) (x : Bytes) : Ends P (x ++ y) := by
  obtain ⟨z, c, rfl, hc⟩ := h
  exact ⟨x ++ z, c, (List.append_assoc x z [c]).symm, hc⟩

theorem Starts.ne_nil {P : Nat → Prop} {x : Bytes} (h : Starts P x) : x ≠ [] := by
  obtain ⟨c, t, rfl, _⟩ := h
  exact List.cons_ne_nil c t

theorem starts_of_all {P : Nat → Prop} {x : Bytes} (hne : x ≠ []) (h : ∀ b ∈ x, P b) : Starts P x := by
  cases x with
  | nil => exact absurd rfl hne
  | cons c t => exact ⟨c, t, rfl, h c List.mem_cons_self⟩

theorem ends_of_all {P : Nat → Prop} {x : Bytes} (hne : x ≠ []) (h : ∀ b ∈ x, P b) : Ends P x :=
  ⟨x.dropLast, x.getLast hne, (List.dropLast_concat_getLast hne).symm, h _ (List.getLast_mem hne)⟩

theorem all_append {α : Type} {P : α → Prop} {a b : List α} (ha : ∀ x ∈ a, P x) (hb : ∀ x ∈ b, P x) : ∀ x ∈ a ++ b, P x :=
  List.forall_mem_append.2 ⟨ha, hb⟩

theorem all_cons {α : Type} {P : α → Prop} {c : α} {a : List α} (hc : P c) (ha : ∀ x ∈ a, P x) : ∀ x ∈ c :: a, P x :=
  List.forall_mem_cons.2 ⟨hc, ha⟩

theorem all_nil {α : Type} {P : α → Prop} : ∀ x ∈ ([] : List α), P x := fun _ h => nomatch h

/-! ### strconv.Atoi -/

def foldDigits (ds : Bytes) (init : Nat) : Nat := ds.foldl (fun acc b => 10 * acc + (b - 48)) init

theorem parseDigits_cons_digit (b : Nat) (t : Bytes) (n : Nat) (hb : isDigitB b = true) :
    parseDigits (b :: t) n =
      if n ≥ maxUint64 / 10 + 1 ∨ 10 * n + (b - 48) > maxUint64 then .rngErr else parseDigits t (10 * n + (b - 48)) := by
  simp only [isDigitB] at hb
  simp only [parseDigits, hb, Bool.not_true, Bool.false_eq_true, if_false, Nat.mul_comm n 10]
  by_cases h1 : n ≥ maxUint64 / 10 + 1
  · simp only [h1, if_true, true_or]
  · simp only [h1, if_false, false_or]

theorem parseDigits_digits (ds : Bytes) : ∀ (n : Nat), (∀ b ∈ ds, isDigitB b = true) → n ≤ maxUint64 →
    parseDigits ds n = if foldDigits ds n ≤ maxUint64 then .ok (foldDigits ds n : Nat) else .rngErr := by
  induction ds with
  | nil => intro n _ hn; simp only [parseDigits, foldDigits, List.foldl_nil, hn, if_true]
  | cons b t ih =>
    intro n hd hn
    have hge : 10 * n + (b - 48) ≤ foldDigits t (10 * n + (b - 48)) := digitsFold_ge t _
    have hstep : foldDigits (b :: t) n = foldDigits t (10 * n + (b - 48)) := rfl
    rw [parseDigits_cons_digit b t n (hd b List.mem_cons_self), hstep]
    by_cases h : n ≥ maxUint64 / 10 + 1 ∨ 10 * n + (b - 48) > maxUint64
    · have : ¬ foldDigits t (10 * n + (b - 48)) ≤ maxUint64 := by
        simp only [maxUint64] at h hge ⊢
        omega
      simp only [h, this, if_true, if_false]
    · rw [if_neg h]
      exact ih _ (fun x hx => hd x (List.mem_cons_of_mem _ hx)) (by omega)

theorem parseDigits_not_ok (ds : Bytes) : ∀ (n : Nat), (∃ b ∈ ds, isDigitB b = false) → ∀ v, parseDigits ds n ≠ .ok v := by
  induction ds with
  | nil => intro n h; obtain ⟨b, hb, _⟩ := h; cases hb
  | cons b t ih =>
    intro n h v
    cases hb : isDigitB b with
    | true =>
      rw [parseDigits_cons_digit b t n hb]
      split
      · simp
      · obtain ⟨x, hx, hx2⟩ := h
        rcases List.mem_cons.1 hx with rfl | hx'
        · rw [hb] at hx2; cases hx2
        · exact ih _ ⟨x, hx', hx2⟩ v
    | false =>
      simp only [isDigitB] at hb
      simp [parseDigits, hb]

/-- the left-hand side is the body of `Csv.atoi` for the digits after the sign, written out -/
theorem atoiSigned_forget (ds : Bytes) (neg : Bool) :
    (if ds = [] ∨ (!ds.all isDigitB) = true then (none : Option Int)
     else if neg = true then (if digitsVal ds ≤ maxInt64 + 1 then some (-(digitsVal ds : Int)) else none)
     else (if digitsVal ds ≤ maxInt64 then some (digitsVal ds : Int) else none)) = (atoiSigned neg ds).toOption := by
  unfold atoiSigned
  by_cases hnil : ds = []
  · simp [hnil, AtoiRes.toOption]
  · cases hall : ds.all isDigitB with
    | true =>
      have hv : foldDigits ds 0 = digitsVal ds := rfl
      rw [parseDigits_digits ds 0 (List.all_eq_true.1 hall) (Nat.zero_le _), hv]
      simp only [hnil, false_or, Bool.not_true, Bool.false_eq_true, if_false]
      by_cases hu : digitsVal ds ≤ maxUint64
      · simp only [hu, if_true]
        cases neg
        · by_cases h : digitsVal ds ≤ maxInt64
          · have h' : ¬ ((digitsVal ds : Int) > (maxInt64 : Int)) := by omega
            simp [h, h', AtoiRes.toOption]
          · have h' : (digitsVal ds : Int) > (maxInt64 : Int) := by omega
            simp [h, h', AtoiRes.toOption]
        · by_cases h : digitsVal ds ≤ maxInt64 + 1
          · have h' : ¬ ((digitsVal ds : Int) > (maxInt64 : Int) + 1) := by omega
            simp [h, h', AtoiRes.toOption]
          · have h' : (digitsVal ds : Int) > (maxInt64 : Int) + 1 := by omega
            simp [h, h', AtoiRes.toOption]
      · have h1 : ¬ (digitsVal ds ≤ maxInt64 + 1) := by simp only [maxInt64, maxUint64] at hu ⊢; omega
        have h2 : ¬ (digitsVal ds ≤ maxInt64) := by omega
        simp only [hu, h1, h2, if_false]
        cases neg <;> rfl
    | false =>
      have hno := parseDigits_not_ok ds 0 (by
        obtain ⟨x, hx, hx2⟩ := List.all_eq_false.1 hall
        exact ⟨x, hx, by simpa using hx2⟩)
      simp only [hnil, Bool.not_false, or_true, if_true]
      cases hp : parseDigits ds 0 with
      | ok v => exact absurd hp (hno v)
      | synErr => rfl
      | rngErr => rfl

theorem atoi_forget (s : Bytes) : atoi s = (atoiE s).toOption := by
  cases s with
  | nil => simp [atoi, atoiE, AtoiRes.toOption]
  | cons b t =>
    unfold atoi atoiE
    by_cases h45 : b = 45
    · subst h45
      simpa using atoiSigned_forget t true
    · by_cases h43 : b = 43
      · subst h43
        simpa using atoiSigned_forget t false
      · simpa [h45, h43] using atoiSigned_forget (b :: t) false

theorem atoiE_digitsOf (n : Nat) (hn : n ≤ maxInt64) : atoiE (digitsOf n) = .ok (n : Int) := by
  have h := atoi_digitsOf n hn
  rw [atoi_forget] at h
  cases hr : atoiE (digitsOf n) with
  | ok v => rw [hr] at h; simp only [AtoiRes.toOption, Option.some.injEq] at h; rw [h]
  | synErr => rw [hr] at h; cases h
  | rngErr => rw [hr] at h; cases h

/-! ### strings.Split(s, "..") -/

theorem consB_ne_nil (b : Nat) (L : List Bytes) : consB b L ≠ [] := by
  cases L <;> simp [consB]

theorem splitDD_ne_nil : ∀ (s : Bytes), splitDD s ≠ []
  | [] => by simp [splitDD]
  | [_] => by simp [splitDD]
  | a :: b :: t => by
    simp only [splitDD]
    split
    · simp
    · exact consB_ne_nil _ _

theorem splitDD_cons_ne (a : Nat) (t : Bytes) (ha : a ≠ dot) : splitDD (a :: t) = consB a (splitDD t) := by
  cases t with
  | nil => simp [splitDD, consB]
  | cons b t' => simp [splitDD, ha]

theorem splitDD_plain : ∀ (d : Bytes), (∀ b ∈ d, b ≠ dot) → splitDD d = [d] := by
  intro d
  induction d with
  | nil => intro _; rfl
  | cons a t ih =>
    intro h
    rw [splitDD_cons_ne a t (h a List.mem_cons_self), ih (fun x hx => h x (List.mem_cons_of_mem _ hx))]
    rfl

theorem splitDD_append_dd : ∀ (d rest : Bytes), (∀ b ∈ d, b ≠ dot) →
    splitDD (d ++ dot :: dot :: rest) = d :: splitDD rest := by
  intro d
  induction d with
  | nil => intro rest _; simp [splitDD]
  | cons a t ih =>
    intro rest h
    rw [List.cons_append, splitDD_cons_ne a _ (h a List.mem_cons_self),
      ih rest (fun x hx => h x (List.mem_cons_of_mem _ hx))]
    rfl

theorem digits_no_dot (n : Nat) : ∀ b ∈ digitsOf n, b ≠ dot := digitsOf_ne n dot (by decide)

theorem splitDD_segB (s : Nat × Nat) : splitDD (segB s) = [digitsOf s.1, digitsOf s.2] := by
  unfold segB
  rw [splitDD_append_dd _ _ (digits_no_dot s.1), splitDD_plain _ (digits_no_dot s.2)]

theorem atoiPair_segB (s : Nat × Nat) (h1 : s.1 ≤ maxInt64) (h2 : s.2 ≤ maxInt64) :
    atoiPair (segB s) = .ok (s.1 : Int) (s.2 : Int) := by
  unfold atoiPair
  rw [splitDD_segB]
  simp only [atoiE_digitsOf s.1 h1, atoiE_digitsOf s.2 h2]

/-! ### the locations the theorems are about -/

def SegOk (s : Nat × Nat) : Prop := s.1 ≤ maxInt64 ∧ s.2 ≤ maxInt64

instance (s : Nat × Nat) : Decidable (SegOk s) := by unfold SegOk; exact inferInstance

def LocOk (l : Loc) : Prop :=
  l.2 ≠ [] ∧ ((l.1 = .range ∨ l.1 = .comp) → l.2.length = 1) ∧ ∀ s ∈ l.2, SegOk s

instance (l : Loc) : Decidable (LocOk l) := by unfold LocOk; exact inferInstance

theorem LocOk.one {form : LocForm} {segs : List (Nat × Nat)} (h : LocOk (form, segs)) (hf : form = .range ∨ form = .comp) :
    ∃ s, segs = [s] ∧ SegOk s := by
  obtain ⟨_, hone, hok⟩ := h
  have hlen := hone hf
  cases segs with
  | nil => cases hlen
  | cons s t =>
    cases t with
    | nil => exact ⟨s, rfl, hok s List.mem_cons_self⟩
    | cons _ _ => simp at hlen

/-! ### what the rendered pieces start with and consist of -/

theorem all_segB {P : Nat → Prop} (hd : ∀ n, ∀ b ∈ digitsOf n, P b) (hdot : P dot) (s : Nat × Nat) : ∀ b ∈ segB s, P b :=
  all_append (hd s.1) (all_cons hdot (all_cons hdot (hd s.2)))

def NoParen (x : Bytes) : Prop := ∀ b ∈ x, b ≠ lp ∧ b ≠ rp

theorem noParen_segB (s : Nat × Nat) : NoParen (segB s) :=
  all_segB (fun n b hb => ⟨digitsOf_ne n lp (by decide) b hb, digitsOf_ne n rp (by decide) b hb⟩) (by decide) s

theorem noParen_joinSegs (segs : List (Nat × Nat)) : NoParen (joinB commaB (segs.map segB)) :=
  forall_mem_joinB (by decide) (List.forall_mem_map.2 fun s _ => noParen_segB s)

abbrev StartsDigit : Bytes → Prop := Starts fun c => isDigitB c = true

theorem startsDigit_segB (s : Nat × Nat) : StartsDigit (segB s) :=
  (starts_of_all (digitsOf_ne_nil s.1) (digitsOf_isDigit s.1)).append _

theorem startsDigit_join (segs : List (Nat × Nat)) (h : segs ≠ []) : StartsDigit (joinB commaB (segs.map segB)) := by
  cases segs with
  | nil => exact absurd rfl h
  | cons s t =>
    obtain ⟨r, hr⟩ := joinB_prefix commaB (segB s) (t.map segB)
    rw [List.map_cons, hr]
    exact (startsDigit_segB s).append _

/-! ### strings.TrimLeft / TrimRight on the rendered pieces -/

theorem trimLeftSet_cut (cut : List Nat) (hc : ∀ b ∈ cut, isDigitB b = false) (x : Bytes) (hx : StartsDigit x) :
    trimLeftSet cut (cut ++ x) = x := by
  obtain ⟨c, t, rfl, hd⟩ := hx
  have hnot : c ∉ cut := fun hm => by rw [hc c hm] at hd; cases hd
  unfold trimLeftSet
  rw [List.dropWhile_append_of_pos (by simp), List.dropWhile_cons_of_neg (by simpa using hnot)]

theorem trimRightRp_snoc (x : Bytes) (hx : NoParen x) : trimRightRp (x ++ [rp]) = x := by
  have : x.reverse.dropWhile (fun b => b == rp) = x.reverse := by
    cases h : x.reverse with
    | nil => rfl
    | cons c t =>
      have hc : c ≠ rp := (hx c (List.mem_reverse.1 (h ▸ List.mem_cons_self))).2
      simp [hc]
  simp [trimRightRp, List.reverse_append, this]

/-! ### posFromRange, posFromJoin, posFromComp on the rendered pieces -/

def segRange (s : Nat × Nat) : List Int := rangeInt (s.1 : Int) (s.2 : Int)

theorem posFromRange_segB (s : Nat × Nat) (h : SegOk s) : posFromRange (segB s) = .ok (segRange s) := by
  unfold posFromRange
  rw [splitDD_segB]
  simp only [atoiE_digitsOf s.1 h.1, atoiE_digitsOf s.2 h.2, segRange]

theorem segB_no_comma (s : Nat × Nat) : ∀ b ∈ segB s, b ≠ commaB :=
  all_segB (fun n => digitsOf_ne n commaB (by decide)) (by decide) s

theorem splitB_joinSegs {g : Nat × Nat → Bytes} (hg : ∀ s, ∀ b ∈ g s, b ≠ commaB) (segs : List (Nat × Nat)) (hne : segs ≠ []) :
    splitB commaB (joinB commaB (segs.map g)) = segs.map g :=
  splitB_joinB commaB _ (by simpa using hne) fun p hp => by
    obtain ⟨s, _, rfl⟩ := List.mem_map.1 hp
    exact hg s

theorem joinParts_segs : ∀ (segs : List (Nat × Nat)) (acc : List Int), (∀ s ∈ segs, SegOk s) →
    joinParts (segs.map segB) acc = .ok (acc ++ segs.flatMap segRange) := by
  intro segs
  induction segs with
  | nil => intro acc _; simp [joinParts]
  | cons s t ih =>
    intro acc h
    have hs := h s List.mem_cons_self
    simp only [List.map_cons, joinParts, atoiPair_segB s hs.1 hs.2]
    rw [ih _ (fun x hx => h x (List.mem_cons_of_mem _ hx))]
    simp [segRange]

theorem posFromJoin_render (segs : List (Nat × Nat)) (hne : segs ≠ []) (h : ∀ s ∈ segs, SegOk s) :
    posFromJoin (joinCut ++ joinB commaB (segs.map segB) ++ [rp]) = .ok (segs.flatMap segRange) := by
  unfold posFromJoin
  rw [List.append_assoc, trimLeftSet_cut _ (by decide) _ ((startsDigit_join segs hne).append _),
    trimRightRp_snoc _ (noParen_joinSegs segs), splitB_joinSegs segB_no_comma segs hne, joinParts_segs segs [] h]
  rfl

theorem posFromComp_render (s : Nat × Nat) (h : SegOk s) :
    posFromComp (compSegB s) = .ok (segRange s).reverse := by
  unfold posFromComp compSegB
  rw [List.append_assoc, trimLeftSet_cut _ (by decide) _ ((startsDigit_segB s).append _),
    trimRightRp_snoc _ (noParen_segB s), atoiPair_segB s h.1 h.2]
  rfl

/-! ### `w(x)`, the texts of the grammar: isNested and hasDD on them -/

/-- the bytes of `complement` -/
def complementWord : Bytes := [99, 111, 109, 112, 108, 101, 109, 101, 110, 116]

def wrap (w x : Bytes) : Bytes := w ++ lp :: (x ++ [rp])

theorem joinCut_wrap (x : Bytes) : joinCut ++ x ++ [rp] = wrap joinWord x := rfl

theorem compCut_wrap (x : Bytes) : compCut ++ x ++ [rp] = wrap complementWord x := rfl

theorem compSegB_eq (s : Nat × Nat) : compSegB s = wrap complementWord (segB s) := compCut_wrap _

theorem noParen_joinWord : NoParen joinWord := by unfold NoParen; decide
theorem noParen_complementWord : NoParen complementWord := by unfold NoParen; decide
theorem complementWord_no_comma : ∀ b ∈ complementWord, b ≠ commaB := by decide
theorem joinWord_no_comma : ∀ b ∈ joinWord, b ≠ commaB := by decide

theorem isNestedAux_noParen : ∀ (x rest : Bytes) (d : Int), NoParen x → d ≤ 1 →
    isNestedAux (x ++ rest) d = isNestedAux rest d := by
  intro x
  induction x with
  | nil => intro rest d _ _; rfl
  | cons b t ih =>
    intro rest d hx hd
    have hb := hx b List.mem_cons_self
    have hgt : ¬ (d > 1) := by omega
    simp only [List.cons_append, isNestedAux, hb.1, hb.2, if_false, hgt]
    exact ih rest d (fun y hy => hx y (List.mem_cons_of_mem _ hy)) hd

theorem isNestedAux_lp (rest : Bytes) (d : Int) :
    isNestedAux (lp :: rest) d = if d + 1 > 1 then true else isNestedAux rest (d + 1) := by
  simp [isNestedAux]

theorem isNestedAux_rp (rest : Bytes) (d : Int) (hd : d ≤ 2) : isNestedAux (rp :: rest) d = isNestedAux rest (d - 1) := by
  have h1 : rp ≠ lp := by decide
  have h2 : ¬ (d - 1 > 1) := by omega
  simp [isNestedAux, h1, h2]

theorem isNested_noParen (x : Bytes) (h : NoParen x) : isNested x = false := by
  have := isNestedAux_noParen x [] 0 h (by omega)
  simpa [isNested, isNestedAux] using this

theorem isNested_wrap (w x : Bytes) (hw : NoParen w) (hx : NoParen x) : isNested (wrap w x) = false := by
  unfold isNested wrap
  rw [isNestedAux_noParen w _ 0 hw (by omega), isNestedAux_lp]
  simp only [Int.zero_add, Int.lt_irrefl, gt_iff_lt, if_false]
  rw [isNestedAux_noParen x _ 1 hx (by omega), isNestedAux_rp _ 1 (by omega)]
  rfl

theorem isNested_two (w w' rest : Bytes) (hw : NoParen w) (hw' : NoParen w') :
    isNested (w ++ lp :: (w' ++ lp :: rest)) = true := by
  unfold isNested
  rw [isNestedAux_noParen w _ 0 hw (by omega), isNestedAux_lp]
  simp only [Int.zero_add, Int.lt_irrefl, gt_iff_lt, if_false]
  rw [isNestedAux_noParen w' _ 1 hw' (by omega), isNestedAux_lp]
  simp

theorem hasDD_append : ∀ (d r : Bytes), hasDD (d ++ dot :: dot :: r) = true := by
  intro d
  induction d with
  | nil => intro r; simp [hasDD]
  | cons a t ih =>
    intro r
    cases ht : t ++ dot :: dot :: r with
    | nil => simp at ht
    | cons b t' =>
      rw [List.cons_append, ht]
      simp only [hasDD, Bool.or_eq_true, decide_eq_true_eq]
      right
      rw [← ht]; exact ih r

/-! ### GetPositions on the three flat shapes -/

theorem positions_range (s : Nat × Nat) (h : SegOk s) : getPositions (segB s) = .ok (segRange s) := by
  unfold getPositions
  rw [isNested_noParen _ (noParen_segB s)]
  obtain ⟨c, t, hct, hc⟩ := startsDigit_segB s
  have hdd : hasDD (segB s) = true := hasDD_append _ _
  have hp := posFromRange_segB s h
  rw [hct] at hdd hp ⊢
  simp [hc, hdd, hp]

theorem isNested_joinText (segs : List (Nat × Nat)) : isNested (joinCut ++ joinB commaB (segs.map segB) ++ [rp]) = false := by
  rw [joinCut_wrap]
  exact isNested_wrap joinWord _ noParen_joinWord (noParen_joinSegs segs)

theorem isNested_compSegB (s : Nat × Nat) : isNested (compSegB s) = false := by
  rw [compSegB_eq]
  exact isNested_wrap complementWord _ noParen_complementWord (noParen_segB s)

theorem positions_join (segs : List (Nat × Nat)) (hne : segs ≠ []) (h : ∀ s ∈ segs, SegOk s) :
    getPositions (joinCut ++ joinB commaB (segs.map segB) ++ [rp]) = .ok (segs.flatMap segRange) := by
  have hp := posFromJoin_render segs hne h
  unfold getPositions
  rw [isNested_joinText]
  generalize joinB commaB (segs.map segB) = X at hp ⊢
  simp only [joinCut, List.cons_append, List.nil_append] at hp ⊢
  simp [isDigitB, joinWord, hp]

theorem positions_comp (s : Nat × Nat) (h : SegOk s) : getPositions (compSegB s) = .ok (segRange s).reverse := by
  have hp := posFromComp_render s h
  unfold getPositions
  rw [isNested_compSegB]
  unfold compSegB at hp ⊢
  generalize segB s = X at hp ⊢
  simp only [compCut, List.cons_append, List.nil_append] at hp ⊢
  simp [isDigitB, joinWord, compWord, hp]

/-! ### the index scan of unNestRecur -/

theorem scanParens_oi_fixed : ∀ (t : Bytes) (i o c oi ci : Nat), oi ≠ 0 → (scanParens t i o c oi ci).1 = oi := by
  intro t
  induction t with
  | nil => intro i o c oi ci _; rfl
  | cons b t ih =>
    intro i o c oi ci h
    have h0 : ¬ (o = 1 ∧ oi = 0) := fun hh => h hh.2
    simp only [scanParens, h0, if_false]
    split
    · exact ih _ _ _ _ _ h
    · split
      · exact ih _ _ _ _ _ h
      · exact ih _ _ _ _ _ h

/-- when as many `)` as `(` have been seen at the last byte, closed_idx is the index of that byte -/
theorem scanParens_last : ∀ (t : Bytes) (i o c oi ci : Nat), o + t.count lp = c + t.count rp + 1 →
    (scanParens (t ++ [rp]) i o c oi ci).2 = i + t.length := by
  intro t
  induction t with
  | nil =>
    intro i o c oi ci h
    have h1 : rp ≠ lp := by decide
    have h2 : o = c + 1 := by simpa using h
    simp [scanParens, h1, h2]
  | cons b t ih =>
    intro i o c oi ci h
    simp only [List.cons_append, scanParens, List.length_cons]
    by_cases hl : b = lp
    · subst hl
      have hne : lp ≠ rp := by decide
      simp only [if_true]
      rw [ih]
      · omega
      · simp only [List.count_cons_self, List.count_cons_of_ne hne] at h
        omega
    · by_cases hr : b = rp
      · subst hr
        simp only [hl, if_false, if_true]
        rw [ih]
        · omega
        · have hne : rp ≠ lp := by decide
          simp only [List.count_cons_self, List.count_cons_of_ne hne] at h
          omega
      · simp only [hl, hr, if_false]
        rw [ih]
        · omega
        · simp only [List.count_cons_of_ne hl, List.count_cons_of_ne hr] at h
          omega

theorem scanParens_noParen : ∀ (w rest : Bytes) (i ci : Nat), NoParen w →
    scanParens (w ++ rest) i 0 0 0 ci = scanParens rest (i + w.length) 0 0 0 ci := by
  intro w
  induction w with
  | nil => intro rest i ci _; rfl
  | cons b t ih =>
    intro rest i ci h
    have hb := h b List.mem_cons_self
    simp only [List.cons_append, scanParens, hb.1, hb.2, if_false, List.length_cons]
    have h0 : ¬ ((0 : Nat) = 1 ∧ True) := by omega
    simp only [h0, if_false]
    rw [ih rest (i + 1) ci (fun y hy => h y (List.mem_cons_of_mem _ hy))]
    congr 1; omega

/-- word ( mid ) with as many `(` as `)` in mid: open_idx is the index after the first `(`, closed_idx the last index -/
theorem scanParens_wrap (w mid : Bytes) (hw : NoParen w) (hbal : mid.count lp = mid.count rp) :
    scanParens (wrap w mid) 0 0 0 0 0 = (w.length + 1, w.length + 1 + mid.length) := by
  unfold wrap
  rw [scanParens_noParen w _ 0 0 hw]
  have hstep : scanParens (lp :: (mid ++ [rp])) (0 + w.length) 0 0 0 0 = scanParens (mid ++ [rp]) (w.length + 1) 1 0 0 0 := by
    simp [scanParens]
  rw [hstep]
  apply Prod.ext
  · cases hm : mid ++ [rp] with
    | nil => simp at hm
    | cons b t =>
      have hlen : w.length + 1 ≠ 0 := by omega
      simp only [scanParens, and_self, if_true]
      split
      · exact scanParens_oi_fixed _ _ _ _ _ _ hlen
      · split
        · exact scanParens_oi_fixed _ _ _ _ _ _ hlen
        · exact scanParens_oi_fixed _ _ _ _ _ _ hlen
  · exact scanParens_last mid _ 1 0 0 0 (by omega)

/-- `outer` and `inner` of procFields at the indices (`oi`, `ci`) that `scanParens_wrap` gives; the length of the second
`take` is `ci - oi` as procFields writes it -/
theorem take_drop_wrap (w mid : Bytes) :
    (wrap w mid).take (w.length + 1) ++ (wrap w mid).drop (w.length + 1 + mid.length) = w ++ [lp, rp] ∧
    ((wrap w mid).drop (w.length + 1)).take (w.length + 1 + mid.length - (w.length + 1)) = mid := by
  have e : wrap w mid = (w ++ [lp]) ++ (mid ++ [rp]) := by simp [wrap]
  have l1 : (w ++ [lp]).length = w.length + 1 := by simp
  constructor
  · rw [e, List.take_left' l1]
    have e2 : (w ++ [lp]) ++ (mid ++ [rp]) = ((w ++ [lp]) ++ mid) ++ [rp] := by simp
    have l2 : ((w ++ [lp]) ++ mid).length = w.length + 1 + mid.length := by simp; omega
    rw [e2, List.drop_left' l2]
    simp
  · rw [e, List.drop_left' l1]
    have : w.length + 1 + mid.length - (w.length + 1) = mid.length := by omega
    rw [this, List.take_left' rfl]

/-! ### splitOnOuterCommas -/

theorem splitOuterAux_ne_nil : ∀ (s : Bytes) (d : Int), splitOuterAux s d ≠ []
  | [], _ => by simp [splitOuterAux]
  | b :: t, d => by
    simp only [splitOuterAux]
    split
    · exact consB_ne_nil _ _
    · split
      · exact consB_ne_nil _ _
      · split
        · simp
        · exact consB_ne_nil _ _

theorem consB_consHead (b : Nat) (x : Bytes) (R : List Bytes) : consB b (consHead x R) = consHead (b :: x) R := by
  cases R <;> simp [consB, consHead]

theorem consHead_nil (R : List Bytes) (h : R ≠ []) : consHead [] R = R := by
  cases R with
  | nil => exact absurd rfl h
  | cons a t => simp [consHead]

theorem consB_eq_consHead (b : Nat) (R : List Bytes) : consB b R = consHead [b] R := by
  cases R <;> simp [consB, consHead]

theorem consHead_consHead (x y : Bytes) (R : List Bytes) (h : R ≠ []) : consHead x (consHead y R) = consHead (x ++ y) R := by
  cases R with
  | nil => exact absurd rfl h
  | cons a t => simp [consHead]

/-- at depth `d`, splitOnOuterCommas passes over `p` without cutting in it -/
def Closed (d : Int) (p : Bytes) : Prop := ∀ rest, splitOuterAux (p ++ rest) d = consHead p (splitOuterAux rest d)

theorem closed_plain : ∀ (x : Bytes) (d : Int), NoParen x → (d = 0 → ∀ b ∈ x, b ≠ commaB) → Closed d x := by
  intro x
  induction x with
  | nil => intro d _ _ rest; exact (consHead_nil _ (splitOuterAux_ne_nil rest d)).symm
  | cons b t ih =>
    intro d hx hc rest
    have hb := hx b List.mem_cons_self
    have hcb : ¬ (b = commaB ∧ d = 0) := fun hh => hc hh.2 b List.mem_cons_self hh.1
    simp only [List.cons_append, splitOuterAux, hb.1, hb.2, hcb, if_false]
    rw [ih d (fun y hy => hx y (List.mem_cons_of_mem _ hy)) (fun h0 y hy => hc h0 y (List.mem_cons_of_mem _ hy)) rest,
      consB_consHead]

theorem splitOuterAux_lp (rest : Bytes) (d : Int) : splitOuterAux (lp :: rest) d = consHead [lp] (splitOuterAux rest (d + 1)) := by
  simp [splitOuterAux, consB_eq_consHead]

theorem splitOuterAux_rp (rest : Bytes) (d : Int) : splitOuterAux (rp :: rest) d = consHead [rp] (splitOuterAux rest (d - 1)) := by
  have h : rp ≠ lp := by decide
  simp [splitOuterAux, h, consB_eq_consHead]

theorem closed_wrap (w x : Bytes) (d : Int) (hw : NoParen w) (hwc : ∀ b ∈ w, b ≠ commaB) (hx : Closed (d + 1) x) :
    Closed d (wrap w x) := by
  intro rest
  have hne := splitOuterAux_ne_nil rest d
  have e : wrap w x ++ rest = w ++ lp :: (x ++ rp :: rest) := by simp [wrap]
  have hd : d + 1 - 1 = d := by omega
  rw [e, closed_plain w d hw (fun _ => hwc) _, splitOuterAux_lp, hx _, splitOuterAux_rp, hd,
    consHead_consHead _ _ _ hne, consHead_consHead _ _ _ hne, consHead_consHead _ _ _ hne]
  simp [wrap]

theorem splitOuterAux_comma_deep (rest : Bytes) (d : Int) (hd : d ≠ 0) :
    splitOuterAux (commaB :: rest) d = consHead [commaB] (splitOuterAux rest d) := by
  have hc : commaB ≠ lp ∧ commaB ≠ rp := by decide
  have hcd : ¬ (True ∧ d = 0) := fun hh => hd hh.2
  simp only [splitOuterAux, hc.1, hc.2, if_false, hcd]
  exact consB_eq_consHead _ _

theorem closed_joinB (d : Int) (hd : d ≠ 0) : ∀ (ps : List Bytes), (∀ p ∈ ps, Closed d p) → Closed d (joinB commaB ps)
  | [], _ => closed_plain [] d all_nil fun _ => all_nil
  | [p], h => h p List.mem_cons_self
  | p :: q :: t, h => by
    obtain ⟨hp, ht⟩ := List.forall_mem_cons.1 h
    intro rest
    have hne := splitOuterAux_ne_nil rest d
    rw [joinB_cons_cons, List.append_assoc, hp _, List.cons_append, splitOuterAux_comma_deep _ d hd,
      closed_joinB d hd (q :: t) ht rest, consHead_consHead _ _ _ hne, consHead_consHead _ _ _ hne]
    simp

theorem splitOuter_closed (x : Bytes) (h : Closed 0 x) : splitOuter x = [x] := by
  have := h []
  rw [List.append_nil] at this
  rw [splitOuter, this]
  simp [splitOuterAux, consHead]

theorem splitOuter_joinB : ∀ (ps : List Bytes), ps ≠ [] → (∀ p ∈ ps, Closed 0 p) → splitOuter (joinB commaB ps) = ps
  | [], h, _ => absurd rfl h
  | [p], _, h => splitOuter_closed p (h p List.mem_cons_self)
  | p :: q :: t, _, h => by
    obtain ⟨hp, ht⟩ := List.forall_mem_cons.1 h
    have ih := splitOuter_joinB (q :: t) (List.cons_ne_nil q t) ht
    have hc : commaB ≠ lp ∧ commaB ≠ rp := by decide
    rw [splitOuter] at ih ⊢
    rw [joinB_cons_cons, hp _]
    simp only [splitOuterAux, hc.1, hc.2, if_false, and_self, if_true]
    rw [ih]
    simp [consHead]

/-! ### one iteration of the loop of unNestRecur -/

theorem take_four_length {f w : Bytes} (hw : f.take 4 = w) (hl : w.length = 4) : ¬ (f.length < 4) := by
  have := congrArg List.length hw
  rw [List.length_take, hl] at this
  omega

theorem procFields_join_step (recur : Bytes → NestRes) (f : Bytes) (fs : List Bytes) (acc : List (List Int)) (ps : List Int)
    (hn : isNested f = false) (hw : f.take 4 = joinWord) (hp : posFromJoin f = .ok ps) :
    procFields recur (f :: fs) acc = procFields recur fs (acc ++ [ps]) := by
  have h1 : ¬ (f.length < 4) := take_four_length hw rfl
  simp [procFields, hn, h1, hw, hp]

theorem procFields_comp_step (recur : Bytes → NestRes) (f : Bytes) (fs : List Bytes) (acc : List (List Int)) (ps : List Int)
    (hn : isNested f = false) (hw : f.take 4 = compWord) (hp : posFromComp f = .ok ps) :
    procFields recur (f :: fs) acc = procFields recur fs (acc ++ [ps]) := by
  have h1 : ¬ (f.length < 4) := take_four_length hw rfl
  have h2 : compWord ≠ joinWord := by decide
  simp [procFields, hn, h1, hw, hp, h2]

theorem count_noParen (x : Bytes) (h : NoParen x) : x.count lp = 0 ∧ x.count rp = 0 :=
  ⟨List.count_eq_zero.2 fun hm => (h lp hm).1 rfl, List.count_eq_zero.2 fun hm => (h rp hm).2 rfl⟩

theorem count_wrap (w x : Bytes) (hw : NoParen w) (hx : NoParen x) : (wrap w x).count lp = 1 ∧ (wrap w x).count rp = 1 := by
  have h1 := count_noParen w hw
  have h2 := count_noParen x hx
  have hne : lp ≠ rp := by decide
  have hne' : rp ≠ lp := by decide
  simp [wrap, List.count_append, h1.1, h1.2, h2.1, h2.2, hne, hne']

theorem balanced_joinB : ∀ (ps : List Bytes), (∀ p ∈ ps, p.count lp = p.count rp) →
    (joinB commaB ps).count lp = (joinB commaB ps).count rp
  | [], _ => rfl
  | [p], h => h p List.mem_cons_self
  | p :: q :: t, h => by
    obtain ⟨hp, ht⟩ := List.forall_mem_cons.1 h
    have hc1 : commaB ≠ lp := by decide
    have hc2 : commaB ≠ rp := by decide
    rw [joinB_cons_cons, List.count_append, List.count_append, List.count_cons_of_ne hc1, List.count_cons_of_ne hc2, hp,
      balanced_joinB (q :: t) ht]

theorem procFields_wrap_join (recur : Bytes → NestRes) (mid : Bytes) (fs : List Bytes) (acc res : List (List Int))
    (hbal : mid.count lp = mid.count rp) (hn : isNested (wrap joinWord mid) = true) (hr : recur mid = .ok res) :
    procFields recur (wrap joinWord mid :: fs) acc = procFields recur fs (acc ++ [res.flatten]) := by
  have htd := take_drop_wrap joinWord mid
  have h1 : ¬ (joinWord.length + 1 > joinWord.length + 1 + mid.length) := by omega
  have ho : joinWord ++ [lp, rp] = joinOuter := rfl
  simp only [procFields, hn, Bool.not_true, Bool.false_eq_true, false_and, if_false,
    scanParens_wrap joinWord mid noParen_joinWord hbal, h1, htd.1, htd.2, hr, ho, if_true]

theorem procFields_wrap_comp (recur : Bytes → NestRes) (mid : Bytes) (fs : List Bytes) (acc : List (List Int)) (r : List Int)
    (hbal : mid.count lp = mid.count rp) (hn : isNested (wrap complementWord mid) = true) (hr : recur mid = .ok [r]) :
    procFields recur (wrap complementWord mid :: fs) acc = procFields recur fs (acc ++ [r.reverse]) := by
  have htd := take_drop_wrap complementWord mid
  have h1 : ¬ (complementWord.length + 1 > complementWord.length + 1 + mid.length) := by omega
  have ho : complementWord ++ [lp, rp] = compOuter := rfl
  have h2 : compOuter ≠ joinOuter := by decide
  simp only [procFields, hn, Bool.not_true, Bool.false_eq_true, false_and, if_false,
    scanParens_wrap complementWord mid noParen_complementWord hbal, h1, htd.1, htd.2, hr, ho, h2, if_true]

/-! ### GetPositions on the two nested shapes -/

/-- what isNested, the index scan and splitOnOuterCommas see of a text of two levels `w(w'(p₁),…,w'(pₙ))`, `mid` being
what stands inside the outer parentheses: it is nested, `mid` closes what it opens, the whole text is one field, and
`mid` is cut into the `w'(pᵢ)` -/
theorem two_level (w w' : Bytes) (ps : List Bytes) (mid : Bytes) (hmid : joinB commaB (ps.map (wrap w')) = mid)
    (hw : NoParen w) (hwc : ∀ b ∈ w, b ≠ commaB) (hw' : NoParen w') (hwc' : ∀ b ∈ w', b ≠ commaB)
    (hne : ps ≠ []) (hps : ∀ p ∈ ps, NoParen p) :
    isNested (wrap w mid) = true ∧ mid.count lp = mid.count rp ∧ splitOuter (wrap w mid) = [wrap w mid] ∧
      splitOuter mid = ps.map (wrap w') := by
  subst hmid
  have hflat : ∀ d, 0 ≤ d → ∀ f ∈ ps.map (wrap w'), Closed d f := fun d hd f hf => by
    obtain ⟨p, hp, rfl⟩ := List.mem_map.1 hf
    exact closed_wrap w' p d hw' hwc' (closed_plain p (d + 1) (hps p hp) fun h0 => by omega)
  refine ⟨?_, balanced_joinB _ fun f hf => ?_,
    splitOuter_closed _ (closed_wrap w _ 0 hw hwc (closed_joinB (0 + 1) (by omega) _ (hflat (0 + 1) (by omega)))),
    splitOuter_joinB _ (by simpa using hne) (hflat 0 (by omega))⟩
  · cases ps with
    | nil => exact absurd rfl hne
    | cons p t =>
      obtain ⟨r, hr⟩ := joinB_prefix commaB (wrap w' p) (t.map (wrap w'))
      rw [List.map_cons, hr]
      have := isNested_two w w' ((p ++ [rp]) ++ r ++ [rp]) hw hw'
      simpa [wrap] using this
  · obtain ⟨p, hp, rfl⟩ := List.mem_map.1 hf
    have := count_wrap w' p hw' (hps p hp)
    rw [this.1, this.2]

theorem procFields_compSegs (recur : Bytes → NestRes) : ∀ (segs : List (Nat × Nat)) (acc : List (List Int)),
    (∀ s ∈ segs, SegOk s) →
    procFields recur (segs.map compSegB) acc = .ok (acc ++ segs.map fun s => (segRange s).reverse) := by
  intro segs
  induction segs with
  | nil => intro acc _; simp [procFields]
  | cons s t ih =>
    intro acc h
    rw [List.map_cons, procFields_comp_step recur (compSegB s) _ acc _ (isNested_compSegB s)
      (by simp [compSegB, compCut, compWord]) (posFromComp_render s (h s List.mem_cons_self)),
      ih _ (fun x hx => h x (List.mem_cons_of_mem _ hx))]
    simp

/-- on a nested text GetPositions is unNestRecur. `n + 2`: a nested text is non-empty, so the fuel `s.length + 1` it gets is
`t.length + 2`; the two-level shapes unfold `unNest` twice and need no more -/
theorem getPositions_nested (s : Bytes) (r : List Int) (hn : isNested s = true) (hun : ∀ n, unNest (n + 2) s = .ok [r]) :
    getPositions s = .ok r := by
  cases s with
  | nil => cases hn
  | cons b t =>
    have := hun t.length
    simp only [getPositions, hn, if_true, List.length_cons, this]

theorem positions_compJoin (segs : List (Nat × Nat)) (hne : segs ≠ []) (h : ∀ s ∈ segs, SegOk s) :
    getPositions (compCut ++ (joinCut ++ joinB commaB (segs.map segB) ++ [rp]) ++ [rp]) =
      .ok (segs.flatMap segRange).reverse := by
  rw [joinCut_wrap, compCut_wrap]
  obtain ⟨hn, hbal, hout, hin⟩ := two_level complementWord joinWord [joinB commaB (segs.map segB)]
    (wrap joinWord (joinB commaB (segs.map segB))) rfl noParen_complementWord complementWord_no_comma noParen_joinWord
    joinWord_no_comma (List.cons_ne_nil _ _) (all_cons (noParen_joinSegs segs) all_nil)
  refine getPositions_nested _ _ hn fun n => ?_
  rw [unNest, hout, procFields_wrap_comp _ _ _ _ _ hbal hn (by
    rw [unNest, hin, List.map_cons, List.map_nil, ← joinCut_wrap]
    exact procFields_join_step _ _ _ _ _ (isNested_joinText segs) (by simp [joinCut, joinWord]) (posFromJoin_render segs hne h))]
  rfl

theorem positions_joinComp (segs : List (Nat × Nat)) (hne : segs ≠ []) (h : ∀ s ∈ segs, SegOk s) :
    getPositions (joinCut ++ joinB commaB (segs.map compSegB) ++ [rp]) =
      .ok (segs.flatMap fun s => (segRange s).reverse) := by
  rw [joinCut_wrap]
  obtain ⟨hn, hbal, hout, hin⟩ := two_level joinWord complementWord (segs.map segB) (joinB commaB (segs.map compSegB))
    (by rw [List.map_map]; rfl) noParen_joinWord joinWord_no_comma noParen_complementWord complementWord_no_comma
    (by simpa using hne) (List.forall_mem_map.2 fun s _ => noParen_segB s)
  refine getPositions_nested _ _ hn fun n => ?_
  rw [unNest, hout, procFields_wrap_join _ _ _ _ (segs.map fun s => (segRange s).reverse) hbal hn (by
    rw [unNest, hin, List.map_map]
    exact procFields_compSegs _ segs [] h)]
  simp [procFields, List.flatMap]

/-! ### GetPositions on the text of a well-formed location = locPositions of Model/Regions.lean -/

theorem rangeInt_ofNat (a b : Nat) : rangeInt (a : Int) (b : Int) = (rangeUp a b).map fun (p : Nat) => (p : Int) := by
  unfold rangeInt rangeUp
  by_cases h : a ≤ b
  · have h' : (a : Int) ≤ (b : Int) := by omega
    have hlen : ((b : Int) - (a : Int) + 1).toNat = b + 1 - a := by omega
    simp only [h', if_true, hlen]
    rw [List.range'_eq_map_range]
    simp only [List.map_map]
    apply List.map_congr_left
    intro k _
    simp
  · have h' : ¬ ((a : Int) ≤ (b : Int)) := by omega
    have hz : b + 1 - a = 0 := by omega
    simp [h', hz]

theorem segRange_eq (s : Nat × Nat) : segRange s = (rangeUp s.1 s.2).map fun (p : Nat) => (p : Int) := rangeInt_ofNat s.1 s.2

theorem segRange_fun : segRange = fun s => (rangeUp s.1 s.2).map fun (p : Nat) => (p : Int) := funext segRange_eq

/-- **GetPositions of a rendered location.** For each of the five shapes, any number of segments (one for a..b and
complement(a..b)), every number within int64: the Go algorithm, on the text, computes the positions of the structured
model. -/
theorem getPositions_render (l : Loc) (h : LocOk l) : getPositions (renderLocation l) = .ok (locPositionsInt l) := by
  obtain ⟨form, segs⟩ := l
  have ⟨hne, _, hok⟩ := h
  simp only at hne hok
  cases form with
  | range =>
    obtain ⟨s, rfl, hs⟩ := h.one (Or.inl rfl)
    simp only [renderLocation, List.headD_cons, locPositionsInt, locPositions]
    rw [positions_range s hs, segRange_eq]
    simp
  | comp =>
    obtain ⟨s, rfl, hs⟩ := h.one (Or.inr rfl)
    simp only [renderLocation, List.headD_cons, locPositionsInt, locPositions]
    rw [← compSegB, positions_comp s hs, segRange_eq]
    simp
  | join =>
    simp only [renderLocation, locPositionsInt, locPositions]
    rw [positions_join segs hne hok, segRange_fun, List.map_flatMap]
  | compJoin =>
    simp only [renderLocation, locPositionsInt, locPositions]
    rw [positions_compJoin segs hne hok, segRange_fun, List.map_reverse, List.map_flatMap]
  | joinComp =>
    simp only [renderLocation, locPositionsInt, locPositions]
    rw [positions_joinComp segs hne hok]
    simp only [segRange_eq, List.map_flatMap, List.map_reverse]

/-! ### the fuel of unNestRecur always suffices -/

theorem scanParens_ci_bound : ∀ (t : Bytes) (i o c oi ci : Nat),
    (scanParens t i o c oi ci).2 = ci ∨ (scanParens t i o c oi ci).2 < i + t.length := by
  intro t
  induction t with
  | nil => intro i o c oi ci; left; rfl
  | cons b t ih =>
    intro i o c oi ci
    simp only [scanParens, List.length_cons]
    split
    · rcases ih (i + 1) (o + 1) c (if o = 1 ∧ oi = 0 then i else oi) ci with h | h
      · left; exact h
      · right; omega
    · split
      · rcases ih (i + 1) o (c + 1) (if o = 1 ∧ oi = 0 then i else oi) (if o = c + 1 then i else ci) with h | h
        · by_cases hoc : o = c + 1
          · right; rw [h]; simp only [hoc, if_true]; omega
          · left; rw [h]; simp [hoc]
        · right; omega
      · rcases ih (i + 1) o c (if o = 1 ∧ oi = 0 then i else oi) ci with h | h
        · left; exact h
        · right; omega

theorem splitOuterAux_len : ∀ (s : Bytes) (d : Int), ∀ f ∈ splitOuterAux s d, f.length ≤ s.length := by
  intro s
  induction s with
  | nil => intro d f hf; simp [splitOuterAux] at hf; subst hf; simp
  | cons b t ih =>
    intro d f hf
    have hcons : ∀ (L : List Bytes), (∀ x ∈ L, x.length ≤ t.length) → ∀ x ∈ consB b L, x.length ≤ t.length + 1 := by
      intro L hL x hx
      cases L with
      | nil => simp [consB] at hx; subst hx; simp
      | cons h r =>
        simp only [consB, List.mem_cons] at hx
        rcases hx with rfl | hx
        · have := hL h List.mem_cons_self; simp; omega
        · have := hL x (List.mem_cons_of_mem _ hx); omega
    simp only [splitOuterAux] at hf
    simp only [List.length_cons]
    split at hf
    · exact hcons _ (ih _) f hf
    · split at hf
      · exact hcons _ (ih _) f hf
      · split at hf
        · rcases List.mem_cons.1 hf with rfl | hf
          · simp
          · have := ih d f hf; omega
        · exact hcons _ (ih _) f hf

theorem inner_shorter (f : Bytes) (hne : f ≠ []) :
    ((f.drop (scanParens f 0 0 0 0 0).1).take ((scanParens f 0 0 0 0 0).2 - (scanParens f 0 0 0 0 0).1)).length < f.length := by
  have hpos : 0 < f.length := List.length_pos_iff.2 hne
  have hb := scanParens_ci_bound f 0 0 0 0 0
  rw [List.length_take]
  omega

theorem procFields_no_fuel (recur : Bytes → NestRes) : ∀ (fields : List Bytes) (acc : List (List Int)),
    (∀ f ∈ fields, ∀ x : Bytes, x.length < f.length → recur x ≠ .fuel) → procFields recur fields acc ≠ .fuel := by
  intro fields
  induction fields with
  | nil => intro acc _; simp [procFields]
  | cons f fs ih =>
    intro acc h
    have hR : ∀ acc', procFields recur fs acc' ≠ .fuel := fun acc' => ih acc' fun g hg => h g (List.mem_cons_of_mem _ hg)
    rw [procFields]
    generalize procFields recur fs = R at hR
    simp only
    -- the three flat cases: a panic, or the loop goes on
    by_cases h1 : (!isNested f) = true ∧ f.length < 4
    · rw [if_pos h1]
      simp
    rw [if_neg h1]
    have hne : f ≠ [] := by
      intro hf
      subst hf
      simp [isNested, isNestedAux] at h1
    by_cases h2 : (!isNested f) = true ∧ f.take 4 = joinWord
    · rw [if_pos h2]
      cases posFromJoin f <;> first | exact hR _ | simp
    rw [if_neg h2]
    by_cases h3 : (!isNested f) = true ∧ f.take 4 = compWord
    · rw [if_pos h3]
      cases posFromComp f <;> first | exact hR _ | simp
    rw [if_neg h3]
    -- the nested case: the recursive call is on a shorter text
    have hrec := h f List.mem_cons_self _ (inner_shorter f hne)
    generalize scanParens f 0 0 0 0 0 = oc at hrec
    obtain ⟨oi, ci⟩ := oc
    simp only at hrec ⊢
    by_cases h4 : oi > ci
    · rw [if_pos h4]
      simp
    rw [if_neg h4]
    cases hri : recur (List.take (ci - oi) (List.drop oi f)) with
    | fuel => exact absurd hri hrec
    | err => simp
    | panic => simp
    | ok ir =>
      simp only
      split
      · exact hR _
      · split
        · split
          · exact hR _
          · simp
        · exact hR _

/-- **unNestRecur terminates within the fuel getPositions hands it.** -/
theorem unNest_fuel : ∀ (n : Nat) (s : Bytes), s.length < n → unNest n s ≠ .fuel := by
  intro n
  induction n with
  | zero => intro s h; omega
  | succ n ih =>
    intro s h
    simp only [unNest]
    apply procFields_no_fuel
    intro f hf x hx
    have := splitOuterAux_len s 0 f hf
    exact ih x (by omega)

/-- with the fuel `getPositions` passes: its arm `_ => .errLoc` never stands for `.fuel` -/
theorem unNest_fuel' (s : Bytes) : unNest (s.length + 1) s ≠ .fuel := unNest_fuel _ s (by omega)

/-! ### parseLocation is the inverse of renderLocation -/

theorem stripPrefix_append : ∀ (p x : Bytes), stripPrefix p (p ++ x) = some x := by
  intro p
  induction p with
  | nil => intro x; cases x <;> rfl
  | cons a t ih => intro x; simp [stripPrefix, ih]

theorem stripSuffix_append (q x : Bytes) : stripSuffix q (x ++ q) = some x := by
  simp [stripSuffix, List.reverse_append, stripPrefix_append]

theorem stripPrefix_digit (a : Nat) (p x : Bytes) (ha : isDigitB a = false) (hx : StartsDigit x) :
    stripPrefix (a :: p) x = none := by
  obtain ⟨c, t, rfl, hc⟩ := hx
  have : a ≠ c := fun e => by rw [e, hc] at ha; cases ha
  simp [stripPrefix, this]

theorem parseNum_digitsOf (n : Nat) (h : n ≤ maxInt64) : parseNum (digitsOf n) = some n := by
  have hall : (digitsOf n).all isDigitB = true := List.all_eq_true.2 (digitsOf_isDigit n)
  simp [parseNum, hall, digitsVal_digitsOf, h]

theorem parseSeg_segB (s : Nat × Nat) (h : SegOk s) : parseSeg (segB s) = some s := by
  unfold parseSeg
  rw [splitDD_segB]
  simp [parseNum_digitsOf s.1 h.1, parseNum_digitsOf s.2 h.2]

theorem parseCompSeg_compSegB (s : Nat × Nat) (h : SegOk s) : parseCompSeg (compSegB s) = some s := by
  unfold parseCompSeg compSegB
  rw [List.append_assoc, stripPrefix_append]
  simp only [stripSuffix_append]
  exact parseSeg_segB s h

theorem parseNum_not_digit (d : Bytes) (h : ∃ b ∈ d, isDigitB b = false) : parseNum d = none := by
  have : d.all isDigitB ≠ true := by
    intro hall
    obtain ⟨b, hb, hb2⟩ := h
    have := List.all_eq_true.1 hall b hb
    rw [hb2] at this; cases this
  simp [parseNum, this]

/-- complement(a..b) is not read as a..b: the text before the dots is not a number -/
theorem parseSeg_compSegB (s : Nat × Nat) : parseSeg (compSegB s) = none := by
  unfold parseSeg compSegB segB
  have e : compCut ++ (digitsOf s.1 ++ dot :: dot :: digitsOf s.2) ++ [rp] =
      (compCut ++ digitsOf s.1) ++ dot :: dot :: (digitsOf s.2 ++ [rp]) := by simp
  rw [e, splitDD_append_dd _ _ (all_append (by decide) (digits_no_dot _)),
    splitDD_plain _ (all_append (digits_no_dot _) (all_cons (by decide) all_nil))]
  have : parseNum (compCut ++ digitsOf s.1) = none :=
    parseNum_not_digit _ ⟨99, by simp [compCut], by decide⟩
  simp [this]

theorem compSegB_no_comma (s : Nat × Nat) : ∀ b ∈ compSegB s, b ≠ commaB :=
  all_append (all_append (by decide) (segB_no_comma s)) (all_cons (by decide) all_nil)

theorem parse_render (l : Loc) (h : LocOk l) : parseLocation (renderLocation l) = some l := by
  obtain ⟨form, segs⟩ := l
  have ⟨hne, _, hok⟩ := h
  simp only at hne hok
  have hsegs := mapM_map_some parseSeg segB segs fun s hs => parseSeg_segB s (hok s hs)
  have hj : ∀ x, stripPrefix joinCut (compCut ++ x) = none := fun x => by simp [stripPrefix, joinCut, compCut]
  have hjd : ∀ x, StartsDigit x → stripPrefix joinCut x = none := fun x => stripPrefix_digit _ _ x (by decide)
  have hcd : ∀ x, StartsDigit x → stripPrefix compCut x = none := fun x => stripPrefix_digit _ _ x (by decide)
  cases form with
  | range =>
    obtain ⟨s, rfl, hs⟩ := h.one (Or.inl rfl)
    simp only [renderLocation, List.headD_cons, parseLocation]
    rw [hjd _ (startsDigit_segB s), hcd _ (startsDigit_segB s), parseSeg_segB s hs]
    rfl
  | comp =>
    obtain ⟨s, rfl, hs⟩ := h.one (Or.inr rfl)
    simp only [renderLocation, List.headD_cons, parseLocation]
    rw [List.append_assoc, hj, stripPrefix_append]
    simp only [stripSuffix_append]
    rw [hjd _ (startsDigit_segB s), parseSeg_segB s hs]
    rfl
  | join =>
    simp only [renderLocation, parseLocation]
    rw [List.append_assoc, stripPrefix_append]
    simp only [stripSuffix_append, splitB_joinSegs segB_no_comma segs hne, hsegs]
  | compJoin =>
    simp only [renderLocation, parseLocation]
    rw [List.append_assoc, hj, stripPrefix_append]
    simp only [stripSuffix_append]
    rw [List.append_assoc, stripPrefix_append]
    simp only [stripSuffix_append, splitB_joinSegs segB_no_comma segs hne, hsegs]
    rfl
  | joinComp =>
    simp only [renderLocation, parseLocation]
    rw [List.append_assoc, stripPrefix_append]
    have hnone : (segs.map compSegB).mapM parseSeg = none := by
      cases segs with
      | nil => exact absurd rfl hne
      | cons s t => simp [List.mapM_cons, parseSeg_compSegB]
    simp only [stripSuffix_append, splitB_joinSegs compSegB_no_comma segs hne, hnone,
      mapM_map_some parseCompSeg compSegB segs fun s hs => parseCompSeg_compSegB s (hok s hs)]

/-! ### everything parseLocation accepts is the rendering of a well-formed location -/

theorem stripPrefix_some : ∀ (p s r : Bytes), stripPrefix p s = some r → s = p ++ r
  | [], s, r, h => by cases s <;> exact Option.some.inj h
  | _ :: _, [], _, h => by simp [stripPrefix] at h
  | a :: t, b :: u, r, h => by
    simp only [stripPrefix] at h
    split at h
    · rename_i hab
      rw [hab, stripPrefix_some t u r h]
      rfl
    · cases h

theorem stripSuffix_some (q s r : Bytes) (h : stripSuffix q s = some r) : s = r ++ q := by
  unfold stripSuffix at h
  cases hp : stripPrefix q.reverse s.reverse with
  | none => simp [hp] at h
  | some r' =>
    simp only [hp, Option.map_some, Option.some.injEq] at h
    have := stripPrefix_some _ _ _ hp
    have h2 : s = (q.reverse ++ r').reverse := by rw [← this]; simp
    rw [h2, ← h]; simp

theorem strip_some {cut s r m : Bytes} (h1 : stripPrefix cut s = some r) (h2 : stripSuffix [rp] r = some m) :
    s = cut ++ m ++ [rp] := by
  rw [stripPrefix_some _ _ _ h1, stripSuffix_some _ _ _ h2, List.append_assoc]

def joinDD : List Bytes → Bytes
  | [] => []
  | [x] => x
  | x :: y :: r => x ++ dot :: dot :: joinDD (y :: r)

theorem joinDD_consB (a : Nat) (L : List Bytes) (h : L ≠ []) : joinDD (consB a L) = a :: joinDD L := by
  cases L with
  | nil => exact absurd rfl h
  | cons x r => cases r <;> simp [consB, joinDD]

theorem joinDD_splitDD : ∀ (x : Bytes), joinDD (splitDD x) = x
  | [] => rfl
  | [_] => rfl
  | a :: b :: t => by
    simp only [splitDD]
    split
    · rename_i h
      have hne := splitDD_ne_nil t
      cases hs : splitDD t with
      | nil => exact absurd hs hne
      | cons y r =>
        simp only [joinDD, List.nil_append]
        rw [← hs, joinDD_splitDD t, h.1, h.2]
    · rw [joinDD_consB a _ (splitDD_ne_nil (b :: t)), joinDD_splitDD (b :: t)]

theorem splitDD_two (x a b : Bytes) (h : splitDD x = [a, b]) : x = a ++ dot :: dot :: b := by
  have := joinDD_splitDD x
  rw [h] at this
  simpa [joinDD] using this.symm

theorem parseNum_some (d : Bytes) (n : Nat) (h : parseNum d = some n) : digitsOf n = d ∧ n ≤ maxInt64 := by
  unfold parseNum at h
  split at h
  · rename_i hc
    simp only [Option.some.injEq] at h
    subst h
    exact ⟨hc.2.2, hc.2.1⟩
  · cases h

theorem parseSeg_some (x : Bytes) (sg : Nat × Nat) (h : parseSeg x = some sg) : x = segB sg ∧ SegOk sg := by
  unfold parseSeg at h
  split at h
  · rename_i a b hs
    split at h
    · rename_i m n ha hb
      cases h
      have h1 := parseNum_some a m ha
      have h2 := parseNum_some b n hb
      exact ⟨by rw [splitDD_two x a b hs, segB, h1.1, h2.1], h1.2, h2.2⟩
    · cases h
  · cases h

theorem parseCompSeg_some (x : Bytes) (sg : Nat × Nat) (h : parseCompSeg x = some sg) : x = compSegB sg ∧ SegOk sg := by
  unfold parseCompSeg at h
  split at h
  · cases h
  · rename_i y h1
    split at h
    · cases h
    · rename_i z h2
      have hz := parseSeg_some z sg h
      exact ⟨by rw [strip_some h1 h2, hz.1, compSegB], hz.2⟩

theorem segs_of_parts {f : Bytes → Option (Nat × Nat)} {g : Nat × Nat → Bytes}
    (hf : ∀ x a, f x = some a → x = g a ∧ SegOk a) {m : Bytes} {segs : List (Nat × Nat)}
    (h : (splitB commaB m).mapM f = some segs) :
    joinB commaB (segs.map g) = m ∧ segs ≠ [] ∧ ∀ s ∈ segs, SegOk s := by
  have hinv := mapM_some_inv f g SegOk hf _ _ h
  refine ⟨by rw [← hinv.1, joinB_splitB], fun e => splitB_ne_nil commaB m ?_, hinv.2⟩
  rw [hinv.1, e]
  rfl

theorem render_parse (s : Bytes) (l : Loc) (h : parseLocation s = some l) : renderLocation l = s ∧ LocOk l := by
  have one : ∀ (sg : Nat × Nat) (form : LocForm), SegOk sg → LocOk (form, [sg]) :=
    fun sg form hsg => ⟨by simp, by simp, by simpa using hsg⟩
  unfold parseLocation at h
  split at h
  · rename_i r hj
    split at h
    · cases h
    · rename_i m hr
      have hs := strip_some hj hr
      simp only at h
      split at h
      · rename_i segs h1
        obtain ⟨hm, hne, hok⟩ := segs_of_parts parseSeg_some h1
        cases h
        exact ⟨by rw [hs, ← hm]; rfl, hne, by simp, hok⟩
      · split at h
        · rename_i segs h2
          obtain ⟨hm, hne, hok⟩ := segs_of_parts parseCompSeg_some h2
          cases h
          exact ⟨by rw [hs, ← hm]; rfl, hne, by simp, hok⟩
        · cases h
  · split at h
    · rename_i r hc
      split at h
      · cases h
      · rename_i m hr
        have hs := strip_some hc hr
        split at h
        · rename_i r2 hj2
          split at h
          · cases h
          · rename_i m2 hr2
            obtain ⟨segs, h1, rfl⟩ := Option.map_eq_some_iff.1 h
            obtain ⟨hm, hne, hok⟩ := segs_of_parts parseSeg_some h1
            exact ⟨by rw [hs, strip_some hj2 hr2, ← hm]; rfl, hne, by simp, hok⟩
        · obtain ⟨sg, h1, rfl⟩ := Option.map_eq_some_iff.1 h
          have hsg := parseSeg_some m sg h1
          exact ⟨by rw [hs, hsg.1]; rfl, one sg _ hsg.2⟩
    · obtain ⟨sg, h1, rfl⟩ := Option.map_eq_some_iff.1 h
      have hsg := parseSeg_some s sg h1
      exact ⟨hsg.1.symm, one sg _ hsg.2⟩

/-- **the strict parser lands in the structured model**: whatever text parseLocation accepts, the Go algorithm for
GetPositions computes on it the positions that Model/Regions.lean assigns to the parsed location -/
theorem getPositions_of_parse (s : Bytes) (l : Loc) (h : parseLocation s = some l) :
    getPositions s = .ok (locPositionsInt l) := by
  have := render_parse s l h
  rw [← this.1]
  exact getPositions_render l this.2

/-! ## the flat file: ReadGenBank on what a writer of well-formed records writes -/

/-! ### ASCII text through the UTF-8 layer -/

open Gofasta.Model.GbUnicode (isSpace isLetter letterRanges)

def Ascii (s : Bytes) : Prop := ∀ b ∈ s, b < 128

def Printable (s : Bytes) : Prop := ∀ b ∈ s, 32 ≤ b ∧ b ≤ 126

instance (s : Bytes) : Decidable (Printable s) := by unfold Printable; exact inferInstance

def WordB (b : Nat) : Prop := 33 ≤ b ∧ b ≤ 126

instance (b : Nat) : Decidable (WordB b) := by unfold WordB; exact inferInstance

def AllWord (s : Bytes) : Prop := ∀ b ∈ s, WordB b

instance (s : Bytes) : Decidable (AllWord s) := by unfold AllWord; exact inferInstance

theorem printable_word {s : Bytes} (h : AllWord s) : Printable s := fun b hb => by
  have := h b hb; unfold WordB at this; omega

theorem printable_ascii {s : Bytes} (h : Printable s) : Ascii s := fun b hb => by have := h b hb; omega

theorem allWord_ascii {s : Bytes} (h : AllWord s) : Ascii s := printable_ascii (printable_word h)

/-- what `toks` gives for ASCII text (`toks_ascii`): every byte is a rune, decoded from itself -/
def tokA (s : Bytes) : List (Nat × Bytes) := s.map fun b => (b, [b])

theorem decodeRune_ascii (b : Nat) (t : Bytes) (h : b < 128) : decodeRune (b :: t) = (b, 1) := by
  simp [decodeRune, h]

theorem toks_ascii : ∀ (s : Bytes), Ascii s → toks s = tokA s := by
  intro s
  unfold toks
  induction s with
  | nil => intro _; rfl
  | cons b t ih =>
    intro h
    have hb := h b List.mem_cons_self
    simp only [toksAux, decodeRune_ascii b t hb, tokA, List.map_cons]
    rw [show (1 : Nat) - 1 = 0 from rfl, ih (fun x hx => h x (List.mem_cons_of_mem _ hx))]
    simp [tokA]

theorem runes_ascii (s : Bytes) (h : Ascii s) : runes s = s := by
  unfold runes
  rw [toks_ascii s h]
  simp [tokA, Function.comp_def]

theorem encodeRunes_ascii : ∀ (s : Bytes), Ascii s → encodeRunes s = s := by
  intro s
  induction s with
  | nil => intro _; rfl
  | cons b t ih =>
    intro h
    have hb := h b List.mem_cons_self
    have := ih (fun x hx => h x (List.mem_cons_of_mem _ hx))
    unfold encodeRunes at this ⊢
    simp [encodeRune, hb, this]

theorem isSpace_blank : isSpace 32 = true := by decide

theorem isSpace_word (b : Nat) (h : WordB b) : isSpace b = false := by
  unfold WordB at h
  unfold isSpace
  simp
  omega

def spaces (n : Nat) : Bytes := List.replicate n 32

theorem spaces_succ (n : Nat) (r : Bytes) : spaces (n + 1) ++ r = 32 :: (spaces n ++ r) := by
  simp [spaces, List.replicate_succ]

theorem printable_spaces (n : Nat) : Printable (spaces n) := by
  intro b hb
  have := List.eq_of_mem_replicate hb
  omega

/-! ### strings.Fields on the rendered lines -/

theorem fieldsT_spaces : ∀ (n : Nat) (r : Bytes), fieldsT (tokA (spaces n ++ r)) = fieldsT (tokA r) := by
  intro n
  induction n with
  | zero => intro r; rfl
  | succ n ih =>
    intro r
    rw [spaces_succ]
    simp only [tokA, List.map_cons, fieldsT, isSpace_blank, if_true]
    exact ih r

theorem fieldsT_two (c : Nat) (bs : Bytes) (b : Nat) (bs' : Bytes) (t : List (Nat × Bytes)) :
    fieldsT ((c, bs) :: (b, bs') :: t) =
      if isSpace c = true then fieldsT ((b, bs') :: t)
      else if isSpace b = true then bs :: fieldsT ((b, bs') :: t) else consHead bs (fieldsT ((b, bs') :: t)) := by
  rw [fieldsT]

theorem fieldsT_word : ∀ (w : Bytes), w ≠ [] → AllWord w → ∀ (r : Bytes), (∀ c t, r = c :: t → isSpace c = true) →
    fieldsT (tokA (w ++ r)) = w :: fieldsT (tokA r) := by
  intro w
  induction w with
  | nil => intro h; exact absurd rfl h
  | cons b t ih =>
    intro _ hw r hr
    have hb := isSpace_word b (hw b List.mem_cons_self)
    cases t with
    | nil =>
      cases r with
      | nil => simp [tokA, fieldsT, hb]
      | cons c r' =>
        simp only [List.cons_append, List.nil_append, tokA, List.map_cons]
        rw [fieldsT_two]
        simp [hb, hr c r' rfl]
    | cons b' t' =>
      have hb' := isSpace_word b' (hw b' (List.mem_cons_of_mem _ List.mem_cons_self))
      have ih' := ih (by simp) (fun x hx => hw x (List.mem_cons_of_mem _ hx)) r hr
      simp only [List.cons_append, tokA, List.map_cons] at ih' ⊢
      rw [fieldsT_two, ih']
      simp [hb, hb', consHead]

theorem fieldsT_word_end (w : Bytes) (hne : w ≠ []) (hw : AllWord w) : fieldsT (tokA w) = [w] := by
  have := fieldsT_word w hne hw [] (fun _ _ e => nomatch e)
  rwa [List.append_nil] at this

theorem fieldsT_head : ∀ (r : Bytes) (c : Nat), isSpace c = false →
    ∃ f fs, fieldsT (tokA (c :: r)) = (c :: f) :: fs := by
  intro r
  induction r with
  | nil => intro c hs; exact ⟨[], [], by simp [tokA, fieldsT, hs]⟩
  | cons b t ih =>
    intro c hs
    simp only [tokA, List.map_cons] at ih ⊢
    rw [fieldsT_two]
    by_cases hsb : isSpace b = true
    · exact ⟨[], fieldsT ((b, [b]) :: List.map (fun b => (b, [b])) t), by simp [hs, hsb]⟩
    · have hsb' : isSpace b = false := by simpa using hsb
      obtain ⟨f, fs, hf⟩ := ih b hsb'
      refine ⟨b :: f, fs, ?_⟩
      simp only [hs, hsb', if_false, Bool.false_eq_true]
      rw [hf]
      simp [consHead]

theorem isFeatureLine_slash (n : Nat) (body : Bytes) (h : Ascii body) (qc : Bool) :
    isFeatureLine (spaces n ++ slash :: body) qc = false := by
  unfold isFeatureLine
  cases qc with
  | false => rfl
  | true =>
    have hl : Ascii (spaces n ++ slash :: body) :=
      all_append (printable_ascii (printable_spaces n)) (all_cons (by decide) h)
    unfold fields
    rw [toks_ascii _ hl, fieldsT_spaces]
    obtain ⟨f, fs, hf⟩ := fieldsT_head body slash (by decide)
    rw [hf]
    cases fs with
    | nil => rfl
    | cons a t =>
      cases t with
      | nil => simp
      | cons _ _ => rfl

/-! ### strings.TrimSpace on the rendered lines -/

theorem trimLeftAux_spaces : ∀ (n : Nat) (c : Nat) (r : Bytes), c < 128 → isSpace c = false →
    trimLeftAux 0 (spaces n ++ c :: r) = c :: r := by
  intro n
  induction n with
  | zero => intro c r hc hs; simp [spaces, trimLeftAux, decodeRune_ascii c r hc, hs]
  | succ n ih =>
    intro c r hc hs
    rw [spaces_succ]
    simp only [trimLeftAux, decodeRune_ascii 32 _ (by omega), isSpace_blank, if_true]
    exact ih c r hc hs

theorem trimRightAux_keep (e : Nat) (r : Bytes) (he : e < 128) (hs : isSpace e = false) : trimRightAux 0 (e :: r) = e :: r := by
  simp [trimRightAux, decodeLastRev, he, hs]

theorem trimSpace_line (n : Nat) (x : Bytes) (h1 : Starts WordB x) (h2 : Ends WordB x) : trimSpace (spaces n ++ x) = x := by
  obtain ⟨c, t, hx, hc⟩ := h1
  obtain ⟨y, e, hy, he⟩ := h2
  have hc' := hc; unfold WordB at hc'
  have he' := he; unfold WordB at he'
  unfold trimSpace
  rw [hx, trimLeftAux_spaces n c t (by omega) (isSpace_word c hc), ← hx, hy, List.reverse_append, List.reverse_cons,
    List.reverse_nil, List.nil_append, List.singleton_append, trimRightAux_keep e _ (by omega) (isSpace_word e he)]
  simp

/-! ### the scans of a qualifier line (key, `=`, value) and of a continuation line -/

theorem valScan_plain : ∀ (v r : List Nat) (qc : Bool), (∀ b ∈ v, b ≠ eqB ∧ b ≠ quoteB) →
    valScan (v ++ r) qc = (v ++ (valScan r qc).1, (valScan r qc).2) := by
  intro v
  induction v with
  | nil => intro r qc _; rfl
  | cons b t ih =>
    intro r qc h
    have hb := h b List.mem_cons_self
    simp only [List.cons_append, valScan, hb.1, hb.2, if_false]
    rw [ih r qc (fun x hx => h x (List.mem_cons_of_mem _ hx))]

theorem qualScan_key : ∀ (k r : List Nat), (∀ b ∈ k, b ≠ eqB) →
    qualScan (k ++ eqB :: r) = (k, (valScan r true).1, (valScan r true).2) := by
  intro k
  induction k with
  | nil => intro r _; simp [qualScan]
  | cons b t ih =>
    intro r h
    have hb := h b List.mem_cons_self
    simp only [List.cons_append, qualScan, hb, if_false]
    rw [ih r (fun x hx => h x (List.mem_cons_of_mem _ hx))]

theorem qualScan_open (k v r : List Nat) (hk : ∀ b ∈ k, b ≠ eqB) (hv : ∀ b ∈ v, b ≠ eqB ∧ b ≠ quoteB) :
    qualScan (k ++ eqB :: quoteB :: (v ++ r)) = (k, v ++ (valScan r false).1, (valScan r false).2) := by
  have hq : quoteB ≠ eqB := by decide
  rw [qualScan_key k _ hk]
  simp only [valScan, hq, if_false, if_true, Bool.not_true, valScan_plain v r false hv]

theorem contScan_plain : ∀ (c r : List Nat) (qc : Bool), (∀ b ∈ c, b ≠ quoteB) →
    contScan (c ++ r) qc = (c ++ (contScan r qc).1, (contScan r qc).2) := by
  intro c
  induction c with
  | nil => intro r qc _; rfl
  | cons b t ih =>
    intro r qc h
    have hb := h b List.mem_cons_self
    simp only [List.cons_append, contScan, hb, if_false]
    rw [ih r qc (fun x hx => h x (List.mem_cons_of_mem _ hx))]

/-! ### rendering of well-formed features -/

/-- a feature as a writer holds it: key, structured location, qualifiers in order -/
structure FeatS where
  key : Bytes
  loc : Loc
  quals : List (Bytes × List Bytes)   -- key and the value as laid out: one piece, or wrapped into several lines

/-- the key column is 16 wide; a longer key is followed by one blank -/
def padN (k : Nat) : Nat := if k < 16 then 16 - k else 1

def featLine (f : FeatS) : Bytes := spaces 5 ++ (f.key ++ (spaces (padN f.key.length) ++ renderLocation f.loc))

/-- 21 blanks, then /key="value"; also for codon_start, which NCBI writes unquoted: the round trip covers the quoted
form only -/
def qualLine (q : Bytes × Bytes) : Bytes := spaces 21 ++ slash :: (q.1 ++ eqB :: quoteB :: (q.2 ++ [quoteB]))

def contLines : List Bytes → List Bytes
  | [] => []
  | [c] => [spaces 21 ++ (c ++ [quoteB])]
  | c :: c' :: r => (spaces 21 ++ c) :: contLines (c' :: r)

def qualLines (q : Bytes × List Bytes) : List Bytes :=
  match q.2 with
  | [] => []
  | [c] => [qualLine (q.1, c)]
  | c :: c' :: r => (spaces 21 ++ slash :: (q.1 ++ eqB :: quoteB :: c)) :: contLines (c' :: r)

/-- a qualifier as the reader returns it -/
def qv (q : Bytes × List Bytes) : Bytes × Bytes := (q.1, q.2.flatten)

def featLines (f : FeatS) : List Bytes := featLine f :: f.quals.flatMap qualLines

def expected (f : FeatS) : Feat := { key := f.key, loc := renderLocation f.loc, info := some (f.quals.map qv) }

def ValB (b : Nat) : Prop := 32 ≤ b ∧ b ≤ 126 ∧ b ≠ eqB ∧ b ≠ quoteB

instance (b : Nat) : Decidable (ValB b) := by unfold ValB; exact inferInstance

/-- `QualOkW` below for a value written on one line -/
def QualOk (q : Bytes × Bytes) : Prop :=
  q.1 ≠ [] ∧ AllWord q.1 ∧ (∀ b ∈ q.1, b ≠ eqB) ∧ q.2 ≠ [] ∧ (∀ b ∈ q.2, ValB b) ∧ (qualLine q).length < maxTok

instance (q : Bytes × Bytes) : Decidable (QualOk q) := by unfold QualOk; exact inferInstance

/-- a laid-out qualifier the reader gives back unchanged. A value wrapped over several lines contains no blank: the reader
trims every line, so a blank at a line break would be lost -/
def QualOkW (q : Bytes × List Bytes) : Prop :=
  q.1 ≠ [] ∧ AllWord q.1 ∧ (∀ b ∈ q.1, b ≠ eqB) ∧ q.2 ≠ [] ∧ (∀ c ∈ q.2, c ≠ [] ∧ ∀ b ∈ c, ValB b) ∧
    (1 < q.2.length → ∀ c ∈ q.2, AllWord c) ∧ (∀ l ∈ qualLines q, l.length < maxTok)

instance (q : Bytes × List Bytes) : Decidable (QualOkW q) := by unfold QualOkW; exact inferInstance

/-- a feature the reader gives back unchanged.
At least one qualifier: when the next feature line comes, parseGenbankFEATURES stores keyBuffer ↦ valueBuffer whatever
they hold, so a feature without qualifier that is not the last one comes back with the entry "" ↦ "". -/
def FeatOk (f : FeatS) : Prop :=
  f.key ≠ [] ∧ AllWord f.key ∧ f.key.head? ≠ some slash ∧ LocOk f.loc ∧ f.quals ≠ [] ∧ (∀ q ∈ f.quals, QualOkW q) ∧
    (f.quals.map (·.1)).Nodup ∧ (featLine f).length < maxTok

instance (f : FeatS) : Decidable (FeatOk f) := by unfold FeatOk; exact inferInstance

/-! ### the text of a location consists of printable non-blank bytes -/

theorem allWord_digits (n : Nat) : AllWord (digitsOf n) := by
  intro b hb
  have := isDigitB_iff.1 (digitsOf_isDigit n b hb)
  unfold WordB; omega

theorem allWord_segB (s : Nat × Nat) : AllWord (segB s) := all_segB allWord_digits (by decide) s

theorem allWord_joinCut : AllWord joinCut := by unfold AllWord; decide
theorem allWord_compCut : AllWord compCut := by unfold AllWord; decide
theorem allWord_rp : AllWord [rp] := by unfold AllWord; decide

theorem allWord_compSegB (s : Nat × Nat) : AllWord (compSegB s) :=
  all_append (all_append allWord_compCut (allWord_segB s)) allWord_rp

theorem allWord_render (l : Loc) : AllWord (renderLocation l) := by
  obtain ⟨form, segs⟩ := l
  have hj : AllWord (joinCut ++ joinB commaB (segs.map segB) ++ [rp]) :=
    all_append (all_append allWord_joinCut (forall_mem_joinB (by decide) (List.forall_mem_map.2 fun s _ => allWord_segB s))) allWord_rp
  cases form with
  | range => exact allWord_segB _
  | join => exact hj
  | comp => exact allWord_compSegB _
  | compJoin => exact all_append (all_append allWord_compCut hj) allWord_rp
  | joinComp =>
    exact all_append (all_append allWord_joinCut (forall_mem_joinB (by decide) (List.forall_mem_map.2 fun s _ => allWord_compSegB s))) allWord_rp

theorem render_ne_nil (l : Loc) : renderLocation l ≠ [] := by
  obtain ⟨form, segs⟩ := l
  cases form with
  | range =>
    obtain ⟨c, t, h, _⟩ := startsDigit_segB (segs.headD (0, 0))
    simp only [renderLocation]
    rw [h]; simp
  | join => simp [renderLocation, joinCut]
  | comp => simp [renderLocation, compCut]
  | compJoin => simp [renderLocation, compCut]
  | joinComp => simp [renderLocation, joinCut]

theorem printable_val {v : Bytes} (h : ∀ b ∈ v, ValB b) : Printable v := fun b hb => by
  have := h b hb; unfold ValB at this; omega

/-! ### the lines of a feature table: what they consist of -/

theorem featBody (f : FeatS) (h : FeatOk f) :
    Printable (f.key ++ (spaces (padN f.key.length) ++ renderLocation f.loc)) ∧
      Starts WordB (f.key ++ (spaces (padN f.key.length) ++ renderLocation f.loc)) ∧
      Ends WordB (f.key ++ (spaces (padN f.key.length) ++ renderLocation f.loc)) :=
  ⟨all_append (printable_word h.2.1) (all_append (printable_spaces _) (printable_word (allWord_render _))),
    (starts_of_all h.1 h.2.1).append _, ((ends_of_all (render_ne_nil _) (allWord_render _)).append _).append _⟩

theorem printable_qualBody (k v t : Bytes) (hk : AllWord k) (hv : ∀ b ∈ v, ValB b) (ht : Printable t) :
    Printable (k ++ eqB :: quoteB :: (v ++ t)) :=
  all_append (printable_word hk) (all_cons (by decide) (all_cons (by decide) (all_append (printable_val hv) ht)))

theorem printable_quote : Printable [quoteB] := by unfold Printable; decide

theorem printable_contLines : ∀ (cs : List Bytes), (∀ c ∈ cs, ∀ b ∈ c, ValB b) → ∀ l ∈ contLines cs, Printable l
  | [], _, l, hl => nomatch hl
  | [c], h, l, hl => by
    rw [List.mem_singleton.1 hl]
    exact all_append (printable_spaces _) (all_append (printable_val (h c List.mem_cons_self)) printable_quote)
  | c :: c' :: r, h, l, hl => by
    rcases List.mem_cons.1 hl with rfl | hl
    · exact all_append (printable_spaces _) (printable_val (h c List.mem_cons_self))
    · exact printable_contLines (c' :: r) (fun x hx => h x (List.mem_cons_of_mem _ hx)) l hl

theorem printable_qualLines (q : Bytes × List Bytes) (hq : QualOkW q) : ∀ l ∈ qualLines q, Printable l := by
  intro l hl
  obtain ⟨k, cs⟩ := q
  obtain ⟨_, hk1, _, _, hcs, _, _⟩ := hq
  simp only at hk1 hcs
  have hslash : ∀ v, (∀ b ∈ v, ValB b) → ∀ t, Printable t → Printable (spaces 21 ++ slash :: (k ++ eqB :: quoteB :: (v ++ t))) :=
    fun v hv t ht => all_append (printable_spaces _) (all_cons (by decide) (printable_qualBody k v t hk1 hv ht))
  match cs, hcs, hl with
  | [c], hcs, hl =>
    rw [List.mem_singleton.1 hl]
    exact hslash c (hcs c List.mem_cons_self).2 _ printable_quote
  | c :: c' :: r, hcs, hl =>
    rcases List.mem_cons.1 hl with rfl | hl
    · have := hslash c (hcs c List.mem_cons_self).2 [] all_nil
      rwa [List.append_nil] at this
    · exact printable_contLines _ (fun x hx => (hcs x (List.mem_cons_of_mem _ hx)).2) l hl

/-! ### the lines of a feature through isFeatureLine, strings.Fields and strings.TrimSpace -/

theorem fields_featLine (f : FeatS) (h : FeatOk f) : fields (featLine f) = [f.key, renderLocation f.loc] := by
  have hl : Ascii (featLine f) := printable_ascii (all_append (printable_spaces _) (featBody f h).1)
  have hp : ∃ p, padN f.key.length = p + 1 := by
    unfold padN
    split
    · exact ⟨16 - f.key.length - 1, by omega⟩
    · exact ⟨0, rfl⟩
  obtain ⟨p, hp⟩ := hp
  unfold fields
  rw [toks_ascii _ hl]
  unfold featLine
  rw [fieldsT_spaces, hp, spaces_succ,
    fieldsT_word f.key h.1 h.2.1 _ (fun c t e => by injection e with e1 _; rw [← e1]; exact isSpace_blank),
    ← spaces_succ, fieldsT_spaces, fieldsT_word_end _ (render_ne_nil _) (allWord_render _)]

theorem isFeatureLine_featLine (f : FeatS) (h : FeatOk f) : isFeatureLine (featLine f) true = true := by
  unfold isFeatureLine
  rw [fields_featLine f h]
  simpa using h.2.2.1

theorem newGb_featLine (f : FeatS) (h : FeatOk f) :
    newGb (featLine f) = { key := f.key, loc := renderLocation f.loc, info := some [] } := by
  unfold newGb
  rw [fields_featLine f h]

theorem trimSpace_featLine (f : FeatS) (h : FeatOk f) :
    ∃ c t, trimSpace (featLine f) = c :: t ∧ c ≠ slash := by
  obtain ⟨_, h1, h2⟩ := featBody f h
  unfold featLine
  rw [trimSpace_line 5 _ h1 h2]
  cases hkey : f.key with
  | nil => exact absurd hkey h.1
  | cons c t =>
    refine ⟨c, _, rfl, fun hc => h.2.2.1 ?_⟩
    rw [hkey, hc]
    rfl

/-! ### parseGenbankFEATURES on the rendered feature table -/

/-- the loop state between two lines: the finished features, the current one, quoteClosed, the pending qualifier -/
def st (qc : Bool) (done : List Feat) (cur : Feat) (pk pv : Bytes) : FSt :=
  { feats := done, quoteClosed := qc, gb := cur, key := pk, val := pv }

/-- the pending qualifier goes into the map when the next one starts -/
def flushQ (m : Info) (pk pv : Bytes) : Info := if pk = [] then m else setKV m pk pv

/-- a line `/body` outside a quoted value: the pending qualifier is stored, the scan of `body` becomes the pending one -/
theorem slash_step (n : Nat) (body k v : Bytes) (qc : Bool) (ha : Ascii body) (he : Ends WordB (slash :: body))
    (hscan : qualScan body = (k, v, qc)) (done : List Feat) (ck cl : Bytes) (m : Info) (pk pv : Bytes)
    (hpk : Ascii pk) (hpv : Ascii pv) :
    featStep false (spaces n ++ slash :: body) (st true done { key := ck, loc := cl, info := some m } pk pv) =
      some (st qc done { key := ck, loc := cl, info := some (flushQ m pk pv) } k v) := by
  unfold featStep
  simp only [st, isFeatureLine_slash n body ha true, Bool.false_eq_true, false_and, if_false,
    trimSpace_line n _ ⟨slash, body, rfl, by decide⟩ he, runes_ascii body ha, hscan, true_and]
  by_cases hp : pk = []
  · subst hp
    simp [flushQ]
  · simp [hp, flushQ, store, encodeRunes_ascii pk hpk, encodeRunes_ascii pv hpv]

theorem cont_step (n : Nat) (x v' : Bytes) (qc : Bool) (h1 : Starts WordB x) (h2 : Ends WordB x) (ha : Ascii x)
    (hscan : contScan x false = (v', qc)) (done : List Feat) (cur : Feat) (k v : Bytes) (hk : k ≠ []) :
    featStep false (spaces n ++ x) (st false done cur k v) = some (st qc done cur k (v ++ v')) := by
  obtain ⟨c, t, hx, _⟩ := h1
  unfold featStep
  simp only [st, isFeatureLine, Bool.false_and, Bool.false_eq_true, false_and, if_false, trimSpace_line n x ⟨c, t, hx, by assumption⟩ h2]
  rw [hx]
  simp only [hk, and_false, if_false, Bool.not_false, if_true]
  rw [← hx, runes_ascii x ha, hscan]

theorem feat_step (f : FeatS) (hf : FeatOk f) (done : List Feat) (ck cl : Bytes) (m : Info) (pk pv : Bytes)
    (hpk : Ascii pk) (hpv : Ascii pv) :
    featStep false (featLine f) (st true done { key := ck, loc := cl, info := some m } pk pv) =
      some (st true (done ++ [{ key := ck, loc := cl, info := some (setKV m pk pv) }])
        { key := f.key, loc := renderLocation f.loc, info := some [] } [] []) := by
  obtain ⟨c, t, htrim, hc⟩ := trimSpace_featLine f hf
  unfold featStep
  simp only [st, isFeatureLine_featLine f hf, Bool.false_eq_true, and_false, if_false, htrim, hc, false_and,
    Bool.not_true, if_true, store, encodeRunes_ascii pk hpk, encodeRunes_ascii pv hpv, newGb_featLine f hf]

theorem feat_first (f : FeatS) (hf : FeatOk f) :
    featStep true (featLine f) featInit =
      some (st true [] { key := f.key, loc := renderLocation f.loc, info := some [] } [] []) := by
  unfold featStep
  simp [featInit, st, isFeatureLine_featLine f hf, newGb_featLine f hf]

def PieceOk (c : Bytes) : Prop := c ≠ [] ∧ AllWord c ∧ ∀ b ∈ c, ValB b

theorem cont_loop : ∀ (cs : List Bytes) (rest : List Bytes) (done : List Feat) (cur : Feat) (k v : Bytes), cs ≠ [] →
    (∀ c ∈ cs, PieceOk c) → k ≠ [] →
    featLoop (contLines cs ++ rest) false (st false done cur k v) = featLoop rest false (st true done cur k (v ++ cs.flatten)) := by
  intro cs
  induction cs with
  | nil => intro _ _ _ _ _ h; exact absurd rfl h
  | cons c t ih =>
    intro rest done cur k v _ hp hk
    obtain ⟨hne, hw, hv⟩ := hp c List.mem_cons_self
    have hnq : ∀ b ∈ c, b ≠ quoteB := fun b hb => (hv b hb).2.2.2
    cases t with
    | nil =>
      have hscan : contScan (c ++ [quoteB]) false = (c, true) := by
        rw [contScan_plain c [quoteB] false hnq]
        simp [contScan]
      simp only [contLines, List.cons_append, List.nil_append, featLoop,
        cont_step 21 (c ++ [quoteB]) c true ((starts_of_all hne hw).append _) ⟨c, quoteB, rfl, by decide⟩
          (all_append (allWord_ascii hw) (by decide)) hscan done cur k v hk]
      simp
    | cons c' r =>
      have hscan : contScan c false = (c, false) := by
        have := contScan_plain c [] false hnq
        simpa [contScan] using this
      simp only [contLines, List.cons_append, featLoop,
        cont_step 21 c c false (starts_of_all hne hw) (ends_of_all hne hw) (allWord_ascii hw) hscan done cur k v hk]
      rw [ih rest done cur k (v ++ c) (by simp) (fun x hx => hp x (List.mem_cons_of_mem _ hx)) hk]
      simp

/-- all the lines of one qualifier: the pending one is stored, this one becomes pending with its whole value -/
theorem qual_lines (q : Bytes × List Bytes) (hq : QualOkW q) (rest : List Bytes) (done : List Feat) (ck cl : Bytes) (m : Info)
    (pk pv : Bytes) (hpk : Ascii pk) (hpv : Ascii pv) :
    featLoop (qualLines q ++ rest) false (st true done { key := ck, loc := cl, info := some m } pk pv) =
      featLoop rest false (st true done { key := ck, loc := cl, info := some (flushQ m pk pv) } (qv q).1 (qv q).2) := by
  obtain ⟨k, cs⟩ := q
  obtain ⟨hk0, hk1, hk2, hne, hcs, hwrap, _⟩ := hq
  simp only at hk0 hk1 hk2 hne hcs hwrap
  have hval : ∀ c ∈ cs, ∀ b ∈ c, b ≠ eqB ∧ b ≠ quoteB := fun c hc b hb => ((hcs c hc).2 b hb).2.2
  match cs, hne, hcs, hwrap, hval with
  | [c], _, hcs, _, hval =>
    have hc := hcs c List.mem_cons_self
    have hscan : qualScan (k ++ eqB :: quoteB :: (c ++ [quoteB])) = (k, c, true) := by
      have hq : quoteB ≠ eqB := by decide
      rw [qualScan_open k c [quoteB] hk2 (hval c List.mem_cons_self)]
      simp [valScan, hq]
    have hp := printable_ascii (printable_qualBody k c [quoteB] hk1 hc.2 printable_quote)
    simp only [qualLines, qualLine, List.cons_append, List.nil_append, featLoop,
      slash_step 21 _ k c true hp ⟨slash :: (k ++ eqB :: quoteB :: c), quoteB, by simp, by decide⟩ hscan done ck cl m pk pv hpk hpv, qv]
    simp
  | c :: c' :: r, _, hcs, hwrap, hval =>
    have hpieces : ∀ x ∈ c :: c' :: r, PieceOk x := fun x hx => ⟨(hcs x hx).1, hwrap (by simp) x hx, (hcs x hx).2⟩
    have hc := hpieces c List.mem_cons_self
    have hscan : qualScan (k ++ eqB :: quoteB :: c) = (k, c, false) := by
      have := qualScan_open k c [] hk2 (hval c List.mem_cons_self)
      simpa [valScan] using this
    have he : Ends WordB (slash :: (k ++ eqB :: quoteB :: c)) := by
      have := (ends_of_all hc.1 hc.2.1).append (slash :: (k ++ [eqB, quoteB]))
      simpa using this
    have hp := printable_ascii (printable_qualBody k c [] hk1 hc.2.2 all_nil)
    rw [List.append_nil] at hp
    simp only [qualLines, List.cons_append, featLoop,
      slash_step 21 _ k c false hp he hscan done ck cl m pk pv hpk hpv]
    rw [cont_loop (c' :: r) rest done _ k c (by simp) (fun x hx => hpieces x (List.mem_cons_of_mem _ hx)) hk0]
    simp [qv]

def PairOk (p : Bytes × Bytes) : Prop := p.1 ≠ [] ∧ p.2 ≠ [] ∧ Ascii p.1 ∧ Ascii p.2

theorem pairOk_qv (q : Bytes × List Bytes) (hq : QualOkW q) : PairOk (qv q) := by
  obtain ⟨hk0, hk1, _, hne, hcs, _, _⟩ := hq
  have hval : Ascii q.2.flatten := fun b hb => by
    obtain ⟨c, hc, hbc⟩ := List.mem_flatten.1 hb
    exact printable_ascii (printable_val (hcs c hc).2) b hbc
  refine ⟨hk0, ?_, allWord_ascii hk1, hval⟩
  cases hq2 : q.2 with
  | nil => exact absurd hq2 hne
  | cons c t =>
    have := (hcs c (by rw [hq2]; exact List.mem_cons_self)).1
    cases c with
    | nil => exact absurd rfl this
    | cons b u => simp [qv, hq2]

def pend (qs : List (Bytes × Bytes)) : Bytes × Bytes := qs.getLast?.getD ([], [])

/-- the loop state after a feature line and the qualifiers `qs`: all but the last are in the map, the last is pending -/
def stQuals (done : List Feat) (k l : Bytes) (qs : List (Bytes × Bytes)) : FSt :=
  st true done { key := k, loc := l, info := some qs.dropLast } (pend qs).1 (pend qs).2

theorem pend_concat (qs : List (Bytes × Bytes)) (q : Bytes × Bytes) : pend (qs ++ [q]) = q := by simp [pend]

theorem pend_eq (qs : List (Bytes × Bytes)) (hne : qs ≠ []) : pend qs = qs.getLast hne := by
  rw [pend, List.getLast?_eq_some_getLast hne]
  rfl

theorem pend_mem (qs : List (Bytes × Bytes)) (hne : qs ≠ []) : pend qs ∈ qs := by
  rw [pend_eq qs hne]
  exact List.getLast_mem hne

theorem pend_ok (qs : List (Bytes × Bytes)) (h : ∀ p ∈ qs, PairOk p) : Ascii (pend qs).1 ∧ Ascii (pend qs).2 := by
  unfold pend
  cases hl : qs.getLast? with
  | none => exact ⟨all_nil, all_nil⟩
  | some p => exact (h p (List.mem_of_getLast? hl)).2.2

theorem setKV_new (m : Info) (k v : Bytes) (h : ∀ e ∈ m, e.1 ≠ k) : setKV m k v = m ++ [(k, v)] := by
  unfold setKV
  have : m.any (fun e => e.1 == k) = false := by
    rw [List.any_eq_false]
    intro e he
    simpa using h e he
  simp [this]

theorem setKV_pend (qs : List (Bytes × Bytes)) (hne : qs ≠ []) (hnd : (qs.map (·.1)).Nodup) :
    setKV qs.dropLast (pend qs).1 (pend qs).2 = qs := by
  have hl : qs.dropLast ++ [pend qs] = qs := by rw [pend_eq qs hne]; exact List.dropLast_concat_getLast hne
  rw [← hl, List.map_append, List.nodup_append] at hnd
  rw [setKV_new _ _ _ fun e he heq => hnd.2.2 e.1 (List.mem_map.2 ⟨e, he, rfl⟩) (pend qs).1 (by simp) heq]
  exact hl

theorem flushQ_pend (qs : List (Bytes × Bytes)) (hk : ∀ q ∈ qs, q.1 ≠ []) (hnd : (qs.map (·.1)).Nodup) :
    flushQ qs.dropLast (pend qs).1 (pend qs).2 = qs := by
  by_cases hne : qs = []
  · subst hne
    rfl
  · rw [flushQ, if_neg (hk _ (pend_mem qs hne)), setKV_pend qs hne hnd]

/-- the qualifiers of one feature. `pre`: those read so far, held as `stQuals` says since a qualifier is stored only when
the next one starts -/
theorem quals_loop : ∀ (qs : List (Bytes × List Bytes)) (pre : List (Bytes × Bytes)) (rest : List Bytes) (done : List Feat)
    (k l : Bytes), (∀ q ∈ qs, QualOkW q) → (∀ p ∈ pre, PairOk p) → ((pre ++ qs.map qv).map (·.1)).Nodup →
    featLoop (qs.flatMap qualLines ++ rest) false (stQuals done k l pre) =
      featLoop rest false (stQuals done k l (pre ++ qs.map qv)) := by
  intro qs
  induction qs with
  | nil => intro pre rest done k l _ _ _; simp
  | cons q t ih =>
    intro pre rest done k l h hpre hnd
    have hq := h q List.mem_cons_self
    have hnd' : (((pre ++ [qv q]) ++ t.map qv).map (·.1)).Nodup := by simpa using hnd
    have hpre' : ∀ p ∈ pre ++ [qv q], PairOk p := all_append hpre (all_cons (pairOk_qv q hq) all_nil)
    have hpn : (pre.map (·.1)).Nodup := by
      rw [List.map_append, List.nodup_append] at hnd
      exact hnd.1
    simp only [List.flatMap_cons, List.append_assoc, List.map_cons]
    rw [stQuals, qual_lines q hq _ done k l _ _ _ (pend_ok pre hpre).1 (pend_ok pre hpre).2,
      flushQ_pend pre (fun p hp => (hpre p hp).1) hpn]
    have := ih (pre ++ [qv q]) rest done k l (fun x hx => h x (List.mem_cons_of_mem _ hx)) hpre' hnd'
    rw [stQuals, List.dropLast_concat, pend_concat, List.append_assoc] at this
    exact this

theorem flatMap_featLines (f : FeatS) (t : List FeatS) :
    (f :: t).flatMap featLines = featLine f :: (f.quals.flatMap qualLines ++ t.flatMap featLines) := by
  simp [featLines]

theorem quals_ok (f : FeatS) (hf : FeatOk f) :
    f.quals.map qv ≠ [] ∧ (∀ p ∈ f.quals.map qv, PairOk p) ∧ ((f.quals.map qv).map (·.1)).Nodup := by
  obtain ⟨_, _, _, _, hqne, hqs, hnd, _⟩ := hf
  refine ⟨by simpa using hqne, fun p hp => ?_, ?_⟩
  · obtain ⟨q, hq, rfl⟩ := List.mem_map.1 hp
    exact pairOk_qv q (hqs q hq)
  · have : (f.quals.map qv).map (·.1) = f.quals.map (·.1) := by simp [qv, Function.comp_def]
    rw [this]; exact hnd

theorem feat_quals (f : FeatS) (hf : FeatOk f) (rest : List Bytes) (done : List Feat) :
    featLoop (f.quals.flatMap qualLines ++ rest) false (stQuals done f.key (renderLocation f.loc) []) =
      featLoop rest false (stQuals done f.key (renderLocation f.loc) (f.quals.map qv)) := by
  have := quals_loop f.quals [] rest done f.key (renderLocation f.loc) hf.2.2.2.2.2.1 all_nil (by simpa using (quals_ok f hf).2.2)
  simpa using this

/-- the features after the first, from the state after the qualifiers `qs` of feature (`k`, `l`). `.bind featFinish`: the last
qualifier and the last feature are stored only after the loop -/
theorem feats_loop : ∀ (fs : List FeatS) (done : List Feat) (k l : Bytes) (qs : List (Bytes × Bytes)),
    (∀ f ∈ fs, FeatOk f) → qs ≠ [] → (∀ p ∈ qs, PairOk p) → (qs.map (·.1)).Nodup →
    (featLoop (fs.flatMap featLines) false (stQuals done k l qs)).bind featFinish =
      some (done ++ [{ key := k, loc := l, info := some qs }] ++ fs.map expected) := by
  intro fs
  induction fs with
  | nil =>
    intro done k l qs _ hne hp hnd
    have hlast := hp _ (pend_mem qs hne)
    have hfl := setKV_pend qs hne hnd
    simp [featLoop, featFinish, stQuals, st, hlast.1, hlast.2.1, store, encodeRunes_ascii _ hlast.2.2.1,
      encodeRunes_ascii _ hlast.2.2.2, hfl]
  | cons f t ih =>
    intro done k l qs h hne hp hnd
    have hf := h f List.mem_cons_self
    obtain ⟨hq1, hq2, hq3⟩ := quals_ok f hf
    have hfl := setKV_pend qs hne hnd
    rw [flatMap_featLines, stQuals]
    simp only [featLoop, feat_step f hf done k l _ _ _ (pend_ok qs hp).1 (pend_ok qs hp).2, hfl]
    change (featLoop _ false (stQuals _ f.key _ [])).bind featFinish = _
    rw [feat_quals f hf, ih _ _ _ _ (fun x hx => h x (List.mem_cons_of_mem _ hx)) hq1 hq2 hq3]
    simp [expected]

theorem parseFeatures_eq_bind (lines : List Bytes) :
    parseFeatures lines = (featLoop lines true featInit).bind featFinish := by
  unfold parseFeatures
  cases featLoop lines true featInit <;> rfl

/-- **the feature table**: parseGenbankFEATURES gives back every well-formed feature, in order, with its key, the
text of its location and all its qualifiers -/
theorem parseFeatures_render (fs : List FeatS) (hne : fs ≠ []) (h : ∀ f ∈ fs, FeatOk f) :
    parseFeatures (fs.flatMap featLines) = some (fs.map expected) := by
  cases fs with
  | nil => exact absurd rfl hne
  | cons f t =>
    have hf := h f List.mem_cons_self
    obtain ⟨hq1, hq2, hq3⟩ := quals_ok f hf
    rw [parseFeatures_eq_bind, flatMap_featLines]
    simp only [featLoop, feat_first f hf]
    change (featLoop _ false (stQuals _ f.key _ [])).bind featFinish = _
    rw [feat_quals f hf, feats_loop t [] _ _ _ (fun x hx => h x (List.mem_cons_of_mem _ hx)) hq1 hq2 hq3]
    simp [expected]

/-! ### the flat file as written: header lines, sequence lines, the record -/

def locusLine : Bytes := [76, 79, 67, 85, 83, 32, 32, 32, 32, 32, 32, 32, 71, 66]
def featuresHdr : Bytes := [70, 69, 65, 84, 85, 82, 69, 83, 32, 32, 32, 32, 32, 32, 32, 32, 32, 32, 32, 32, 32, 76, 111, 99, 97,
  116, 105, 111, 110, 47, 81, 117, 97, 108, 105, 102, 105, 101, 114, 115]
def originHdr : Bytes := [79, 82, 73, 71, 73, 78, 32, 32, 32, 32, 32, 32]
def endLine : Bytes := [47, 47]

-- the kernel decodes a literal in time quadratic in its length; these are long, so the literal is first rewritten as
-- `String.ofList` of its characters (the short ones at the head of the file are decoded as they are)
theorem locusLine_text : locusLine = "LOCUS       GB".toList.map Char.toNat := by
  rw [String.toList_ofList]; decide +kernel
theorem featuresHdr_text : featuresHdr = "FEATURES             Location/Qualifiers".toList.map Char.toNat := by
  rw [String.toList_ofList]; decide +kernel
theorem originHdr_text : originHdr = "ORIGIN      ".toList.map Char.toNat := by
  rw [String.toList_ofList]; decide +kernel

/-- cut into pieces of k elements (the last one may be shorter); `cur` is the piece being filled -/
def chunkGo {α : Type} (k : Nat) : List α → List α → List (List α)
  | [], cur => if cur.isEmpty then [] else [cur]
  | a :: t, cur => if cur.length + 1 = k then (cur ++ [a]) :: chunkGo k t [] else chunkGo k t (cur ++ [a])

def pad9 (n : Nat) : Bytes := spaces (9 - (digitsOf n).length) ++ digitsOf n

/-- one ORIGIN line: the number of its first base, then blocks of bases each preceded by a blank -/
def originLineOf (start : Nat) (groups : List Bytes) : Bytes := pad9 start ++ groups.flatMap fun g => 32 :: g

def numberLines : Nat → List (List Bytes) → List Bytes
  | _, [] => []
  | n, g :: gs => originLineOf n g :: numberLines (n + 60) gs

/-- sixty bases per line in blocks of ten -/
def originLines (origin : Bytes) : List Bytes := numberLines 1 (chunkGo 6 (chunkGo 10 origin []) [])

def renderLines (feats : List FeatS) (origin : Bytes) : List Bytes :=
  locusLine :: featuresHdr :: (feats.flatMap featLines ++ originHdr :: (originLines origin ++ [endLine]))

def render (feats : List FeatS) (origin : Bytes) : Bytes := (renderLines feats origin).flatMap fun l => l ++ [10]

def isAlphaB (b : Nat) : Bool := (65 ≤ b && b ≤ 90) || (97 ≤ b && b ≤ 122)

/-- A line is the number in at least nine columns and at most 66 bytes more, so the second condition fails only when the
number has about 2^20 digits: it is there because `numberLines` is defined for every `Nat`, not to exclude any real
sequence -/
def OriginOk (origin : Bytes) : Prop :=
  (∀ b ∈ origin, isAlphaB b = true) ∧ ∀ l ∈ originLines origin, l.length < maxTok

instance (origin : Bytes) : Decidable (OriginOk origin) := by unfold OriginOk; exact inferInstance

/-! #### bufio.Scanner: the model of this reader and the model of the GFF3 reader are the same function -/

theorem dropCR_reverse : ∀ (acc : Bytes), dropCR acc.reverse = (dropCRrev acc).reverse
  | [] => rfl
  | a :: t => by
    by_cases h : a = 13
    · subst h; simp [dropCR, dropCRrev]
    · have : dropCRrev (a :: t) = a :: t := by
        unfold dropCRrev
        split
        · rename_i heq; injection heq with h1 _; exact absurd h1 h
        · rfl
      rw [this, dropCR_noCR _ (by simpa using h)]

/-- the line being collected is a prefix of the first raw line -/
theorem splitLinesAux_head : ∀ (t cur : Bytes), cur ≠ [] → ∃ l r, splitLinesAux t cur = l :: r ∧ cur.length ≤ l.length
  | [], cur, h => ⟨cur.reverse, [], by simp [splitLinesAux, h], by simp⟩
  | b :: t, cur, _ => by
    by_cases hb : b = 10
    · subst hb; exact ⟨cur.reverse, _, by rw [splitLinesAux], by simp⟩
    · obtain ⟨l, r, e, hl⟩ := splitLinesAux_head t (b :: cur) (List.cons_ne_nil _ _)
      exact ⟨l, r, by rw [splitLinesAux_cons_ne hb, e], by simp only [List.length_cons] at hl; omega⟩

/-- **one scanner**: this reader's scanner (one pass, the current line reversed and counted), in any state, is the GFF3
reader's (the raw lines, cut at the first over-long one) on the lines still to come -/
theorem scan_eq : ∀ (t acc : Bytes), acc.length < maxTok →
    scanLines t acc acc.length = ((splitLinesAux t acc).takeWhile fun l => l.length < GffText.maxToken).map dropCR ∧
    tooLong t acc.length = (splitLinesAux t acc).any fun l => decide (GffText.maxToken ≤ l.length)
  | [], acc, h => by
    by_cases ha : acc = []
    · subst ha; exact ⟨rfl, rfl⟩
    · simp [scanLines, tooLong, splitLinesAux, ha, hM, h, Nat.not_le.2 h, dropCR_reverse]
  | b :: t, acc, h => by
    by_cases hb : b = 10
    · subst hb
      obtain ⟨ih1, ih2⟩ := scan_eq t [] (by decide)
      rw [List.length_nil] at ih1 ih2
      rw [splitLinesAux]
      simp [scanLines, tooLong, hM, h, Nat.not_le.2 h, dropCR_reverse, ih1, ih2]
    · rw [splitLinesAux_cons_ne hb]
      by_cases hlim : acc.length + 1 ≥ maxTok
      · -- the raw line that holds `b :: acc` is too long for both
        obtain ⟨l, r, e, hl⟩ := splitLinesAux_head t (b :: acc) (List.cons_ne_nil _ _)
        simp only [List.length_cons] at hl
        have h1 : ¬ l.length < maxTok := by omega
        simp [scanLines, tooLong, hb, hlim, e, hM, h1, Nat.le_of_not_lt h1]
      · obtain ⟨ih1, ih2⟩ := scan_eq t (b :: acc) (by simp only [List.length_cons]; omega)
        simp only [List.length_cons] at ih1 ih2
        simp only [scanLines, tooLong, hb, hlim, if_false]
        exact ⟨ih1, ih2⟩
where hM : GffText.maxToken = maxTok := rfl

theorem scanLines_eq (text : Bytes) : scanLines text [] 0 = GffText.scanLines text := (scan_eq text [] (by decide)).1

theorem tooLong_eq (text : Bytes) : tooLong text 0 = GffText.tooLong text := (scan_eq text [] (by decide)).2

/-! #### the lines of the feature table: free of line ends and within the scanner's limit (`LineOk`), not the start of a
section (`BodyLine`) -/

/-- no LF, no CR, shorter than the scanner's buffer. More than the scanner asks (`CleanLine` of TextFacts allows a CR that is
not the last byte: `cleanLine_of_lineOk`); the written lines are printable, so nothing is lost by it -/
def LineOk (l : Bytes) : Prop := (∀ b ∈ l, b ≠ 10 ∧ b ≠ 13) ∧ l.length < maxTok

instance (l : Bytes) : Decidable (LineOk l) := by unfold LineOk; exact inferInstance

theorem lineOk_printable {l : Bytes} (hp : Printable l) (hlen : l.length < maxTok) : LineOk l :=
  ⟨fun b hb => by have := hp b hb; omega, hlen⟩

theorem lineOk_qualLine (q : Bytes × Bytes) (h : QualOk q) : LineOk (qualLine q) :=
  lineOk_printable (all_append (printable_spaces _) (all_cons (by decide)
    (printable_qualBody q.1 q.2 [quoteB] h.2.1 h.2.2.2.2.1 printable_quote))) h.2.2.2.2.2

theorem lineOk_featLines (f : FeatS) (h : FeatOk f) : ∀ l ∈ featLines f, LineOk l := by
  intro l hl
  rcases List.mem_cons.1 hl with rfl | hl
  · exact lineOk_printable (all_append (printable_spaces _) (featBody f h).1) h.2.2.2.2.2.2.2
  · obtain ⟨q, hq, hlq⟩ := List.mem_flatMap.1 hl
    have hqok := h.2.2.2.2.2.1 q hq
    exact lineOk_printable (printable_qualLines q hqok l hlq) (hqok.2.2.2.2.2.2 l hlq)

/-- the first byte is not an upper-case letter: the line belongs to the current section -/
abbrev BodyLine : Bytes → Prop := Starts fun b => isUpperB b = false

theorem bodyLine_blank (n : Nat) (x : Bytes) : BodyLine (spaces (n + 1) ++ x) := ⟨32, _, spaces_succ n x, by decide⟩

theorem contLines_body : ∀ (cs : List Bytes), ∀ l ∈ contLines cs, BodyLine l
  | [], _, hl => nomatch hl
  | [_], l, hl => by rw [List.mem_singleton.1 hl]; exact bodyLine_blank 20 _
  | _ :: c' :: r, l, hl => by
    rcases List.mem_cons.1 hl with rfl | hl
    · exact bodyLine_blank 20 _
    · exact contLines_body (c' :: r) l hl

theorem featLines_body (f : FeatS) : ∀ l ∈ featLines f, BodyLine l := by
  intro l hl
  rcases List.mem_cons.1 hl with rfl | hl
  · exact bodyLine_blank 4 _
  · obtain ⟨⟨k, cs⟩, _, hlq⟩ := List.mem_flatMap.1 hl
    match cs, hlq with
    | [c], hlq => rw [List.mem_singleton.1 hlq]; exact bodyLine_blank 20 _
    | c :: c' :: r, hlq =>
      rcases List.mem_cons.1 hlq with rfl | hlq
      · exact bodyLine_blank 20 _
      · exact contLines_body _ l hlq

/-! #### parseGenbankORIGIN on the rendered sequence lines -/

theorem letterRanges_rest : ∀ t ∈ letterRanges.drop 2, 128 ≤ t.1 := by decide +kernel

theorem any_range_ascii (rest : List (Nat × Nat × Nat)) (hrest : ∀ t ∈ rest, 128 ≤ t.1) (b : Nat) (h : b < 128) :
    ((0x41, 0x5A, 1) :: (0x61, 0x7A, 1) :: rest).any (fun t => t.1 ≤ b && b ≤ t.2.1 && (b - t.1) % t.2.2 == 0) = isAlphaB b := by
  have hr : rest.any (fun t => t.1 ≤ b && b ≤ t.2.1 && (b - t.1) % t.2.2 == 0) = false := by
    rw [List.any_eq_false]
    intro t ht
    have := hrest t ht
    have hlt : ¬ t.1 ≤ b := by omega
    simp [hlt]
  simp only [List.any_cons, hr, Nat.mod_one, beq_self_eq_true, Bool.and_true, Bool.or_false, isAlphaB]

/-- unicode.IsLetter on ASCII: only the first two ranges of the table matter -/
theorem isLetter_ascii (b : Nat) (h : b < 128) : isLetter b = isAlphaB b :=
  any_range_ascii (letterRanges.drop 2) letterRanges_rest b h

theorem originLine_ascii : ∀ (l : Bytes), Ascii l → originLine l = l.filter isAlphaB := by
  intro l hl
  unfold originLine
  rw [toks_ascii l hl]
  induction l with
  | nil => rfl
  | cons b t ih =>
    have hb := hl b List.mem_cons_self
    have ih' := ih (fun x hx => hl x (List.mem_cons_of_mem _ hx))
    simp only [tokA, List.map_cons, List.flatMap_cons, List.filter_cons] at ih' ⊢
    rw [ih', isLetter_ascii b hb]
    cases isAlphaB b <;> simp [encodeRune, hb]

theorem chunkGo_flatten {α : Type} (k : Nat) : ∀ (s cur : List α), (chunkGo k s cur).flatten = cur ++ s := by
  intro s
  induction s with
  | nil =>
    intro cur
    cases cur <;> simp [chunkGo]
  | cons a t ih =>
    intro cur
    simp only [chunkGo]
    split
    · simp [ih]
    · simp [ih]

theorem filter_groups : ∀ (groups : List Bytes),
    (groups.flatMap fun g => 32 :: g).filter isAlphaB = groups.flatten.filter isAlphaB := by
  intro groups
  induction groups with
  | nil => rfl
  | cons g t ih =>
    simp only [List.flatMap_cons, List.cons_append, List.filter_cons, List.flatten_cons, List.filter_append, ih]
    simp [isAlphaB]

theorem pad9_bytes (n : Nat) : ∀ b ∈ pad9 n, b = 32 ∨ (48 ≤ b ∧ b ≤ 57) :=
  all_append (fun _ hb => Or.inl (List.eq_of_mem_replicate hb)) (fun b hb => Or.inr (isDigitB_iff.1 (digitsOf_isDigit n b hb)))

theorem printable_originLineOf (n : Nat) (groups : List Bytes) (h : ∀ g ∈ groups, Printable g) :
    Printable (originLineOf n groups) := by
  refine all_append (fun b hb => ?_) (fun b hb => ?_)
  · have := pad9_bytes n b hb
    omega
  · obtain ⟨g, hg, hbg⟩ := List.mem_flatMap.1 hb
    rcases List.mem_cons.1 hbg with rfl | hbg
    · decide
    · exact h g hg b hbg

theorem parseOrigin_numberLines : ∀ (gs : List (List Bytes)) (n : Nat), (∀ groups ∈ gs, ∀ g ∈ groups, Printable g) →
    parseOrigin (numberLines n gs) = gs.flatten.flatten.filter isAlphaB := by
  intro gs
  induction gs with
  | nil => intro n _; rfl
  | cons groups t ih =>
    intro n h
    have hg := h groups List.mem_cons_self
    have := ih (n + 60) (fun x hx => h x (List.mem_cons_of_mem _ hx))
    have hpad : (pad9 n).filter isAlphaB = [] := List.filter_eq_nil_iff.2 fun b hb => by
      have := pad9_bytes n b hb
      simp [isAlphaB]; omega
    unfold parseOrigin at this ⊢
    simp only [numberLines, List.flatMap_cons, List.flatten_cons, List.flatten_append, List.filter_append]
    rw [this, originLine_ascii _ (printable_ascii (printable_originLineOf n groups hg)), originLineOf,
      List.filter_append, hpad, filter_groups groups, List.nil_append]

theorem originGroups_all {P : Nat → Prop} (origin : Bytes) (h : ∀ b ∈ origin, P b) :
    ∀ groups ∈ chunkGo 6 (chunkGo 10 origin []) [], ∀ g ∈ groups, ∀ b ∈ g, P b := by
  have hfl : (chunkGo 6 (chunkGo 10 origin []) []).flatten.flatten = origin := by
    rw [chunkGo_flatten, List.nil_append, chunkGo_flatten, List.nil_append]
  intro groups hgs g hg b hb
  apply h
  rw [← hfl]
  exact List.mem_flatten.2 ⟨g, List.mem_flatten.2 ⟨groups, hgs, hg⟩, hb⟩

theorem parseOrigin_render (origin : Bytes) (h : Printable origin) :
    parseOrigin (originLines origin ++ [endLine]) = origin.filter isAlphaB := by
  have hend : parseOrigin [endLine] = [] := by
    rw [parseOrigin, List.flatMap_singleton, originLine_ascii endLine (printable_ascii (by decide))]
    rfl
  have happ : parseOrigin (originLines origin ++ [endLine]) = parseOrigin (originLines origin) ++ parseOrigin [endLine] := by
    simp [parseOrigin]
  rw [happ, hend, originLines, parseOrigin_numberLines _ 1 (originGroups_all origin h), chunkGo_flatten, List.nil_append,
    chunkGo_flatten, List.nil_append, List.append_nil]

theorem mem_numberLines : ∀ (gs : List (List Bytes)) (n : Nat) (l : Bytes), l ∈ numberLines n gs →
    ∃ m groups, groups ∈ gs ∧ l = originLineOf m groups := by
  intro gs
  induction gs with
  | nil => intro n l h; cases h
  | cons g t ih =>
    intro n l h
    simp only [numberLines] at h
    rcases List.mem_cons.1 h with rfl | h
    · exact ⟨n, g, List.mem_cons_self, rfl⟩
    · obtain ⟨m, groups, hg, hl⟩ := ih (n + 60) l h
      exact ⟨m, groups, List.mem_cons_of_mem _ hg, hl⟩

theorem originLines_body (origin : Bytes) : ∀ l ∈ originLines origin ++ [endLine], BodyLine l := by
  intro l hl
  rcases List.mem_append.1 hl with h | h
  · obtain ⟨m, groups, _, rfl⟩ := mem_numberLines _ _ _ h
    have hne : pad9 m ≠ [] := fun e => digitsOf_ne_nil m (List.append_eq_nil_iff.1 e).2
    refine (starts_of_all hne fun b hb => ?_).append _
    have := pad9_bytes m b hb
    simp [isUpperB]; omega
  · rw [List.mem_singleton.1 h]
    exact ⟨47, [47], rfl, by decide⟩

/-! #### every line of a record is one the scanner delivers unchanged -/

theorem lineOk_recordLines (tbl : List Bytes) (origin : Bytes) (htbl : ∀ l ∈ tbl, LineOk l) (ho : Printable origin)
    (hlen : ∀ l ∈ originLines origin, l.length < maxTok) :
    ∀ l ∈ locusLine :: featuresHdr :: (tbl ++ originHdr :: (originLines origin ++ [endLine])), LineOk l := by
  have hfix : LineOk locusLine ∧ LineOk featuresHdr ∧ LineOk originHdr ∧ LineOk endLine := by decide
  refine all_cons hfix.1 (all_cons hfix.2.1 (all_append htbl (all_cons hfix.2.2.1 (all_append (fun l hl => ?_) (all_cons hfix.2.2.2 all_nil)))))
  obtain ⟨m, groups, hg, rfl⟩ := mem_numberLines _ _ _ hl
  exact lineOk_printable (printable_originLineOf m groups (originGroups_all origin ho groups hg)) (hlen _ hl)

theorem cleanLine_of_lineOk {l : Bytes} (h : LineOk l) : CleanLine l :=
  ⟨fun b hb => (h.1 b hb).1, fun e => (h.1 13 (List.mem_of_getLast? e)).2 rfl⟩

/-! #### the section loop of ReadGenBank on the lines of a record -/

/-- the state of the section loop after the first header line: the current header, its lines so far (reversed), the record -/
def rst (h : Bytes) (ls : List Bytes) (r : Record) : RSt := { first := false, header := h, lines := ls, record := r }

def rec0 : Record := { features := none, origin := none }

def recF (fs : List Feat) : Record := { features := some fs, origin := none }

def rstInit : RSt := { first := true, header := [], lines := [], record := rec0 }

theorem readLoop_header_first (l : Bytes) (rest : List Bytes) (hl : Starts (fun b => isUpperB b = true) l) :
    readLoop (l :: rest) rstInit = readLoop rest (rst ((fields l).headD []) [] rec0) := by
  obtain ⟨b, t, rfl, hb⟩ := hl
  simp [readLoop, hb, rstInit, rst]

theorem readLoop_header (l : Bytes) (rest : List Bytes) (h : Bytes) (ls : List Bytes) (r0 : Record)
    (hl : Starts (fun b => isUpperB b = true) l) :
    readLoop (l :: rest) (rst h ls r0) =
      match flush (rst h ls r0) with
      | none => .panic
      | some r => readLoop rest (rst ((fields l).headD []) [] r) := by
  obtain ⟨b, t, rfl, hb⟩ := hl
  simp only [readLoop, hb, if_true]
  cases flush (rst h ls r0) <;> simp [rst]

theorem readLoop_body (h : Bytes) (r : Record) : ∀ (block rest ls : List Bytes), (∀ l ∈ block, BodyLine l) →
    readLoop (block ++ rest) (rst h ls r) = readLoop rest (rst h (block.reverse ++ ls) r) := by
  intro block
  induction block with
  | nil => intro rest ls _; rfl
  | cons l t ih =>
    intro rest ls hb
    obtain ⟨b, u, hl, hb'⟩ := hb l List.mem_cons_self
    subst hl
    simp only [List.cons_append, readLoop, hb', Bool.false_eq_true, if_false]
    exact (ih rest _ (fun x hx => hb x (List.mem_cons_of_mem _ hx))).trans (by simp [rst])

theorem header_locus : (fields locusLine).headD [] = [76, 79, 67, 85, 83] := by decide +kernel
theorem header_features : (fields featuresHdr).headD [] = featuresWord := by decide +kernel
theorem header_origin : (fields originHdr).headD [] = originWord := by decide +kernel

theorem flush_locus : flush (rst [76, 79, 67, 85, 83] [] rec0) = some rec0 := by decide

theorem flush_features (tbl : List Bytes) : flush (rst featuresWord tbl.reverse rec0) = (parseFeatures tbl).map recF := by
  simp only [flush, rst, if_true, List.reverse_reverse]
  cases parseFeatures tbl <;> rfl

theorem flush_origin (fs : List Feat) (origin : Bytes) (h : Printable origin) :
    flush (rst originWord (originLines origin ++ [endLine]).reverse (recF fs)) =
      some { features := some fs, origin := some (origin.filter isAlphaB) } := by
  have hne' : originWord ≠ featuresWord := by decide
  simp only [flush, rst, hne', if_false, if_true, List.reverse_reverse, parseOrigin_render origin h, recF]

theorem readLoop_record (tbl : List Bytes) (origin : Bytes) (htbl : ∀ l ∈ tbl, BodyLine l) (ho : Printable origin) :
    readLoop (locusLine :: featuresHdr :: (tbl ++ originHdr :: (originLines origin ++ [endLine]))) rstInit =
      match parseFeatures tbl with
      | none => .panic
      | some fs => .ok { features := some fs, origin := some (origin.filter isAlphaB) } := by
  rw [readLoop_header_first locusLine _ ⟨76, _, rfl, by decide⟩, header_locus,
    readLoop_header featuresHdr _ _ _ _ ⟨70, _, rfl, by decide⟩, flush_locus]
  simp only
  rw [header_features, readLoop_body _ _ _ _ _ htbl, List.append_nil,
    readLoop_header originHdr _ _ _ _ ⟨79, _, rfl, by decide⟩, flush_features tbl]
  cases parseFeatures tbl with
  | none => rfl
  | some fs =>
    have := readLoop_body originWord (recF fs) (originLines origin ++ [endLine]) [] [] (originLines_body origin)
    rw [List.append_nil, List.append_nil] at this
    simp only [Option.map_some, header_origin, this, readLoop, flush_origin fs origin ho]

/-! #### Scanner.Err after the loop -/

/-- the loop over the lines has no error outcome of its own (a record or a panic): the arm `.error => .error` of
`readGenBank` is never taken -/
theorem readLoop_ne_error : ∀ (ls : List Bytes) (s : RSt), readLoop ls s ≠ .error := by
  intro ls
  induction ls with
  | nil =>
    intro s h
    unfold readLoop at h
    split at h <;> cases h
  | cons l t ih =>
    intro s h
    unfold readLoop at h
    split at h
    · exact ih _ h
    · split at h
      · split at h
        · exact ih _ h
        · split at h
          · cases h
          · exact ih _ h
      · exact ih _ h

/-- `readGenBank` with its initial state written as `rstInit`, the constant the lemmas on the section loop are stated for -/
theorem readGenBank_eq (text : Bytes) :
    readGenBank text = match readLoop (scanLines text [] 0) rstInit with
      | .panic => .panic
      | .error => .error
      | .ok r => if tooLong text 0 then .error else .ok r := rfl

/-- on a text in which Scan never gives up (no 1 MiB without a newline) Scanner.Err after the loop is nil: the reader is the
section loop over the scanned lines -/
theorem gb_short_lines_unchanged (text : Bytes) (h : tooLong text 0 = false) :
    readGenBank text = readLoop (scanLines text [] 0) rstInit := by
  rw [readGenBank_eq, h]
  cases readLoop (scanLines text [] 0) rstInit <;> simp

/-- a text in which Scan gives up on an over-long line is never read as a record (finding F-C14c: the lines before the
long one are not returned as if the file ended there). What it is read as: `gb_long_line_result`. -/
theorem gb_long_line_reported (text : Bytes) (h : tooLong text 0 = true) (r : Record) : readGenBank text ≠ .ok r := by
  rw [readGenBank_eq, h]
  cases readLoop (scanLines text [] 0) rstInit <;> simp

/-- it is read as the error, unless the section loop over the lines before the long one panics. In the MODEL that loop
ends with the parse of the last section (the `[]` case of `readLoop`), so its panic counts here; ReadGenBank itself looks
at Scanner.Err before it parses the last section and returns the error in that case: model and code differ on a text
whose last section before the long line panics. -/
theorem gb_long_line_result (text : Bytes) (h : tooLong text 0 = true) :
    readGenBank text = .error ∨ (readGenBank text = .panic ∧ readLoop (scanLines text [] 0) rstInit = .panic) := by
  rw [readGenBank_eq, h]
  cases readLoop (scanLines text [] 0) rstInit <;> simp

/-! #### the round trip -/

/-- **a written file, whatever its line ends** (CRLF or LF, the last one present or not): the reader is the section loop
over the written lines. With CRLF a line must leave room for its CR in the scanner's buffer. -/
theorem readGenBank_renderText (crlf finalEol : Bool) (lines : List Bytes)
    (h : ∀ l ∈ lines, CleanLine l ∧ l ≠ [] ∧ l.length + (eolCR crlf).length < maxTok) :
    readGenBank (renderText crlf finalEol lines) = readLoop lines rstInit := by
  obtain ⟨h1, h2⟩ := scan_render crlf finalEol lines h
  rw [gb_short_lines_unchanged _ (by rw [tooLong_eq, h2]), scanLines_eq, h1]

/-- **the sections of a record**, whatever its feature table holds, whatever printable bytes stand for the sequence and
whatever the line ends: when the lines of the table are such that the scanner delivers them unchanged and the section
loop collects them, ReadGenBank returns what parseGenbankFEATURES makes of them (or panics where it does) and the
letters of the sequence -/
theorem readGenBank_lines_eol (crlf finalEol : Bool) (tbl : List Bytes) (origin : Bytes)
    (htbl : ∀ l ∈ tbl, LineOk l ∧ BodyLine l) (ho : Printable origin) (hlen : ∀ l ∈ originLines origin, l.length < maxTok)
    (hcr : crlf = true → ∀ l ∈ locusLine :: featuresHdr :: (tbl ++ originHdr :: (originLines origin ++ [endLine])),
      l.length + 1 < maxTok) :
    readGenBank (renderText crlf finalEol (locusLine :: featuresHdr :: (tbl ++ originHdr :: (originLines origin ++ [endLine])))) =
      match parseFeatures tbl with
      | none => .panic
      | some fs => .ok { features := some fs, origin := some (origin.filter isAlphaB) } := by
  have hlines := lineOk_recordLines tbl origin (fun l hl => (htbl l hl).1) ho hlen
  have hne : ∀ l ∈ locusLine :: featuresHdr :: (tbl ++ originHdr :: (originLines origin ++ [endLine])), l ≠ [] :=
    all_cons (by decide) (all_cons (by decide) (all_append (fun l hl => (htbl l hl).2.ne_nil)
      (all_cons (by decide) fun l hl => (originLines_body origin l hl).ne_nil)))
  rw [readGenBank_renderText crlf finalEol _ fun l hl => ⟨cleanLine_of_lineOk (hlines l hl), hne l hl, ?_⟩,
    readLoop_record tbl origin (fun l hl => (htbl l hl).2) ho]
  cases crlf with
  | false => simpa [eolCR] using (hlines l hl).2
  | true => simpa [eolCR] using hcr rfl l hl

theorem readGenBank_lines (tbl : List Bytes) (origin : Bytes) (htbl : ∀ l ∈ tbl, LineOk l ∧ BodyLine l)
    (ho : Printable origin) (hlen : ∀ l ∈ originLines origin, l.length < maxTok) :
    readGenBank ((locusLine :: featuresHdr :: (tbl ++ originHdr :: (originLines origin ++ [endLine]))).flatMap fun l => l ++ [10]) =
      match parseFeatures tbl with
      | none => .panic
      | some fs => .ok { features := some fs, origin := some (origin.filter isAlphaB) } := by
  rw [← renderText_lf]
  exact readGenBank_lines_eol false true tbl origin htbl ho hlen (fun h => nomatch h)

theorem printable_alpha {origin : Bytes} (h : ∀ b ∈ origin, isAlphaB b = true) : Printable origin := fun b hb => by
  have := h b hb
  simp only [isAlphaB, Bool.or_eq_true, Bool.and_eq_true, decide_eq_true_eq] at this
  omega

theorem gb_roundtrip_eol (crlf finalEol : Bool) (feats : List FeatS) (origin : Bytes) (hne : feats ≠ [])
    (hf : ∀ f ∈ feats, FeatOk f) (ho : OriginOk origin)
    (hcr : crlf = true → ∀ l ∈ renderLines feats origin, l.length + 1 < maxTok) :
    readGenBank (renderText crlf finalEol (renderLines feats origin)) =
      .ok { features := some (feats.map expected), origin := some origin } := by
  have htbl : ∀ l ∈ feats.flatMap featLines, LineOk l ∧ BodyLine l := fun l hl => by
    obtain ⟨f, hfm, hlf⟩ := List.mem_flatMap.1 hl
    exact ⟨lineOk_featLines f (hf f hfm) l hlf, featLines_body f l hlf⟩
  rw [renderLines, readGenBank_lines_eol crlf finalEol _ origin htbl (printable_alpha ho.1) ho.2 hcr,
    parseFeatures_render feats hne hf, List.filter_eq_self.2 ho.1]

/-- **GenBank round trip.** For every non-empty list of well-formed features and every ORIGIN sequence of ASCII letters,
the reader (bufio.Scanner line splitting, section detection, parseGenbankFEATURES, parseGenbankORIGIN) gives back, from
the rendered flat file, every feature in order - key, location text, all qualifiers - and the sequence. -/
theorem gb_roundtrip (feats : List FeatS) (origin : Bytes) (hne : feats ≠ []) (hf : ∀ f ∈ feats, FeatOk f)
    (ho : OriginOk origin) :
    readGenBank (render feats origin) = .ok { features := some (feats.map expected), origin := some origin } := by
  rw [render, ← renderText_lf]
  exact gb_roundtrip_eol false true feats origin hne hf ho (fun h => nomatch h)
end Gofasta.Lemmas.GbRT
