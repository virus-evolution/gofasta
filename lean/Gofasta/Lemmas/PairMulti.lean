import Gofasta.Lemmas.PairSpec
import Gofasta.Lemmas.SortSpec
import Gofasta.Props.C15
/-
C02 for a query aligned by ANY number of records (supplementary alignments; overlapping or not, conflicting or not,
insertions anywhere, also exactly at a boundary shared by two records): the pair written by `blockToSeqPair` is the
specification `specPair` (`blockToSeqPair_eq_specPair`), hence lossless (`multi_ref_lossless`), of equal row lengths
(`multi_lengths`), with as many '-' in the reference row as the records insert bases (`multi_gap_count`), and equal to
the `toMultiAlign --pad` row once the insertion columns are deleted (`multi_skip_insertions`).  Every row is written as a layout by reference position (`lay`): the rows of the CIGAR walk,
one row through the fold of `applyInsertion` over the position-sorted insertions, the padded and flattened rows, and
the specification; the comparison is then position by position. Layouts themselves are in `Lemmas/Layout`.

The columns inserted before position p (the `seg` of a layout) come in seven forms; `g` / `c` says what an insertion
contributes to the row at hand (`cR`: gap columns, `cQ`: its bases):
  segW g seq cigar q r    one record, positions counted from the start r of the walk       `walk_lay`
  segRec g rc             one record, absolute positions (segW moved by POS)                `walkWithRef_lay`
  segOf c j X1 X2         row j during the fold, X1 applied and X2 to come                  `rowInv_fold`; with X1 = [] it is segRec (`own_sorted`)
  finSeg c block j        row j after the fold (segOf with X2 = []): all insertions         `merged_rows`
  segP c block j          finSeg while row j lasts, no-coverage marks past its end          `padded_row`
  blockSeg c block        the flattened rows: every insertion once                          `flatten_seg`, `flattened`
  PairSpec.insSeg block   the specification, as columns; blockSeg cR / cQ are its two rows  `specPair_lay`
-/
namespace Gofasta.Lemmas.PairMulti
open Gofasta Model Spec Gofasta.Props.C01 Gofasta.Props.C02 Gofasta.Lemmas Gofasta.Lemmas.Layout

/-- an insertion with its bases: (reference position, inserted bases, index of the owning record) -/
abbrev Ins := Nat × List Nat × Nat

def wIns (x : Ins) : Nat := x.2.1.length
def tot (Y : List Ins) : Nat := (Y.map wIns).sum
/-- the triple (position, length, owner) the model keeps of an insertion: `blockToSeqPair` sorts and folds these -/
def forget (x : Ins) : Nat × Nat × Nat := (x.1, x.2.1.length, x.2.2)

/-- what row j holds for insertion x: its own columns, or gap columns for an insertion of another record -/
def rho (c : Ins → List Nat) (j : Nat) (x : Ins) : List Nat := if x.2.2 = j then c x else List.replicate (wIns x) dash

def segOf (c : Ins → List Nat) (j : Nat) (X1 X2 : List Ins) (p : Nat) : List Nat :=
  (X1.filter fun x => x.1 == p).flatMap (rho c j) ++ (X2.filter fun x => x.1 == p && x.2.2 == j).flatMap c

theorem tot_cons (x : Ins) (Y : List Ins) : tot (x :: Y) = wIns x + tot Y := by simp [tot]
theorem tot_append (Y Z : List Ins) : tot (Y ++ Z) = tot Y + tot Z := by simp [tot]

theorem flatMap_length_tot (g : Ins → List Nat) (hg : ∀ x, (g x).length = wIns x) : ∀ (Y : List Ins),
    (Y.flatMap g).length = tot Y := by
  intro Y
  induction Y with
  | nil => rfl
  | cons x t ih => rw [List.flatMap_cons, List.length_append, hg, ih, tot_cons]

theorem rho_length (c : Ins → List Nat) (hc : ∀ x, (c x).length = wIns x) (j : Nat) (x : Ins) : (rho c j x).length = wIns x := by
  unfold rho
  split
  · exact hc x
  · exact List.length_replicate

theorem spliceAt_end (G1 G2 : List Nat) (len : Nat) :
    spliceAt G1.length len (G1 ++ G2) = G1 ++ List.replicate len dash ++ G2 := by
  simp [spliceAt]

theorem segOf_keep (c : Ins → List Nat) (j : Nat) (X1 X2 : List Ins) (x : Ins) (p : Nat) (h : x.2.2 = j ∨ x.1 ≠ p) :
    segOf c j (X1 ++ [x]) X2 p = segOf c j X1 (x :: X2) p := by
  unfold segOf
  by_cases hp : x.1 = p
  · have hx : x.2.2 = j := h.resolve_right fun h' => h' hp
    simp [hp, hx, rho]
  · simp [hp]

theorem segOf_other_eq (c : Ins → List Nat) (j : Nat) (X1 X2 : List Ins) (x : Ins) (hx : x.2.2 ≠ j) :
    segOf c j (X1 ++ [x]) X2 x.1 =
      (X1.filter fun y => y.1 == x.1).flatMap (rho c j) ++ List.replicate (wIns x) dash ++
        (X2.filter fun y => y.1 == x.1 && y.2.2 == j).flatMap c ∧
    segOf c j X1 (x :: X2) x.1 =
      (X1.filter fun y => y.1 == x.1).flatMap (rho c j) ++ (X2.filter fun y => y.1 == x.1 && y.2.2 == j).flatMap c := by
  unfold segOf
  constructor
  · simp [hx, rho]
  · simp [hx]

theorem tot_filter_lt_succ (Y : List Ins) (p : Nat) :
    tot (Y.filter fun x => decide (x.1 < p + 1)) = tot (Y.filter fun x => decide (x.1 < p)) + tot (Y.filter fun x => x.1 == p) := by
  induction Y with
  | nil => rfl
  | cons x t ih =>
    simp only [List.filter_cons, beq_iff_eq, decide_eq_true_eq]
    rcases Nat.lt_trichotomy x.1 p with h | h | h
    · rw [if_pos (by omega), if_pos h, if_neg (by omega), tot_cons, tot_cons, ih]
      omega
    · rw [if_pos (by omega), if_neg (by omega), if_pos h, tot_cons, tot_cons, ih]
      omega
    · rw [if_neg (by omega), if_neg (by omega), if_neg (by omega), ih]

theorem tot_filter_snoc (X : List Ins) (x : Ins) (f : Ins → Bool) :
    tot ((X ++ [x]).filter f) = tot (X.filter f) + if f x then wIns x else 0 := by
  rw [List.filter_append, tot_append]
  cases h : f x <;> simp [h, tot]

theorem sumTo_tot (Y : List Ins) : ∀ (n : Nat),
    sumTo (fun p => tot (Y.filter fun x => x.1 == p)) n = tot (Y.filter fun x => decide (x.1 < n)) := by
  intro n
  induction n with
  | zero =>
    rw [filter_nil_of Y _ fun y _ => by simp]
    rfl
  | succ n ih => rw [sumTo_succ, ih, tot_filter_lt_succ]

theorem pre_segOf_length (c : Ins → List Nat) (hc : ∀ x, (c x).length = wIns x) (j : Nat) (X1 X2 : List Ins) (b : Nat → Nat)
    (p : Nat) (h2 : ∀ y ∈ X2, p ≤ y.1) (i : Nat) (hi : i ≤ p) :
    (pre (segOf c j X1 X2) b i).length = i + tot (X1.filter fun x => decide (x.1 < i)) := by
  have hseg : ∀ k, k < i → (segOf c j X1 X2 k).length = tot (X1.filter fun x => x.1 == k) := by
    intro k hk
    unfold segOf
    rw [filter_nil_of X2 _ fun y hy => by have := h2 y hy; simp only [Bool.and_eq_false_imp, beq_iff_eq]; omega,
      List.flatMap_nil, List.append_nil, flatMap_length_tot _ (rho_length c hc j)]
  rw [pre_length, sumTo_congr _ _ _ hseg, sumTo_tot]

/-- the insertion x of another record, applied to row j at the column the model computes -/
theorem splice_lay (c : Ins → List Nat) (hc : ∀ x, (c x).length = wIns x) (j E : Nat) (X1 X2 : List Ins) (x : Ins) (b : Nat → Nat)
    (hx : x.2.2 ≠ j) (hE : x.1 ≤ E) (h1 : ∀ y ∈ X1, y.1 ≤ x.1) (h2 : ∀ y ∈ X2, x.1 ≤ y.1) :
    spliceAt (x.1 + tot X1) (wIns x) (lay E (segOf c j X1 (x :: X2)) b) = lay E (segOf c j (X1 ++ [x]) X2) b := by
  rw [lay_split _ b x.1 E hE, lay_split _ b x.1 E hE,
    pre_congr (segOf c j (X1 ++ [x]) X2) (segOf c j X1 (x :: X2)) b b x.1
      (fun i hi => segOf_keep c j X1 X2 x i (.inr (by omega))) (fun _ _ => rfl),
    post_congr (segOf c j (X1 ++ [x]) X2) (segOf c j X1 (x :: X2)) b b x.1 E
      (fun i hi _ => segOf_keep c j X1 X2 x i (.inr (by omega))) (fun _ _ _ => rfl)]
  obtain ⟨e1, e2⟩ := segOf_other_eq c j X1 X2 x hx
  rw [e1, e2]
  -- the gap columns go in after the columns of the insertions already applied at this position
  have hlen := pre_segOf_length c hc j X1 (x :: X2) b x.1
    (fun y hy => by rcases List.mem_cons.1 hy with rfl | h; exact Nat.le_refl _; exact h2 y h) x.1 (Nat.le_refl _)
  have hall : tot (X1.filter fun y => decide (y.1 < x.1 + 1)) = tot X1 :=
    congrArg tot (List.filter_eq_self.2 fun y hy => by have := h1 y hy; simp; omega)
  have hidx : x.1 + tot X1 =
      (pre (segOf c j X1 (x :: X2)) b x.1 ++ (X1.filter fun y => y.1 == x.1).flatMap (rho c j)).length := by
    rw [List.length_append, hlen, flatMap_length_tot _ (rho_length c hc j), ← hall, tot_filter_lt_succ]
    omega
  simp only [List.append_assoc]
  rw [← List.append_assoc (pre _ _ _), hidx, spliceAt_end]
  simp only [List.append_assoc]

/-- what `applyInsertion` does to the row of index j -/
def stepRow (j : Nat) (row : PairRow) (ins : Nat × Nat × Nat) : PairRow :=
  if j = ins.2.2 then { row with offset := row.offset + ins.2.1 }
  else if ins.1 > row.refEnd then row
  else { row with ref := spliceAt (ins.1 + row.offset) ins.2.1 row.ref,
                  que := spliceAt (ins.1 + row.offset) ins.2.1 row.que,
                  offset := row.offset + ins.2.1 }

/-- the state of row j when the insertions X1 have been applied and X2 are still to come. The offset counts only the
applied insertions located at or before the row's end E: `applyInsertion` leaves a row alone when `ins.1 > row.refEnd`,
offset included. -/
structure RowInv (j E : Nat) (cR cQ : Ins → List Nat) (bR bQ : Nat → Nat) (X1 X2 : List Ins) (row : PairRow) : Prop where
  href : row.ref = lay E (segOf cR j X1 X2) bR
  hque : row.que = lay E (segOf cQ j X1 X2) bQ
  hoff : row.offset = tot (X1.filter fun x => decide (x.1 ≤ E))
  hend : row.refEnd = E

theorem lay_keep (c : Ins → List Nat) (j E : Nat) (X1 X2 : List Ins) (x : Ins) (b : Nat → Nat) (h : x.2.2 = j ∨ E < x.1) :
    lay E (segOf c j X1 (x :: X2)) b = lay E (segOf c j (X1 ++ [x]) X2) b :=
  lay_congr _ _ _ _ _ (fun i hi => (segOf_keep c j X1 X2 x i (h.imp id fun h' => by omega)).symm) (fun _ _ => rfl)

theorem rowInv_step (j E : Nat) (cR cQ : Ins → List Nat) (hcR : ∀ x, (cR x).length = wIns x) (hcQ : ∀ x, (cQ x).length = wIns x)
    (bR bQ : Nat → Nat) (X1 X2 : List Ins) (x : Ins) (row : PairRow)
    (h1 : ∀ y ∈ X1, y.1 ≤ x.1) (h2 : ∀ y ∈ X2, x.1 ≤ y.1) (hown : x.2.2 = j → x.1 ≤ E)
    (inv : RowInv j E cR cQ bR bQ X1 (x :: X2) row) :
    RowInv j E cR cQ bR bQ (X1 ++ [x]) X2 (stepRow j row (forget x)) := by
  obtain ⟨href, hque, hoff, hend⟩ := inv
  have hoffs := tot_filter_snoc X1 x fun y => decide (y.1 ≤ E)
  rw [← hoff] at hoffs
  unfold stepRow forget
  by_cases hj : j = x.2.2
  · -- the row's own insertion: nothing moves
    rw [if_pos hj]
    exact ⟨href.trans (lay_keep cR j E X1 X2 x bR (.inl hj.symm)), hque.trans (lay_keep cQ j E X1 X2 x bQ (.inl hj.symm)),
      by rw [hoffs, decide_eq_true (hown hj.symm)]; rfl, hend⟩
  · rw [if_neg hj]
    by_cases hgt : x.1 > row.refEnd
    · -- the row ends before the insertion: left alone
      rw [if_pos hgt]
      rw [hend] at hgt
      exact ⟨href.trans (lay_keep cR j E X1 X2 x bR (.inr hgt)), hque.trans (lay_keep cQ j E X1 X2 x bQ (.inr hgt)),
        by rw [hoffs, decide_eq_false (Nat.not_le_of_gt hgt)]; rfl, hend⟩
    · -- gap columns at the position of the insertion, after what the row already holds there
      rw [if_neg hgt]
      rw [hend] at hgt
      have hle : x.1 ≤ E := Nat.le_of_not_lt hgt
      have hoff' : row.offset = tot X1 :=
        hoff.trans (congrArg tot (List.filter_eq_self.2 fun y hy => by have := h1 y hy; simp; omega))
      refine ⟨?_, ?_, by rw [hoffs, decide_eq_true hle]; rfl, hend⟩
      · show spliceAt (x.1 + row.offset) (wIns x) row.ref = _
        rw [hoff', href]
        exact splice_lay cR hcR j E X1 X2 x bR (Ne.symm hj) hle h1 h2
      · show spliceAt (x.1 + row.offset) (wIns x) row.que = _
        rw [hoff', hque]
        exact splice_lay cQ hcQ j E X1 X2 x bQ (Ne.symm hj) hle h1 h2

theorem rowInv_fold (j E : Nat) (cR cQ : Ins → List Nat) (hcR : ∀ x, (cR x).length = wIns x) (hcQ : ∀ x, (cQ x).length = wIns x)
    (bR bQ : Nat → Nat) : ∀ (X2 X1 : List Ins) (row : PairRow),
    (X1 ++ X2).Pairwise (fun a b => a.1 ≤ b.1) → (∀ x ∈ X2, x.2.2 = j → x.1 ≤ E) →
    RowInv j E cR cQ bR bQ X1 X2 row →
    RowInv j E cR cQ bR bQ (X1 ++ X2) [] ((X2.map forget).foldl (stepRow j) row) := by
  intro X2
  induction X2 with
  | nil => intro X1 row _ _ inv; simpa using inv
  | cons x t ih =>
    intro X1 row hs hown inv
    -- the sorted order gives both bounds on x.1
    have hp := List.pairwise_append.1 hs
    have inv' := rowInv_step j E cR cQ hcR hcQ bR bQ X1 t x row (fun y hy => hp.2.2 y hy x List.mem_cons_self)
      (fun y hy => (List.pairwise_cons.1 hp.2.1).1 y hy) (hown x List.mem_cons_self) inv
    have := ih (X1 ++ [x]) _ (by simpa using hs) (fun y hy => hown y (List.mem_cons_of_mem _ hy)) inv'
    simpa using this

theorem applyInsertion_eq (rows : List PairRow) (ins : Nat × Nat × Nat) :
    applyInsertion rows ins = (rows.zip (List.range rows.length)).map fun p => stepRow p.2 p.1 ins :=
  List.map_congr_left fun _ _ => rfl

/-- the fold over all rows is the fold over each row: `applyInsertion` treats row j by `stepRow j`, whatever the other rows hold -/
theorem foldl_applyInsertion (d : PairRow) : ∀ (S : List (Nat × Nat × Nat)) (rows : List PairRow),
    S.foldl applyInsertion rows = (List.range rows.length).map fun j => S.foldl (stepRow j) (rows.getD j d) := by
  intro S
  induction S with
  | nil =>
    intro rows
    apply List.ext_getElem
    · simp
    · intro n h1 _
      have h3 : n < rows.length := h1
      simp [List.getD_eq_getElem?_getD, h3]
  | cons x t ih =>
    intro rows
    have hlen : (applyInsertion rows x).length = rows.length := by rw [applyInsertion_eq]; simp
    rw [List.foldl_cons, ih, hlen]
    apply List.map_congr_left
    intro j hj
    have hj' := List.mem_range.1 hj
    rw [List.foldl_cons, applyInsertion_eq]
    simp [List.getD_eq_getElem?_getD, hj']

theorem insList_M (seq : List Nat) (op len : Nat) (rest : List (Nat × Nat)) (q r : Nat) (h : op = 0 ∨ op = 7 ∨ op = 8) :
    insList seq ((op, len) :: rest) q r = insList seq rest (q + len) (r + len) := by
  rcases h with rfl | rfl | rfl <;> rfl

theorem insList_DN (seq : List Nat) (op len : Nat) (rest : List (Nat × Nat)) (q r : Nat) (h : op = 2 ∨ op = 3) :
    insList seq ((op, len) :: rest) q r = insList seq rest q (r + len) := by
  rcases h with rfl | rfl <;> rfl

theorem insList_I (seq : List Nat) (len : Nat) (rest : List (Nat × Nat)) (q r : Nat) :
    insList seq ((1, len) :: rest) q r = (r, (seq.drop q).take len) :: insList seq rest (q + len) r := rfl

theorem insList_S (seq : List Nat) (len : Nat) (rest : List (Nat × Nat)) (q r : Nat) :
    insList seq ((4, len) :: rest) q r = insList seq rest (q + len) r := rfl

theorem insList_other (seq : List Nat) (op len : Nat) (rest : List (Nat × Nat)) (q r : Nat) (h : (op = 5 ∨ op = 6) ∨ 9 ≤ op) :
    insList seq ((op, len) :: rest) q r = insList seq rest q r := by
  rcases h with (rfl | rfl) | h
  · rfl
  · rfl
  · obtain ⟨n, rfl⟩ := Nat.exists_eq_add_of_le' h
    rfl

/-- an `I` lists its bases where it stands; every operator moves both cursors on by what it consumes (for an induction
that does not split on the operator; `walk_lay` does, with the five equations above) -/
theorem insList_cons (seq : List Nat) (c : Nat × Nat) (rest : List (Nat × Nat)) (q r : Nat) :
    insList seq (c :: rest) q r = (if c.1 = 1 then [(r, (seq.drop q).take c.2)] else []) ++
      insList seq rest (q + qSpan samInsRef [c]) (r + refSpan samInsRef [c]) := by
  obtain ⟨op, len⟩ := c
  -- the nine operators of the table one by one, then everything above
  rcases op with _ | _ | _ | _ | _ | _ | _ | _ | _ | op <;> rfl

/-- the same for the model's list, which keeps the lengths only; it moves on by what biogo says consumes reference,
M D N = X, which is what the table says -/
theorem insertionsOf_cons (r : Nat) (c : Nat × Nat) (rest : List (Nat × Nat)) :
    insertionsOf r (c :: rest) = (if c.1 = 1 then [(r, c.2)] else []) ++ insertionsOf (r + refSpan samInsRef [c]) rest := by
  obtain ⟨op, len⟩ := c
  rcases op with _ | _ | _ | _ | _ | _ | _ | _ | _ | op <;> rfl

theorem mem_insList (seq : List Nat) : ∀ (cigar : List (Nat × Nat)) (q r : Nat), ∀ x ∈ insList seq cigar q r,
    r ≤ x.1 ∧ x.1 ≤ r + refSpan samInsRef cigar ∧ ∀ b ∈ x.2, b ∈ seq := by
  intro cigar
  induction cigar with
  | nil => intro q r x hx; cases hx
  | cons c rest ih =>
    intro q r x hx
    rw [insList_cons] at hx
    rw [refSpan_cons]
    rcases List.mem_append.1 hx with h | h
    · split at h
      · rw [List.mem_singleton.1 h]
        exact ⟨Nat.le_refl _, Nat.le_add_right _ _, fun b hb => List.mem_of_mem_drop (List.mem_of_mem_take hb)⟩
      · cases h
    · obtain ⟨h1, h2, h3⟩ := ih _ _ x h
      exact ⟨by omega, by omega, h3⟩

theorem insertionsOf_eq (seq : List Nat) : ∀ (cigar : List (Nat × Nat)) (q r : Nat), q + qSpan samInsRef cigar ≤ seq.length →
    insertionsOf r cigar = (insList seq cigar q r).map fun x => (x.1, x.2.length) := by
  intro cigar
  induction cigar with
  | nil => intro q r _; rfl
  | cons c rest ih =>
    intro q r hq
    rw [qSpan_cons] at hq
    rw [insertionsOf_cons, insList_cons, List.map_append, ← ih _ _ (by omega)]
    refine congrArg (· ++ _) ?_
    split
    · -- an `I` consumes its length of SEQ, so the slice is whole
      rename_i h1
      have : qSpan samInsRef [c] = c.2 := by obtain ⟨op, len⟩ := c; subst h1; rfl
      rw [List.map_singleton, length_slice (by omega)]
    · rfl

theorem append_left_eq_map (A T : List Nat) : A = (List.range A.length).map fun i => (A ++ T).getD i 0 := by
  simpa using take_eq_map (A ++ T) 0 A.length (by simp)

def segW (g : Nat × List Nat → List Nat) (seq : List Nat) (cigar : List (Nat × Nat)) (q r i : Nat) : List Nat :=
  ((insList seq cigar q r).filter fun x => x.1 == r + i).flatMap g

theorem segW_congr (g : Nat × List Nat → List Nat) (seq : List Nat) (c1 c2 : List (Nat × Nat)) (q1 q2 r : Nat)
    (h : insList seq c1 q1 r = insList seq c2 q2 r) : segW g seq c1 q1 r = segW g seq c2 q2 r := by
  funext i
  unfold segW
  rw [h]

/-- an operator that consumes `len` reference bases and inserts nothing: a block of `len` columns in front of both rows -/
theorem walk_lay_bases (ref seq : List Nat) (c : Nat × Nat) (rest : List (Nat × Nat)) (q q' r len span : Nat)
    (hIL : insList seq (c :: rest) q r = insList seq rest q' (r + len)) (A T W1 W2 : List Nat) (hA : A.length = len)
    (hr : r + len ≤ ref.length) (gR gQ : Nat × List Nat → List Nat)
    (ih2 : W2 = lay span (segW gR seq rest q' (r + len)) (fun i => ref.getD (r + len + i) 0))
    (ih1 : W1 = lay span (segW gQ seq rest q' (r + len)) (fun i => T.getD i 0)) :
    (ref.drop r).take len ++ W2 = lay (len + span) (segW gR seq (c :: rest) q r) (fun i => ref.getD (r + i) 0) ∧
    A ++ W1 = lay (len + span) (segW gQ seq (c :: rest) q r) (fun i => (A ++ T).getD i 0) := by
  have hseg : ∀ (g : Nat × List Nat → List Nat) (i : Nat), i < len → segW g seq (c :: rest) q r i = [] := by
    intro g i hi
    unfold segW
    rw [hIL, filter_nil_of _ _ fun x hx => by have := (mem_insList seq rest q' (r + len) x hx).1; simp; omega]
    rfl
  have hseg2 : ∀ (g : Nat × List Nat → List Nat) (i : Nat), segW g seq (c :: rest) q r (len + i) = segW g seq rest q' (r + len) i := by
    intro g i
    unfold segW
    rw [hIL, Nat.add_assoc]
  constructor
  · rw [ih2]
    exact (lay_prepend_bases _ _ _ _ len _ _ (slice_eq_map ref 0 r len hr) (hseg _) (fun i _ => hseg2 _ i)
      (fun i _ => by rw [Nat.add_assoc])).symm
  · rw [ih1]
    exact (lay_prepend_bases _ _ _ _ len _ _ (hA ▸ append_left_eq_map A T) (hseg _) (fun i _ => hseg2 _ i)
      (fun i _ => getD_append_add _ _ 0 len i hA)).symm

/-- **the paired walk, position by position**: the reference row holds the reference bases with a run of '-' before
position i for every insertion located there; the query row holds what the no-insertion walk writes, with the inserted
bases in those columns -/
theorem walk_lay (ref : List Nat) : ∀ (cigar : List (Nat × Nat)) (seq : List Nat) (q r : Nat),
    q + qSpan samInsRef cigar ≤ seq.length → r + refSpan samInsRef cigar ≤ ref.length →
    (walkOps samInsRef seq ref cigar q r).2 =
      lay (refSpan samInsRef cigar) (segW (fun x => List.replicate x.2.length dash) seq cigar q r) (fun i => ref.getD (r + i) 0) ∧
    (walkOps samInsRef seq ref cigar q r).1 =
      lay (refSpan samInsRef cigar) (segW (fun x => x.2) seq cigar q r) (fun i => (walkOps samNoIns seq [] cigar q r).1.getD i 0) := by
  intro cigar
  induction cigar with
  | nil => intro seq q r _ _; exact ⟨rfl, rfl⟩
  | cons c rest ih =>
    intro seq q r hq hr
    obtain ⟨op, len⟩ := c
    rcases op_cases op with ⟨ho, h0, h3⟩ | ⟨rfl, h0, h3⟩ | ⟨ho, h0, h3⟩ | ⟨ho, h0, h3⟩ | ⟨rfl, h0, h3⟩ | ⟨ho, h0, h3⟩ | ⟨ho, h0, h3⟩ <;>
      simp only [qSpan, refSpan, h3] at hq hr <;>
      simp only [walkOps, refSpan, h0, h3, emit, if_true, Bool.false_eq_true, if_false, List.nil_append, Nat.zero_add]
    · -- M = X
      obtain ⟨ih2, ih1⟩ := ih seq (q + len) (r + len) (by omega) (by omega)
      exact walk_lay_bases ref seq (op, len) rest q (q + len) r len _ (insList_M _ _ _ _ _ _ ho) _ _ _ _
        (length_slice (by omega)) (by omega) _ _ ih2 ih1
    · -- I : the inserted columns come first among those before the current position
      obtain ⟨ih2, ih1⟩ := ih seq (q + len) r (by omega) (by omega)
      have h0 : ∀ (g : Nat × List Nat → List Nat), segW g seq ((1, len) :: rest) q r 0 =
          g (r, (seq.drop q).take len) ++ segW g seq rest (q + len) r 0 := by
        intro g
        unfold segW
        rw [insList_I]
        simp
      have hi : ∀ (g : Nat × List Nat → List Nat) (i : Nat), 0 < i → segW g seq ((1, len) :: rest) q r i = segW g seq rest (q + len) r i := by
        intro g i hi
        unfold segW
        rw [insList_I, List.filter_cons, if_neg (by simp; omega)]
      constructor
      · rw [ih2]
        symm
        refine lay_prepend_seg _ _ _ _ _ ?_ fun i h _ => hi _ i h
        rw [h0, length_slice (by omega)]
      · rw [ih1]
        symm
        exact lay_prepend_seg _ _ _ _ _ (h0 _) fun i h _ => hi _ i h
    · -- D
      obtain ⟨ih2, ih1⟩ := ih seq q (r + len) (by omega) (by omega)
      exact walk_lay_bases ref seq (op, len) rest q q r len _ (insList_DN _ _ _ _ _ _ (.inl ho)) _ _ _ _
        List.length_replicate (by omega) _ _ ih2 ih1
    · -- N
      obtain ⟨ih2, ih1⟩ := ih seq q (r + len) (by omega) (by omega)
      exact walk_lay_bases ref seq (op, len) rest q q r len _ (insList_DN _ _ _ _ _ _ (.inr ho)) _ _ _ _
        List.length_replicate (by omega) _ _ ih2 ih1
    · -- S
      rw [segW_congr _ _ _ _ _ _ _ (insList_S seq len rest q r), segW_congr _ _ _ _ _ _ _ (insList_S seq len rest q r)]
      exact ih seq (q + len) r (by omega) (by omega)
    · -- H P
      rw [segW_congr _ _ _ _ _ _ _ (insList_other seq op len rest q r (.inl ho)),
        segW_congr _ _ _ _ _ _ _ (insList_other seq op len rest q r (.inl ho))]
      exact ih seq q r (by omega) (by omega)
    · -- not an operator
      rw [segW_congr _ _ _ _ _ _ _ (insList_other seq op len rest q r (.inr ho)),
        segW_congr _ _ _ _ _ _ _ (insList_other seq op len rest q r (.inr ho))]
      exact ih seq q r (by omega) (by omega)

def endOf (rc : SamRec) : Nat := rc.pos + refSpan samInsRef rc.cigar

def insOf (rc : SamRec) : List (Nat × List Nat) := insList rc.seq rc.cigar 0 rc.pos

def segRec (g : Nat × List Nat → List Nat) (rc : SamRec) (p : Nat) : List Nat :=
  ((insOf rc).filter fun x => x.1 == p).flatMap g

theorem endOf_noIns (rc : SamRec) : rc.pos + refSpan samNoIns rc.cigar = endOf rc :=
  congrArg (rc.pos + ·) (spans_agree rc.cigar).2.symm

theorem wf_ins (rc : SamRec) (L : Nat) (h : WFSamRec rc L) :
    qSpan samInsRef rc.cigar ≤ rc.seq.length ∧ rc.pos + refSpan samInsRef rc.cigar ≤ L := by
  have hsp := spans_agree rc.cigar
  exact ⟨hsp.1 ▸ h.hq, hsp.2 ▸ h.hr⟩

theorem walkWithRef_lay (rc : SamRec) (ref : List Nat) (hq : qSpan samInsRef rc.cigar ≤ rc.seq.length)
    (hr : rc.pos + refSpan samInsRef rc.cigar ≤ ref.length) :
    (walkWithRef rc ref true).2 = lay (endOf rc) (segRec (fun x => List.replicate x.2.length dash) rc) (fun p => ref.getD p 0) ∧
    (walkWithRef rc ref true).1 = lay (endOf rc) (segRec (fun x => x.2) rc) (fun p => (walkNoIns rc ref.length).getD p 0) := by
  obtain ⟨h2, h1⟩ := walk_lay ref rc.cigar rc.seq 0 rc.pos (by omega) hr
  have hsp := spans_agree rc.cigar
  have hsplit := walkNoIns_eq rc ref.length (hsp.1 ▸ hq)
  have hnlen : (walkOps samNoIns rc.seq [] rc.cigar 0 rc.pos).1.length = refSpan samInsRef rc.cigar :=
    (walkOps_length rc.cigar rc.seq 0 rc.pos (by rw [← hsp.1]; omega)).trans hsp.2.symm
  rw [walkWithRef_ins]
  unfold endOf
  have hseg0 : ∀ (g : Nat × List Nat → List Nat) (i : Nat), i < rc.pos → segRec g rc i = [] := by
    intro g i hi
    unfold segRec insOf
    rw [filter_nil_of _ _ fun x hx => by have := (mem_insList rc.seq rc.cigar 0 rc.pos x hx).1; simp; omega]
    rfl
  constructor
  · show ref.take rc.pos ++ _ = _
    rw [h2]
    symm
    exact lay_prepend_bases _ _ _ _ rc.pos _ _ (take_eq_map ref 0 rc.pos (by omega)) (hseg0 _) (fun i _ => rfl) (fun i _ => rfl)
  · show List.replicate rc.pos star ++ _ = _
    rw [h1]
    symm
    refine lay_prepend_bases _ _ _ _ rc.pos _ _ ?_ (hseg0 _) (fun i _ => rfl) ?_
    · rw [hsplit]
      have := append_left_eq_map (List.replicate rc.pos star)
        ((walkOps samNoIns rc.seq [] rc.cigar 0 rc.pos).1 ++
          List.replicate (ref.length - (rc.pos + refSpan samNoIns rc.cigar)) star)
      rwa [List.length_replicate] at this
    · intro i hi
      have hi' : i < (walkOps samNoIns rc.seq [] rc.cigar 0 rc.pos).1.length := hnlen ▸ hi
      rw [hsplit, getD_append_add _ _ 0 rc.pos i List.length_replicate]
      simp [List.getD_eq_getElem?_getD, List.getElem?_append_left hi']

/-- the order `blockToSeqPair` sorts by: the position alone, so that the stable sort keeps the order of `allIns`
among the insertions located at one position -/
def ltIns (a b : Ins) : Bool := decide (a.1 < b.1)

theorem swo_ltIns : SWO ltIns := by
  constructor
  · intro a b h; simp only [ltIns, decide_eq_true_eq, decide_eq_false_iff_not] at h ⊢; omega
  · intro a b c h; simp only [ltIns, decide_eq_true_eq] at h ⊢; omega

theorem filter_pos_sort (l : List Ins) (p : Nat) :
    (sortStable ltIns l).filter (fun x => x.1 == p) = l.filter (fun x => x.1 == p) := by
  have e : (fun x : Ins => x.1 == p) = tied ltIns ((p, [], 0) : Ins) := by
    funext x
    simp only [tied, ltIns]
    rcases Nat.lt_trichotomy x.1 p with h | h | h <;> simp [h] <;> omega
  rw [e]
  exact sortStable_stable swo_ltIns _ l

/-- all insertions of the block, in the order the model lists them: by record, then along the CIGAR -/
def allIns (block : List SamRec) : List Ins :=
  (List.range block.length).flatMap fun i => (insOf (block.getD i default)).map fun x => (x.1, x.2, i)

/-- the list the model folds `applyInsertion` over, with the bases kept (`blockToSeqPair_unfold`) -/
def sortedIns (block : List SamRec) : List Ins := sortStable ltIns (allIns block)

theorem sortedIns_pairwise (block : List SamRec) : (sortedIns block).Pairwise (fun a b => a.1 ≤ b.1) :=
  List.Pairwise.imp (fun hab => by simp only [ltIns, decide_eq_false_iff_not] at hab; omega)
    (sorted_sortStable swo_ltIns (allIns block))

/-- the list of insertions the model builds is `allIns` with the bases forgotten … -/
theorem model_inss (block : List SamRec) (hq : ∀ r ∈ block, qSpan samInsRef r.cigar ≤ r.seq.length) :
    ((block.zip (List.range block.length)).flatMap fun (r, i) => (insertionsOf r.pos r.cigar).map fun x => (x.1, x.2, i)) =
      (allIns block).map forget := by
  rw [zip_range_eq block default]
  unfold allIns
  rw [List.flatMap_map, List.map_flatMap]
  apply flatMap_congr
  intro i hi
  have hm := getD_mem block default i (List.mem_range.1 hi)
  dsimp only
  rw [insertionsOf_eq (block.getD i default).seq (block.getD i default).cigar 0 _ (by have := hq _ hm; omega)]
  unfold insOf forget
  simp [List.map_map]

/-- … and the list the specification builds is `allIns` with the owners forgotten: `allIns` is what lets the two be compared -/
theorem spec_inss (block : List SamRec) :
    (block.flatMap fun r => insList r.seq r.cigar 0 r.pos) = (allIns block).map fun x => (x.1, x.2.1) := by
  unfold allIns
  rw [List.map_flatMap, List.flatMap_def, map_eq_range block default, List.flatMap_def]
  congr 1
  apply List.map_congr_left
  intro i _
  simp [insOf, List.map_map, Function.comp_def]

theorem mem_allIns (block : List SamRec) (x : Ins) :
    x ∈ allIns block ↔ x.2.2 < block.length ∧ (x.1, x.2.1) ∈ insOf (block.getD x.2.2 default) := by
  unfold allIns
  simp only [List.mem_flatMap, List.mem_range, List.mem_map]
  constructor
  · rintro ⟨i, hi, y, hy, rfl⟩
    exact ⟨hi, hy⟩
  · rintro ⟨h1, h2⟩
    exact ⟨x.2.2, h1, (x.1, x.2.1), h2, rfl⟩

theorem allIns_le (block : List SamRec) (x : Ins) (hx : x ∈ allIns block) :
    x.2.2 < block.length ∧ x.1 ≤ endOf (block.getD x.2.2 default) := by
  obtain ⟨h1, h2⟩ := (mem_allIns block x).1 hx
  exact ⟨h1, (mem_insList _ _ 0 _ _ h2).2.1⟩

theorem filter_owner_range (F : Nat → List Ins) (hF : ∀ i, ∀ x ∈ F i, x.2.2 = i) (j : Nat) : ∀ (n : Nat),
    ((List.range n).flatMap F).filter (fun x => x.2.2 == j) = if j < n then F j else [] := by
  intro n
  induction n with
  | zero => rfl
  | succ n ih =>
    rw [List.range_succ, List.flatMap_append, List.filter_append, ih, List.flatMap_singleton]
    by_cases hj : j = n
    · subst hj
      rw [if_neg (Nat.lt_irrefl _), if_pos (Nat.lt_succ_self _), List.nil_append,
        List.filter_eq_self.2 fun x hx => by simp [hF j x hx]]
    · rw [filter_nil_of (F n) _ fun x hx => by have := hF n x hx; simp; omega, List.append_nil]
      by_cases hjn : j < n
      · rw [if_pos hjn, if_pos (by omega)]
      · rw [if_neg hjn, if_neg (by omega)]

theorem own_sorted (block : List SamRec) (j : Nat) (hj : j < block.length) (p : Nat) :
    (sortedIns block).filter (fun x => x.1 == p && x.2.2 == j) =
      ((insOf (block.getD j default)).filter fun x => x.1 == p).map fun x => (x.1, x.2, j) := by
  have hown : (allIns block).filter (fun x => x.2.2 == j) = (insOf (block.getD j default)).map fun x => (x.1, x.2, j) := by
    unfold allIns
    rw [filter_owner_range _ _ j block.length, if_pos hj]
    intro i x hx
    obtain ⟨y, _, rfl⟩ := List.mem_map.1 hx
    rfl
  unfold sortedIns
  rw [← List.filter_filter, filter_filter_comm, filter_pos_sort, filter_filter_comm, hown, List.filter_map]
  rfl

def cR (x : Ins) : List Nat := List.replicate (wIns x) dash
def cQ (x : Ins) : List Nat := x.2.1

theorem cR_length (x : Ins) : (cR x).length = wIns x := List.length_replicate
theorem cQ_length (x : Ins) : (cQ x).length = wIns x := rfl

/-- the `PairRow` the model makes of the two walked rows of a record -/
def mkRow (w : List Nat × List Nat) : PairRow := { ref := w.2, que := w.1, refEnd := (w.2.filter (· != dash)).length }

def finSeg (c : Ins → List Nat) (block : List SamRec) (j p : Nat) : List Nat :=
  ((allIns block).filter fun x => x.1 == p).flatMap (rho c j)

theorem walkWithRef_refEnd (rc : SamRec) (ref : List Nat) (hnd : NoDash ref) (hr : rc.pos + refSpan samInsRef rc.cigar ≤ ref.length) :
    ((walkWithRef rc ref true).2.filter (· != dash)).length = endOf rc := by
  show (degap _).length = _
  rw [walkWithRef_ins, degap_append, degap_noDash fun x hx => hnd x (List.mem_of_mem_take hx), ref_row_degap ref hnd, List.length_append,
    List.length_take, length_slice hr]
  unfold endOf
  omega

/-- **the merged rows**: row j holds, before every reference position p up to the end of record j, one run of columns
for each insertion of the block located at p, in block order (its own bases or gap columns), then the column of p -/
theorem merged_rows (block : List SamRec) (ref : List Nat) (hnd : NoDash ref)
    (hq : ∀ r ∈ block, qSpan samInsRef r.cigar ≤ r.seq.length)
    (hr : ∀ r ∈ block, r.pos + refSpan samInsRef r.cigar ≤ ref.length) :
    ∃ F : Nat → PairRow,
      ((sortedIns block).map forget).foldl applyInsertion ((block.map fun r => walkWithRef r ref true).map mkRow) =
        (List.range block.length).map F ∧
      ∀ j, j < block.length →
        (F j).ref = lay (endOf (block.getD j default)) (finSeg cR block j) (fun p => ref.getD p 0) ∧
        (F j).que = lay (endOf (block.getD j default)) (finSeg cQ block j) (fun p => (walkNoIns (block.getD j default) ref.length).getD p 0) := by
  let d : PairRow := mkRow ([], [])
  refine ⟨fun j => ((sortedIns block).map forget).foldl (stepRow j)
    (((block.map fun r => walkWithRef r ref true).map mkRow).getD j d), ?_, ?_⟩
  · rw [foldl_applyInsertion d]
    simp
  · intro j hj
    have hm := getD_mem block default j hj
    have hrow : ((block.map fun r => walkWithRef r ref true).map mkRow).getD j d = mkRow (walkWithRef (block.getD j default) ref true) := by
      simp [List.getD_eq_getElem?_getD, hj]
    simp only [hrow]
    obtain ⟨hl2, hl1⟩ := walkWithRef_lay (block.getD j default) ref (hq _ hm) (hr _ hm)
    -- before the fold the row holds its own insertions only; after it, every insertion of the block
    have hstart : ∀ (c : Ins → List Nat) (g : Nat × List Nat → List Nat), (∀ y, c (y.1, y.2, j) = g y) → ∀ p,
        segRec g (block.getD j default) p = segOf c j [] (sortedIns block) p := by
      intro c g hcg p
      unfold segOf segRec
      rw [own_sorted block j hj p, List.flatMap_map]
      exact (flatMap_congr _ _ _ fun y _ => hcg y).symm
    have hfin : ∀ (c : Ins → List Nat) (p : Nat), segOf c j ([] ++ sortedIns block) [] p = finSeg c block j p := by
      intro c p
      unfold segOf finSeg sortedIns
      rw [List.nil_append, filter_pos_sort]
      exact List.append_nil _
    have inv0 : RowInv j (endOf (block.getD j default)) cR cQ (fun p => ref.getD p 0)
        (fun p => (walkNoIns (block.getD j default) ref.length).getD p 0) [] (sortedIns block)
        (mkRow (walkWithRef (block.getD j default) ref true)) :=
      ⟨hl2.trans (lay_congr _ _ _ _ _ (fun p _ => hstart cR _ (fun _ => rfl) p) fun _ _ => rfl),
        hl1.trans (lay_congr _ _ _ _ _ (fun p _ => hstart cQ _ (fun _ => rfl) p) fun _ _ => rfl), rfl,
        walkWithRef_refEnd _ ref hnd (hr _ hm)⟩
    obtain ⟨f1, f2, _, _⟩ := rowInv_fold j _ cR cQ cR_length cQ_length _ _ (sortedIns block) [] _
      (sortedIns_pairwise block)
      (fun x hx hxj => hxj ▸ (allIns_le block x ((mem_sortStable _ _ _).1 hx)).2) inv0
    exact ⟨f1.trans (lay_congr _ _ _ _ _ (fun p _ => hfin cR p) fun _ _ => rfl),
      f2.trans (lay_congr _ _ _ _ _ (fun p _ => hfin cQ p) fun _ _ => rfl)⟩

theorem lay_length_tot (Y : List Ins) (seg : Nat → List Nat) (b : Nat → Nat) (M : Nat)
    (hseg : ∀ p, (seg p).length = tot (Y.filter fun x => x.1 == p)) (hall : ∀ x ∈ Y, x.1 ≤ M) :
    (lay M seg b).length = M + tot Y := by
  rw [lay_length, sumTo_congr _ _ _ fun i _ => hseg i, sumTo_tot,
    List.filter_eq_self.2 fun y hy => by have := hall y hy; simp; omega]

def segP (c : Ins → List Nat) (block : List SamRec) (j p : Nat) : List Nat :=
  ((allIns block).filter fun x => x.1 == p).flatMap fun x =>
    if p ≤ endOf (block.getD j default) then rho c j x else List.replicate (wIns x) star

theorem segP_length (c : Ins → List Nat) (hc : ∀ x, (c x).length = wIns x) (block : List SamRec) (j p : Nat) :
    (segP c block j p).length = tot ((allIns block).filter fun x => x.1 == p) :=
  flatMap_length_tot _ (fun x => by split; exact rho_length c hc j x; exact List.length_replicate) _

theorem padded_row (c : Ins → List Nat) (hc : ∀ x, (c x).length = wIns x) (block : List SamRec) (j M : Nat) (b : Nat → Nat)
    (hEM : endOf (block.getD j default) ≤ M) (hall : ∀ x ∈ allIns block, x.1 ≤ M) (row : List Nat)
    (hrow : row = lay (endOf (block.getD j default)) (finSeg c block j) b) :
    padTo (M + tot (allIns block)) row =
      lay M (segP c block j) (fun p => if p < endOf (block.getD j default) then b p else star) ∧
    row.length ≤ M + tot (allIns block) ∧ (endOf (block.getD j default) = M → row.length = M + tot (allIns block)) := by
  have hlen : ∀ b', (lay M (segP c block j) b').length = M + tot (allIns block) :=
    fun b' => lay_length_tot _ _ b' M (segP_length c hc block j) hall
  -- up to the end of its record the padded row is the row
  have hsame : ∀ (E : Nat) (b' : Nat → Nat), E ≤ endOf (block.getD j default) → (∀ p, p < E → b' p = b p) →
      lay E (segP c block j) b' = lay E (finSeg c block j) b := fun E b' hE hb =>
    lay_congr _ _ _ _ _ (fun p hp => by unfold segP finSeg; simp only [if_pos (Nat.le_trans hp hE)]) hb
  obtain ⟨k, hk⟩ := lay_pad (segP c block j) (fun p => if p < endOf (block.getD j default) then b p else star) star _ M hEM
    (fun i hi y hy => by
      unfold segP at hy
      obtain ⟨x, _, hy⟩ := List.mem_flatMap.1 hy
      rw [if_neg (Nat.not_le_of_gt hi)] at hy
      exact List.eq_of_mem_replicate hy)
    (fun i hi => if_neg (Nat.not_lt_of_le hi))
  rw [hsame _ _ (Nat.le_refl _) fun p hp => if_pos hp, ← hrow] at hk
  have hkl := hlen fun p => if p < endOf (block.getD j default) then b p else star
  rw [hk, List.length_append, List.length_replicate] at hkl
  refine ⟨?_, by omega, fun hE => ?_⟩
  · rw [hk, padTo, show M + tot (allIns block) - row.length = k by omega]
  · rw [hrow, ← hsame _ b (Nat.le_refl _) fun _ _ => rfl, hE]
    exact hlen b

theorem flatten_seg (c : Ins → List Nat) (hc : ∀ x, (c x).length = wIns x) (block : List SamRec) (hne : block ≠ [])
    (hdash : ∀ x ∈ allIns block, ∀ b ∈ c x, dash ≤ b) (p : Nat) :
    flattenRows ((List.range block.length).map fun j => segP c block j p) = ((allIns block).filter fun x => x.1 == p).flatMap c := by
  have hjs : List.range block.length ≠ [] := fun h => hne (List.length_eq_zero_iff.1 (List.range_eq_nil.1 h))
  unfold segP
  rw [flattenRows_flatMap _ hjs (fun j x => if p ≤ endOf (block.getD j default) then rho c j x else List.replicate (wIns x) star) wIns
    fun j _ x => by split; exact rho_length c hc j x; exact List.length_replicate]
  apply flatMap_congr
  intro x hx
  obtain ⟨hxm, hxp⟩ := List.mem_filter.1 hx
  obtain ⟨ho, hle⟩ := allIns_le block x hxm
  rw [show x.1 = p by simpa using hxp] at hle
  -- the owner of x holds its columns, every other row as many '-' (while it lasts) or no-coverage marks (after)
  refine flattenRows_dominant _ _ (c x) (hdash x hxm) x.2.2 (List.mem_range.2 ho) (by rw [if_pos hle, rho, if_pos rfl]) fun j _ => ?_
  by_cases hp : p ≤ endOf (block.getD j default)
  · rw [if_pos hp, rho]
    by_cases hj : x.2.2 = j
    · exact .inl (if_pos hj)
    · exact .inr (.inl (by rw [if_neg hj, hc x]))
  · exact .inr (.inr (by rw [if_neg hp, hc x]))

theorem allIns_letters (block : List SamRec) (hl : ∀ r ∈ block, ∀ b ∈ r.seq, isLetter b = true) :
    ∀ x ∈ allIns block, ∀ b ∈ x.2.1, isLetter b = true := by
  intro x hx b hb
  obtain ⟨h1, h2⟩ := (mem_allIns block x).1 hx
  exact hl _ (getD_mem block default x.2.2 h1) b ((mem_insList _ _ _ _ _ h2).2.2 b hb)

def blockSeg (c : Ins → List Nat) (block : List SamRec) (p : Nat) : List Nat :=
  ((allIns block).filter fun x => x.1 == p).flatMap c

theorem flatten_padded (c : Ins → List Nat) (hc : ∀ x, (c x).length = wIns x) (block : List SamRec) (hne : block ≠ []) (M : Nat)
    (hM : ∀ j, j < block.length → endOf (block.getD j default) ≤ M) (hall : ∀ x ∈ allIns block, x.1 ≤ M)
    (hdash : ∀ x ∈ allIns block, ∀ y ∈ c x, dash ≤ y) (row : Nat → List Nat) (b : Nat → Nat → Nat)
    (hrow : ∀ j, j < block.length → row j = lay (endOf (block.getD j default)) (finSeg c block j) (b j)) (v : Nat → Nat)
    (hv : ∀ p, p < M → flattenSite ((List.range block.length).map fun j =>
      if p < endOf (block.getD j default) then b j p else star) = v p) :
    flattenRows ((List.range block.length).map fun j => padTo (M + tot (allIns block)) (row j)) = lay M (blockSeg c block) v := by
  have hjs : List.range block.length ≠ [] := fun h => hne (List.length_eq_zero_iff.1 (List.range_eq_nil.1 h))
  rw [List.map_congr_left fun j hj =>
      (padded_row c hc block j M (b j) (hM j (List.mem_range.1 hj)) hall _ (hrow j (List.mem_range.1 hj))).1,
    flattenRows_lay _ hjs _ _ (fun p => tot ((allIns block).filter fun x => x.1 == p)) _
      fun j _ p _ => segP_length c hc block j p]
  exact lay_congr _ _ _ _ _ (fun p _ => flatten_seg c hc block hne hdash p) hv

/-- the rows of the block after every insertion has been applied, the length of the longest, and the two flattened rows -/
def mergedOf (block : List SamRec) (ref : List Nat) : List PairRow :=
  ((sortedIns block).map forget).foldl applyInsertion ((block.map fun r => walkWithRef r ref true).map mkRow)
def mxOf (block : List SamRec) (ref : List Nat) : Nat := ((mergedOf block ref).map fun r => r.ref.length).foldl max 0
def flatR (block : List SamRec) (ref : List Nat) : List Nat := flattenRows ((mergedOf block ref).map fun r => padTo (mxOf block ref) r.ref)
def flatQ (block : List SamRec) (ref : List Nat) : List Nat := flattenRows ((mergedOf block ref).map fun r => padTo (mxOf block ref) r.que)

/-- **the two flattened rows** of a block, before the right extension: up to the end M of the record reaching furthest,
the reference row holds the reference bases and a run of '-' for every insertion, the query row the inserted bases and
the verdict of `flatCol` for every reference position -/
theorem flattened (block : List SamRec) (ref : List Nat) (hne : block ≠ []) (hnd : NoDash ref) (hge : ∀ b ∈ ref, star ≤ b)
    (hwf : ∀ r ∈ block, WFSamRec r ref.length) :
    ∃ M, M ≤ ref.length ∧ (∀ x ∈ allIns block, x.1 ≤ M) ∧ (∀ r ∈ block, endOf r ≤ M) ∧
      flatR block ref = lay M (blockSeg cR block) (fun p => ref.getD p 0) ∧
      flatQ block ref = lay M (blockSeg cQ block) (fun p => colByte (flatCol block p)) := by
  have hins : ∀ r ∈ block, qSpan samInsRef r.cigar ≤ r.seq.length ∧ r.pos + refSpan samInsRef r.cigar ≤ ref.length :=
    fun r hr => wf_ins r _ (hwf r hr)
  obtain ⟨F, hF, hrows⟩ := merged_rows block ref hnd (fun r hr => (hins r hr).1) fun r hr => (hins r hr).2
  obtain ⟨m, hm, hmax⟩ := exists_max (fun j => endOf (block.getD j default)) block.length
    (List.length_pos_iff.2 hne)
  have hall : ∀ x ∈ allIns block, x.1 ≤ endOf (block.getD m default) := fun x hx =>
    Nat.le_trans (allIns_le block x hx).2 (hmax _ (allIns_le block x hx).1)
  have hends : ∀ r ∈ block, endOf r ≤ endOf (block.getD m default) := by
    intro r hrb
    obtain ⟨j, hj, rfl⟩ := List.getElem_of_mem hrb
    simpa [List.getD_eq_getElem?_getD, hj] using hmax j hj
  refine ⟨_, (hins _ (getD_mem block default m hm)).2, hall, hends, ?_⟩
  -- the longest row is that of a record ending at M
  have hmx : mxOf block ref = endOf (block.getD m default) + tot (allIns block) := by
    unfold mxOf mergedOf
    rw [hF, List.map_map]
    refine foldl_max_eq _ _ (List.mem_map.2 ⟨m, List.mem_range.2 hm, ?_⟩) (fun y hy => ?_) 0 (Nat.zero_le _)
    · exact (padded_row cR cR_length block m _ _ (Nat.le_refl _) hall _ (hrows m hm).1).2.2 rfl
    · obtain ⟨j, hj, rfl⟩ := List.mem_map.1 hy
      exact (padded_row cR cR_length block j _ _ (hmax j (List.mem_range.1 hj)) hall _ (hrows j (List.mem_range.1 hj)).1).2.1
  unfold flatR flatQ
  rw [hmx]
  unfold mergedOf
  rw [hF, List.map_map, List.map_map]
  constructor
  · refine flatten_padded cR cR_length block hne _ hmax hall (fun x _ y hy => Nat.le_of_eq (List.eq_of_mem_replicate hy).symm)
      _ (fun _ p => ref.getD p 0) (fun j hj => (hrows j hj).1) _ fun p hp => ?_
    -- a reference base, over no-coverage marks where a record has ended
    refine flattenSite_dominant _ _ (List.mem_map.2 ⟨m, List.mem_range.2 hm, if_pos hp⟩) fun y hy => ?_
    obtain ⟨j, _, rfl⟩ := List.mem_map.1 hy
    by_cases h : p < endOf (block.getD j default)
    · exact .inl (if_pos h)
    · rw [if_neg h]
      refine .inr ⟨hge _ ?_, star_not_letter⟩
      have hpL : p < ref.length := Nat.lt_of_lt_of_le hp (hins _ (getD_mem block default m hm)).2
      simp [List.getD_eq_getElem?_getD, hpL]
  · refine flatten_padded cQ cQ_length block hne _ hmax hall
      (fun x hx y hy => by
        have := letter_beats_gap y (allIns_letters block (fun r hr => (hwf r hr).letters) x hx y hy)
        omega)
      _ (fun j p => (walkNoIns (block.getD j default) ref.length).getD p 0) (fun j hj => (hrows j hj).2) _ fun p hp => ?_
    -- a record that has ended holds a no-coverage mark in its walked row anyway
    have hpL : p < ref.length := Nat.lt_of_lt_of_le hp (hins _ (getD_mem block default m hm)).2
    rw [← flatten_column block ref.length hne hwf p, ← col_walks block ref.length hwf p hpL, map_eq_range block default]
    refine congrArg flattenSite (List.map_congr_left fun j hj => ?_)
    have hw := hwf _ (getD_mem block default j (List.mem_range.1 hj))
    by_cases hlt : p < endOf (block.getD j default)
    · exact if_pos hlt
    · rw [if_neg hlt, walk_row _ _ hw.hq hw.hr, getD_map_range _ _ _ _ hpL, covAt_none_of_ge _ p (by rw [endOf_noIns]; omega)]
      rfl

theorem blockToSeqPair_unfold (block : List SamRec) (ref : List Nat) (hq : ∀ r ∈ block, qSpan samInsRef r.cigar ≤ r.seq.length) :
    blockToSeqPair block ref =
      (flatR block ref ++ ref.drop (ref.length - ((tot (allIns block) + ref.length) - (flatR block ref).length)),
       swapInNs (flatQ block ref ++ List.replicate ((tot (allIns block) + ref.length) - (flatR block ref).length) star)) := by
  unfold flatR flatQ mxOf mergedOf blockToSeqPair
  dsimp only
  rw [model_inss block hq, show sortStable (fun a b : Nat × Nat × Nat => decide (a.1 < b.1)) ((allIns block).map forget) =
    (sortedIns block).map forget from (map_sortStable ltIns _ forget _ (List.pairwise_of_forall fun _ _ => rfl)).symm,
    show (((allIns block).map forget).map fun x => x.2.1).sum = tot (allIns block) by unfold tot; rw [List.map_map]; rfl]
  rfl

theorem specPair_lay (block : List SamRec) (ref : List Nat) :
    specPair block ref = (lay ref.length (blockSeg cR block) (fun p => ref.getD p 0),
                          lay ref.length (blockSeg cQ block) (fun p => (flatCol block p).getD letN)) := by
  -- the inserted columns at p: '-' over each inserted base in the first row, the base itself in the second
  have hseg : ∀ (f : Nat × Nat → Nat) (c : Ins → List Nat), (∀ x : Ins, (x.2.1.map fun b => (dash, b)).map f = c x) → ∀ p,
      (PairSpec.insSeg block p).map f = blockSeg c block p := by
    intro f c hfc p
    unfold PairSpec.insSeg blockSeg
    rw [spec_inss, List.filter_map, List.flatMap_map, List.map_flatMap]
    exact flatMap_congr _ _ _ fun x _ => hfc x
  rw [PairSpec.specPair_eq, PairSpec.specCols_lay, lay_map, lay_map]
  exact Prod.ext
    (lay_congr _ _ _ _ _ (fun p _ => hseg (·.1) cR (fun x => by rw [List.map_map]; exact List.map_const' ..) p) fun _ _ => rfl)
    (lay_congr _ _ _ _ _ (fun p _ => hseg (·.2) cQ (fun x => by rw [List.map_map]; exact List.map_id' ..) p) fun _ _ => rfl)

theorem flatCol_none (block : List SamRec) (p : Nat) (h : ∀ r ∈ block, endOf r ≤ p) : flatCol block p = none := by
  have : (block.filterMap fun r => covAt r p) = [] :=
    List.filterMap_eq_nil_iff.2 fun r hr => covAt_none_of_ge r p (by rw [endOf_noIns]; exact h r hr)
  unfold flatCol
  simp [this]

theorem blockSeg_length (c : Ins → List Nat) (hc : ∀ x, (c x).length = wIns x) (block : List SamRec) (p : Nat) :
    (blockSeg c block p).length = tot ((allIns block).filter fun x => x.1 == p) :=
  flatMap_length_tot _ hc _

/-- no record at all (a block the grouping never produces): model and specification both write the reference opposite 'N' -/
theorem blockToSeqPair_nil (ref : List Nat) : blockToSeqPair [] ref = specPair [] ref := by
  have hlay : ∀ (c : Ins → List Nat) (b : Nat → Nat), lay ref.length (blockSeg c []) b = (List.range ref.length).map b := by
    intro c b
    simpa [lay, pre_zero, blockSeg, allIns] using lay_shift (blockSeg c []) b ref.length (fun _ _ => rfl) 0
  rw [specPair_lay, hlay, hlay, map_range_const ref.length letN (fun p => (flatCol [] p).getD letN) fun _ _ => rfl,
    ← take_eq_map ref 0 ref.length (Nat.le_refl _), List.take_length]
  simp [blockToSeqPair, sortStable, flattenRows, swapInNs, star, letN]

/-- **C02** — for every block of records of one query (one record or several, overlapping or not,
conflicting or not, insertions anywhere, shared boundaries included), over a reference without '-' whose bytes are not
below '*', and records that fit the reference, whose SEQ covers their CIGAR and holds letters: the pair
`blockToSeqPair` writes is exactly the specification `specPair` -/
theorem blockToSeqPair_eq_specPair (block : List SamRec) (ref : List Nat) (hnd : NoDash ref)
    (hge : ∀ b ∈ ref, star ≤ b) (hwf : ∀ r ∈ block, WFSamRec r ref.length) :
    blockToSeqPair block ref = specPair block ref := by
  by_cases hne : block = []
  · subst hne
    exact blockToSeqPair_nil ref
  obtain ⟨M, hML, hall, hends, hR, hQ⟩ := flattened block ref hne hnd hge hwf
  obtain ⟨d, hd⟩ := Nat.exists_eq_add_of_le hML
  -- past M no record inserts and no record covers: both layouts go on to the end of the reference column by column
  have hsegnil : ∀ (c : Ins → List Nat) (i : Nat), M < i → blockSeg c block i = [] := by
    intro c i hi
    unfold blockSeg
    rw [filter_nil_of _ _ fun x hx => by have := hall x hx; simp; omega]
    rfl
  have hnone : ∀ i, flatCol block (M + i) = none :=
    fun i => flatCol_none block _ fun r hr => Nat.le_trans (hends r hr) (Nat.le_add_right M i)
  rw [blockToSeqPair_unfold block ref fun r hr => (wf_ins r _ (hwf r hr)).1, specPair_lay, hR, hQ,
    lay_length_tot _ _ _ M (blockSeg_length cR cR_length block) hall, hd, Nat.add_comm (tot _), Nat.add_sub_add_right,
    Nat.add_sub_cancel_left, Nat.add_sub_cancel]
  refine congr (congrArg _ ?_) ?_
  · rw [lay_extend _ _ M (hsegnil cR) d, ← slice_eq_map ref 0 M d (Nat.le_of_eq hd.symm),
      List.take_of_length_le (by rw [List.length_drop, hd, Nat.add_sub_cancel_left]; exact Nat.le_refl _)]
  · have hext : lay M (blockSeg cQ block) (fun p => colByte (flatCol block p)) ++ List.replicate d star =
        lay (M + d) (blockSeg cQ block) (fun p => colByte (flatCol block p)) := by
      rw [lay_extend _ _ M (hsegnil cQ) d, map_range_const d star _ fun i _ => by rw [hnone i]; rfl]
    rw [hext]
    unfold swapInNs
    rw [lay_map]
    apply lay_congr
    · -- inserted bases are letters
      intro p _
      refine (List.map_congr_left fun b hb => ?_).trans (List.map_id _)
      obtain ⟨x, hx, hbx⟩ := List.mem_flatMap.1 hb
      have := letter_beats_gap b (allIns_letters block (fun r hr => (hwf r hr).letters) x (List.mem_filter.1 hx).1 b hbx)
      exact if_neg (by omega)
    · intro p _
      cases hc : flatCol block p with
      | none => rfl
      | some b => exact if_neg (flatCol_ne_star block ref.length hwf p b hc)

/-- **C02** — `PairSpec.specPair_lossless` of the pair that `blockToSeqPair` writes -/
theorem multi_ref_lossless (block : List SamRec) (ref : List Nat) (hnd : NoDash ref)
    (hge : ∀ b ∈ ref, star ≤ b) (hwf : ∀ r ∈ block, WFSamRec r ref.length) :
    degap (blockToSeqPair block ref).1 = ref := by
  rw [blockToSeqPair_eq_specPair block ref hnd hge hwf]
  exact PairSpec.specPair_lossless block ref hnd

/-- **C02** — rows of equal length (their length: `multi_ref_row_length`) -/
theorem multi_lengths (block : List SamRec) (ref : List Nat) (hnd : NoDash ref)
    (hge : ∀ b ∈ ref, star ≤ b) (hwf : ∀ r ∈ block, WFSamRec r ref.length) :
    (blockToSeqPair block ref).1.length = (blockToSeqPair block ref).2.length := by
  rw [blockToSeqPair_eq_specPair block ref hnd hge hwf]
  exact PairSpec.specPair_lengths block ref

/-- `tot (allIns block)`, in which the two statements below count, is the total length of the `I` operations of the
records' CIGARs: what `single_lengths` and `single_gap_count` say for one record -/
theorem tot_allIns (block : List SamRec) (hq : ∀ r ∈ block, qSpan samInsRef r.cigar ≤ r.seq.length) :
    tot (allIns block) = (block.map fun r => insSpan r.cigar).sum := by
  have h : tot (allIns block) = ((block.flatMap fun r => insList r.seq r.cigar 0 r.pos).map (·.2.length)).sum := by
    rw [spec_inss, List.map_map]
    rfl
  rw [h]
  clear h
  induction block with
  | nil => rfl
  | cons r t ih =>
    rw [List.flatMap_cons, List.map_append, List.sum_append, ih fun x hx => hq x (List.mem_cons_of_mem _ hx), List.map_cons,
      List.sum_cons, ← insertionsOf_sum r.cigar r.pos,
      insertionsOf_eq r.seq r.cigar 0 r.pos (by have := hq r List.mem_cons_self; omega), List.map_map]
    rfl

theorem multi_ref_row_length (block : List SamRec) (ref : List Nat) (hnd : NoDash ref)
    (hge : ∀ b ∈ ref, star ≤ b) (hwf : ∀ r ∈ block, WFSamRec r ref.length) :
    (blockToSeqPair block ref).1.length = ref.length + tot (allIns block) := by
  rw [blockToSeqPair_eq_specPair block ref hnd hge hwf, specPair_lay]
  refine lay_length_tot _ _ _ _ (blockSeg_length cR cR_length block) fun x hx => ?_
  obtain ⟨h1, h2⟩ := allIns_le block x hx
  exact Nat.le_trans h2 (wf_ins _ _ (hwf _ (getD_mem block default x.2.2 h1))).2

/-- **C02** — the reference row has exactly as many '-' columns as the records of the block insert bases -/
theorem multi_gap_count (block : List SamRec) (ref : List Nat) (hnd : NoDash ref)
    (hge : ∀ b ∈ ref, star ≤ b) (hwf : ∀ r ∈ block, WFSamRec r ref.length) :
    ((blockToSeqPair block ref).1.filter (· == dash)).length = tot (allIns block) := by
  have := length_dash_add_degap (blockToSeqPair block ref).1
  rw [multi_ref_lossless block ref hnd hge hwf, multi_ref_row_length block ref hnd hge hwf] at this
  omega

/-- **C02** — `PairSpec.specPair_skip_insertions` of the pair that `blockToSeqPair` writes -/
theorem multi_skip_insertions (block : List SamRec) (ref : List Nat) (hnd : NoDash ref)
    (hge : ∀ b ∈ ref, star ≤ b) (hwf : ∀ r ∈ block, WFSamRec r ref.length) :
    keepRefCols (blockToSeqPair block ref).1 (blockToSeqPair block ref).2 = specTomaRow block ref.length true := by
  rw [blockToSeqPair_eq_specPair block ref hnd hge hwf]
  exact PairSpec.specPair_skip_insertions block ref hnd

theorem letters_ref (ref : List Nat) (h : ∀ b ∈ ref, isLetter b = true) : NoDash ref ∧ ∀ b ∈ ref, star ≤ b := by
  constructor
  · intro b hb; have := letter_beats_gap b (h b hb); omega
  · intro b hb; have := letter_beats_gap b (h b hb); omega

theorem blockToSeqPair_eq_specPair_letters (block : List SamRec) (ref : List Nat) (hl : ∀ b ∈ ref, isLetter b = true)
    (hwf : ∀ r ∈ block, WFSamRec r ref.length) : blockToSeqPair block ref = specPair block ref :=
  blockToSeqPair_eq_specPair block ref (letters_ref ref hl).1 (letters_ref ref hl).2 hwf

/-- the same with the hypotheses on the records written with the paired operator table -/
theorem blockToSeqPair_eq_specPair_ins (block : List SamRec) (ref : List Nat) (hnd : NoDash ref) (hge : ∀ b ∈ ref, star ≤ b)
    (hq : ∀ r ∈ block, qSpan samInsRef r.cigar ≤ r.seq.length)
    (hr : ∀ r ∈ block, r.pos + refSpan samInsRef r.cigar ≤ ref.length)
    (hl : ∀ r ∈ block, ∀ b ∈ r.seq, isLetter b = true) : blockToSeqPair block ref = specPair block ref :=
  blockToSeqPair_eq_specPair block ref hnd hge fun r hrb =>
    have hsp := spans_agree r.cigar
    ⟨hsp.1 ▸ hq r hrb, hsp.2 ▸ hr r hrb, hl r hrb⟩

theorem trimPair_spec (p : List Nat × List Nat) (s e : Nat) (hs : 1 ≤ s) (hse : s ≤ e) (he : e ≤ (degap p.1).length) :
    trimPair p s e = specTrimPair p s e := by
  have hcols : ((p.1.zip (List.range p.1.length)).filter fun (c, _) => c != dash).length = (degap p.1).length := by
    show ((p.1.zip _).filter ((· != dash) ∘ Prod.fst)).length = _
    rw [← List.length_map (f := Prod.fst), ← List.filter_map, List.map_fst_zip (Nat.le_of_eq List.length_range.symm)]
    rfl
  exact Props.C15.topa_window p s e (by rw [hcols]; omega) (by rw [hcols]; omega)

theorem toPairAlign_blocks (ref : List Nat) (refName : String) (start stop wrap : Int) (omitRef omitIns : Bool)
    (recs : List SamRec) (s e : Nat) (trim : Bool) (hargs : checkArgs ref.length start stop = some (s, e, trim))
    (P : List SamRec → List Nat × List Nat)
    (h : ∀ b ∈ samBlocks recs, (if trim then trimPair (pairOfBlock b ref omitIns) s e else pairOfBlock b ref omitIns) = P b) :
    toPairAlign ref refName start stop wrap omitRef omitIns recs =
      some ((samBlocks recs).map fun b => ((b.headD default).name, pairText wrap refName (b.headD default).name omitRef (P b))) := by
  unfold toPairAlign
  rw [hargs]
  exact congrArg some (List.map_congr_left fun b hb => by rw [← h b hb])

/-- **C02, toPairAlign (insertions kept)** — for every SAM file whose retained records fit the reference and carry
letters, over a reference without '-' and without bytes below '*', and every accepted window: one text per query, in
input order, holding the specified pair cut from the column of reference base s to that of base e -/
theorem toPairAlign_keepIns_spec (ref : List Nat) (refName : String) (start stop wrap : Int) (omitRef : Bool)
    (recs : List SamRec) (s e : Nat) (trim : Bool) (hargs : checkArgs ref.length start stop = some (s, e, trim))
    (hnd : NoDash ref) (hge : ∀ b ∈ ref, star ≤ b)
    (hwf : ∀ r ∈ recs, isSkipped r = false → WFSamRec r ref.length) :
    toPairAlign ref refName start stop wrap omitRef false recs =
      some ((samBlocks recs).map fun b =>
        ((b.headD default).name, pairText wrap refName (b.headD default).name omitRef
          (if trim then specTrimPair (specPair b ref) s e else specPair b ref))) := by
  refine toPairAlign_blocks ref refName start stop wrap omitRef false recs s e trim hargs _ fun b hb => ?_
  have hse := checkArgs_bounds ref.length start stop s e trim hargs
  rw [show pairOfBlock b ref false = specPair b ref from
    blockToSeqPair_eq_specPair b ref hnd hge (samBlocks_wf _ recs hwf b hb).2,
    trimPair_spec _ s e hse.1 hse.2.1 (by rw [PairSpec.specPair_lossless b ref hnd]; exact hse.2.2)]

/-- non-vacuity: three records of one query; the first two overlap, disagree on a base and both insert at the same
position; the second ends with an insertion exactly where the third begins with one -/
def exRef : List Nat := [65, 67, 71, 84, 65, 67, 71, 84, 65, 67, 71, 84]
def exB1 : SamRec := ⟨"q", 0, 1, [(0, 2), (1, 2), (0, 2)], [65, 65, 67, 67, 71, 71]⟩
def exB2 : SamRec := ⟨"q", 2048, 2, [(0, 1), (1, 1), (0, 3), (1, 2)], [84, 84, 65, 71, 71, 65, 65]⟩
def exB3 : SamRec := ⟨"q", 2048, 6, [(1, 1), (0, 2), (2, 1), (0, 1)], [67, 84, 84, 65]⟩

example : NoDash exRef ∧ (∀ b ∈ exRef, star ≤ b) ∧ ∀ r ∈ [exB1, exB2, exB3], WFSamRec r exRef.length := by
  refine ⟨by unfold NoDash; decide, by decide, ?_⟩
  intro r hr
  simp only [List.mem_cons, List.mem_nil_iff, or_false] at hr
  rcases hr with rfl | rfl | rfl <;> exact ⟨by decide, by decide, by decide⟩

example : blockToSeqPair [exB1, exB2, exB3] exRef =
    ([65, 67, 71, 45, 45, 45, 84, 65, 67, 45, 45, 45, 71, 84, 65, 67, 71, 84],
     [78, 65, 78, 67, 67, 84, 78, 71, 71, 65, 65, 67, 84, 84, 45, 65, 78, 78]) := by decide +kernel

end Gofasta.Lemmas.PairMulti
