import Gofasta.Lemmas.PairSingle
import Gofasta.Lemmas.Layout
/-
C02: the executable specification `specPair` (any number of records) has the properties the statement asks for:
the reference row de-gaps to the reference, both rows have the same length, and deleting the '-' columns of the
reference row from the query row gives the toMultiAlign --pad row. The columns of the specification are a layout over
the reference positions (`specCols_lay`); the three properties are read off it.
-/
namespace Gofasta.Lemmas.PairSpec
open Gofasta Model Spec Gofasta.Props.C02 Gofasta.Lemmas Gofasta.Lemmas.Layout
open Gofasta.Lemmas.PairMulti (lay pre)

-- `insSeg`, `colsAt` and `pairCols` are the three `let`s of `Spec.specPair` under names (`specPair_eq` is by `rfl`)
/-- the columns before reference base p: the bases the records insert there, opposite gaps -/
def insSeg (block : List SamRec) (p : Nat) : List (Nat × Nat) :=
  ((block.flatMap fun r => insList r.seq r.cigar 0 r.pos).filter fun x => x.1 == p).flatMap fun x => x.2.map fun b => (dash, b)

def colsAt (block : List SamRec) (ref : List Nat) (p : Nat) : List (Nat × Nat) :=
  insSeg block p ++
    (match ref[p]? with
     | some rb => [(rb, (flatCol block p).getD letN)]
     | none => [])

def pairCols (block : List SamRec) (ref : List Nat) : List (Nat × Nat) :=
  (List.range (ref.length + 1)).flatMap (colsAt block ref)

theorem specPair_eq (block : List SamRec) (ref : List Nat) :
    specPair block ref = ((pairCols block ref).map (·.1), (pairCols block ref).map (·.2)) := rfl

theorem specPair_lengths (block : List SamRec) (ref : List Nat) :
    (specPair block ref).1.length = (specPair block ref).2.length := by
  rw [specPair_eq, List.length_map, List.length_map]

theorem specPair_zip (block : List SamRec) (ref : List Nat) :
    (specPair block ref).1.zip (specPair block ref).2 = pairCols block ref := by
  rw [specPair_eq]
  exact (List.zip_of_prod rfl rfl).symm

/-- the column of reference base p: the verdict of the records, 'N' where no record covers p -/
def baseCol (block : List SamRec) (ref : List Nat) (p : Nat) : Nat × Nat := (ref.getD p 0, (flatCol block p).getD letN)

theorem specCols_lay (block : List SamRec) (ref : List Nat) :
    pairCols block ref = lay ref.length (insSeg block) (baseCol block ref) := by
  unfold pairCols lay pre
  rw [List.range_succ, List.flatMap_append, List.flatMap_singleton]
  refine congr (congrArg _ (flatMap_congr _ _ _ fun p hp => ?_)) ?_
  · have hp' := List.mem_range.1 hp
    simp [colsAt, baseCol, List.getD_eq_getElem?_getD, hp']
  · simp [colsAt]

theorem mem_pairCols (block : List SamRec) (ref : List Nat) (c : Nat × Nat) (hc : c ∈ pairCols block ref) :
    (∃ p, c ∈ insSeg block p) ∨ ∃ p, p < ref.length ∧ c = baseCol block ref p := by
  rw [specCols_lay] at hc
  exact (Layout.mem_lay _ _ _ c hc).imp (fun ⟨p, _, h⟩ => ⟨p, h⟩) id

theorem insSeg_fst (block : List SamRec) (p : Nat) (c : Nat × Nat) (hc : c ∈ insSeg block p) : c.1 = dash := by
  obtain ⟨x, _, hcx⟩ := List.mem_flatMap.1 hc
  obtain ⟨b, _, rfl⟩ := List.mem_map.1 hcx
  rfl

theorem baseCol_ne_dash (block : List SamRec) (ref : List Nat) (hnd : NoDash ref) (p : Nat) : (baseCol block ref p).1 ≠ dash := by
  show ref.getD p 0 ≠ dash
  rw [List.getD_eq_getElem?_getD]
  cases h : ref[p]? with
  | none => decide
  | some b => exact hnd b (List.mem_of_getElem? h)

theorem filter_pairCols (block : List SamRec) (ref : List Nat) (hnd : NoDash ref) :
    (pairCols block ref).filter (fun c => c.1 != dash) = (List.range ref.length).map (baseCol block ref) := by
  rw [specCols_lay]
  exact filter_lay _ _ _ _ (fun p _ c hc => by rw [insSeg_fst block p c hc]; rfl)
    fun p _ => bne_iff_ne.2 (baseCol_ne_dash block ref hnd p)

/-- **C02** — for every block of records: removing '-' from the specified reference row gives exactly
the reference -/
theorem specPair_lossless (block : List SamRec) (ref : List Nat) (hnd : NoDash ref) :
    degap (specPair block ref).1 = ref := by
  rw [specPair_eq, degap, List.filter_map]
  show ((pairCols block ref).filter (fun c => c.1 != dash)).map (·.1) = ref
  rw [filter_pairCols block ref hnd, List.map_map]
  exact (take_eq_map ref 0 ref.length (Nat.le_refl _)).symm.trans (List.take_length)

theorem keepRefCols_pairCols (block : List SamRec) (ref : List Nat) (hnd : NoDash ref) :
    (((pairCols block ref).filter fun c => c.1 != dash).map (·.2)) = (List.range ref.length).map fun p => (flatCol block p).getD letN := by
  rw [filter_pairCols block ref hnd, List.map_map]
  rfl

/-- **C02** — for every block: deleting the reference-gap columns from the specified query row
gives exactly the `toMultiAlign --pad` row of the same query -/
theorem specPair_skip_insertions (block : List SamRec) (ref : List Nat) (hnd : NoDash ref) :
    keepRefCols (specPair block ref).1 (specPair block ref).2 = specTomaRow block ref.length true := by
  rw [specPair_eq, keepRefCols, ← List.zip_of_prod rfl rfl, keepRefCols_pairCols block ref hnd]
  unfold specTomaRow
  rw [zip_map_range]
  apply List.map_congr_left
  intro i _
  cases flatCol block i <;> rfl

end Gofasta.Lemmas.PairSpec
