import Gofasta.Model.Updown
import Gofasta.Lemmas.ListFacts
/-
The round-robin fill of `balance` (updown topranking) for all naturals. Every fact about the loop is one invariant
under `fillLoop_rule`. From these: the closed form of `balance` (`balance_form`), from which the facts about single bins
are arithmetic, and the sum it reaches (`balance_total`).
-/
namespace Gofasta.Lemmas
open Gofasta Model

theorem getD_set (l : List Nat) (i j v : Nat) :
    (l.set i v).getD j 0 = if i = j ∧ i < l.length then v else l.getD j 0 := by
  simp only [List.getD_eq_getElem?_getD, List.getElem?_set]
  by_cases h : i = j
  · subst h
    by_cases hl : i < l.length
    · simp [hl]
    · simp [hl]
  · simp [h]

theorem sum_set (l : List Nat) (i v : Nat) (h : i < l.length) : (l.set i v).sum + l.getD i 0 = l.sum + v := by
  simpa using posSum_set (F := fun _ L => L.sum) (g := fun _ x => x) (fun _ _ _ => List.sum_cons)
    (show l[i]? = some (l.getD i 0) by simp [List.getD_eq_getElem?_getD, h]) v 0

/-! ### four bins are four numbers

A statement about all bins is four statements, and a sum over the bins is a sum of four numbers: with the lemmas
below the arithmetic of `balance` needs no case split on the bin. -/

theorem list4 (l : List Nat) (h : l.length = 4) : ∃ a b c d, l = [a, b, c, d] := by
  match l, h with
  | [a, b, c, d], _ => exact ⟨a, b, c, d, rfl⟩

theorem forall_lt4 {P : Nat → Prop} : (∀ k < 4, P k) ↔ P 0 ∧ P 1 ∧ P 2 ∧ P 3 := by
  refine ⟨fun h => ⟨h 0 (by omega), h 1 (by omega), h 2 (by omega), h 3 (by omega)⟩, fun h k hk => ?_⟩
  obtain rfl | rfl | rfl | rfl : k = 0 ∨ k = 1 ∨ k = 2 ∨ k = 3 := by omega
  · exact h.1
  · exact h.2.1
  · exact h.2.2.1
  · exact h.2.2.2

theorem sum4_eq (l : List Nat) (h : l.length = 4) : l.sum = l.getD 0 0 + l.getD 1 0 + l.getD 2 0 + l.getD 3 0 := by
  obtain ⟨a, b, c, d, rfl⟩ := list4 l h
  simp; omega

theorem sum_map_range4 (f : Nat → Nat) : ((List.range 4).map f).sum = f 0 + f 1 + f 2 + f 3 := by
  simp [List.range, List.range.loop]; omega

theorem sum4_from (l : List Nat) (h : l.length = 4) (i : Nat) (hi : i < 4) :
    l.sum = l.getD i 0 + l.getD ((i + 1) % 4) 0 + l.getD ((i + 2) % 4) 0 + l.getD ((i + 3) % 4) 0 := by
  obtain ⟨a, b, c, d, rfl⟩ := list4 l h
  obtain rfl | rfl | rfl | rfl : i = 0 ∨ i = 1 ∨ i = 2 ∨ i = 3 := by omega
  all_goals simp only [List.sum_cons, List.sum_nil, List.getD_cons_zero, List.getD_cons_succ, Nat.reduceAdd, Nat.reduceMod]
  all_goals omega

theorem sum4_le {f g : Nat → Nat} (hle : ∀ k < 4, f k ≤ g k) : f 0 + f 1 + f 2 + f 3 ≤ g 0 + g 1 + g 2 + g 3 := by
  rw [forall_lt4] at hle
  omega

theorem sum4_lt {f g : Nat → Nat} (hle : ∀ k < 4, f k ≤ g k) (k : Nat) (hk : k < 4) (hlt : f k < g k) :
    f 0 + f 1 + f 2 + f 3 < g 0 + g 1 + g 2 + g 3 := by
  rw [forall_lt4] at hle
  obtain rfl | rfl | rfl | rfl : k = 0 ∨ k = 1 ∨ k = 2 ∨ k = 3 := by omega
  all_goals omega

theorem le_sum4 (f : Nat → Nat) (k : Nat) (hk : k < 4) : f k ≤ f 0 + f 1 + f 2 + f 3 := by
  have hk' : k = 0 ∨ k = 1 ∨ k = 2 ∨ k = 3 := by omega
  rcases hk' with rfl | rfl | rfl | rfl <;> omega

theorem two_le_sum4 (f : Nat → Nat) (a b : Nat) (ha : a < 4) (hb : b < 4) (hab : a ≠ b) :
    f a + f b ≤ f 0 + f 1 + f 2 + f 3 := by
  have ha' : a = 0 ∨ a = 1 ∨ a = 2 ∨ a = 3 := by omega
  have hb' : b = 0 ∨ b = 1 ∨ b = 2 ∨ b = 3 := by omega
  rcases ha' with rfl | rfl | rfl | rfl <;> rcases hb' with rfl | rfl | rfl | rfl <;> omega

/-- bin k: if it has spare candidates (obs > ideal) then size + avail = obs and size ≥ ideal; otherwise it holds
exactly its supply and has nothing to give -/
def BinInv (o d s a : Nat) : Prop := (o > d → s + a = o ∧ d ≤ s) ∧ (o ≤ d → s = o ∧ a = 0)

-- `n` is 4 wherever this is used: `fillLoop` steps `% 4`
structure FillInv (n : Nat) (obs ideal size avail : List Nat) : Prop where
  ls : size.length = n
  la : avail.length = n
  bins : ∀ k < n, BinInv (obs.getD k 0) (ideal.getD k 0) (size.getD k 0) (avail.getD k 0)

def turn (obs ideal size avail : List Nat) (i : Nat) : List Nat × List Nat :=
  if obs.getD i 0 > ideal.getD i 0 ∧ avail.getD i 0 > 0 then
    (size.set i (size.getD i 0 + 1), avail.set i (avail.getD i 0 - 1))
  else (size, avail)

theorem fillLoop_succ (fuel total : Nat) (size avail obs ideal : List Nat) (i : Nat) :
    fillLoop (fuel + 1) total size avail obs ideal i =
      if avail.sum = 0 then size
      else if (turn obs ideal size avail i).1.sum = total then (turn obs ideal size avail i).1
      else fillLoop fuel total (turn obs ideal size avail i).1 (turn obs ideal size avail i).2 obs ideal ((i + 1) % 4) := by
  simp only [fillLoop, turn]
  split
  · rfl
  · split <;> rfl

/-- the loop rule: `I` holds of the fuel and the loop variables at the head of every iteration, `Q` of what is returned -/
theorem fillLoop_rule {obs ideal : List Nat} {total : Nat} (I : Nat → List Nat → List Nat → Nat → Prop)
    (Q : List Nat → Prop) (h0 : ∀ size avail i, I 0 size avail i → Q size)
    (hstop : ∀ f size avail i, I (f + 1) size avail i → avail.sum = 0 → Q size)
    (hturn : ∀ f size avail i, I (f + 1) size avail i → avail.sum ≠ 0 →
      ((turn obs ideal size avail i).1.sum = total → Q (turn obs ideal size avail i).1) ∧
      ((turn obs ideal size avail i).1.sum ≠ total →
        I f (turn obs ideal size avail i).1 (turn obs ideal size avail i).2 ((i + 1) % 4))) :
    ∀ fuel size avail i, I fuel size avail i → Q (fillLoop fuel total size avail obs ideal i) := by
  intro fuel
  induction fuel with
  | zero => exact h0
  | succ f ih =>
    intro size avail i h
    rw [fillLoop_succ]
    split
    · exact hstop f size avail i h ‹_›
    · split
      · exact (hturn f size avail i h ‹_›).1 ‹_›
      · exact ih _ _ _ ((hturn f size avail i h ‹_›).2 ‹_›)

theorem fillInv_turn (n : Nat) (obs ideal size avail : List Nat) (i : Nat) (h : FillInv n obs ideal size avail) :
    FillInv n obs ideal (turn obs ideal size avail i).1 (turn obs ideal size avail i).2 := by
  unfold turn
  split
  · refine ⟨by simp [h.ls], by simp [h.la], ?_⟩
    intro k hk
    have hb := h.bins k hk
    simp only [getD_set]
    by_cases hik : i = k
    · subst hik
      have h1 : i < size.length := by rw [h.ls]; exact hk
      have h2 : i < avail.length := by rw [h.la]; exact hk
      simp only [h1, h2, and_self, if_true]
      unfold BinInv at hb ⊢
      omega
    · simp only [hik, false_and, if_false]
      exact hb
  · exact h

theorem turn_sum_le (obs ideal size avail : List Nat) (i : Nat) : (turn obs ideal size avail i).1.sum ≤ size.sum + 1 := by
  unfold turn
  split <;> dsimp only
  · by_cases hi : i < size.length
    · have := sum_set size i (size.getD i 0 + 1) hi
      omega
    · rw [List.set_eq_of_length_le (by omega)]; omega
  · omega

theorem turn_getD_ge (obs ideal size avail : List Nat) (i k : Nat) :
    size.getD k 0 ≤ (turn obs ideal size avail i).1.getD k 0 := by
  unfold turn
  split <;> dsimp only
  · rw [getD_set]; split
    · rename_i h; rw [← h.1]; omega
    · exact Nat.le_refl _
  · exact Nat.le_refl _

theorem fillLoop_inv (n : Nat) (obs ideal : List Nat) (total : Nat) : ∀ (fuel : Nat) (size avail : List Nat) (i : Nat),
    FillInv n obs ideal size avail →
    ∃ avail', FillInv n obs ideal (fillLoop fuel total size avail obs ideal i) avail' :=
  fillLoop_rule (fun _ size avail _ => FillInv n obs ideal size avail) (fun r => ∃ avail', FillInv n obs ideal r avail')
    (fun _ avail _ h => ⟨avail, h⟩) (fun _ _ avail _ h _ => ⟨avail, h⟩)
    (fun _ size avail i h _ => ⟨fun _ => ⟨_, fillInv_turn n obs ideal size avail i h⟩, fun _ => fillInv_turn n obs ideal size avail i h⟩)

/-- the sum never passes the total: it is checked after every single increment -/
theorem fillLoop_sum_le (obs ideal : List Nat) (total : Nat) : ∀ (fuel : Nat) (size avail : List Nat) (i : Nat),
    size.sum < total → (fillLoop fuel total size avail obs ideal i).sum ≤ total :=
  fillLoop_rule (fun _ size _ _ => size.sum < total) (fun r => r.sum ≤ total)
    (fun _ _ _ h => Nat.le_of_lt h) (fun _ _ _ _ h _ => Nat.le_of_lt h)
    (fun _ size avail i h _ => by have := turn_sum_le obs ideal size avail i; omega)

theorem fillLoop_mono (obs ideal : List Nat) (total : Nat) : ∀ (fuel : Nat) (size avail : List Nat) (i k : Nat),
    size.getD k 0 ≤ (fillLoop fuel total size avail obs ideal i).getD k 0 := by
  intro fuel size avail i k
  refine fillLoop_rule (fun _ s _ _ => size.getD k 0 ≤ s.getD k 0) (fun r => size.getD k 0 ≤ r.getD k 0)
    (fun _ _ _ h => h) (fun _ _ _ _ h _ => h) ?_ fuel size avail i (Nat.le_refl _)
  intro _ s a j h _
  have := Nat.le_trans h (turn_getD_ge obs ideal s a j k)
  exact ⟨fun _ => this, fun _ => this⟩

/-! ### the fuel suffices: four bins served in turn -/

def turnsToSpare (avail : List Nat) (i : Nat) : Nat :=
  if avail.getD i 0 > 0 then 0 else if avail.getD ((i + 1) % 4) 0 > 0 then 1
  else if avail.getD ((i + 2) % 4) 0 > 0 then 2 else 3

theorem turnsToSpare_le (avail : List Nat) (i : Nat) : turnsToSpare avail i ≤ 3 := by
  unfold turnsToSpare; split; omega; split; omega; split <;> omega

theorem turnsToSpare_step (avail : List Nat) (i : Nat) (h4 : avail.length = 4) (hi : i < 4)
    (h0 : avail.getD i 0 = 0) (hs : avail.sum > 0) :
    turnsToSpare avail ((i + 1) % 4) + 1 = turnsToSpare avail i := by
  have e1 : ((i + 1) % 4 + 1) % 4 = (i + 2) % 4 := by omega
  have e2 : ((i + 1) % 4 + 2) % 4 = (i + 3) % 4 := by omega
  have := sum4_from avail h4 i hi
  simp only [turnsToSpare, e1, e2, h0, Nat.lt_irrefl, if_false]
  -- both sides look at bins i+1, i+2, i+3 in turn, and one of them has a spare candidate
  repeat' split
  all_goals omega

/-- a turn lowers the measure 4·(spare candidates) + (turns to the next bin with spare ones) -/
theorem turn_measure (obs ideal size avail : List Nat) (i : Nat) (h : FillInv 4 obs ideal size avail) (hi : i < 4)
    (hnz : avail.sum ≠ 0) :
    4 * (turn obs ideal size avail i).2.sum + turnsToSpare (turn obs ideal size avail i).2 ((i + 1) % 4) <
      4 * avail.sum + turnsToSpare avail i := by
  unfold turn
  split <;> dsimp only
  · have hs := sum_set avail i (avail.getD i 0 - 1) (by rw [h.la]; exact hi)
    have ht := turnsToSpare_le (avail.set i (avail.getD i 0 - 1)) ((i + 1) % 4)
    omega
  · have ha0 : avail.getD i 0 = 0 := by
      have hb := h.bins i hi
      unfold BinInv at hb
      omega
    have hst := turnsToSpare_step avail i h.la hi ha0 (by omega)
    omega

/-- the loop stops only because the total is reached or because no bin has a spare candidate left: then every bin
holds its whole supply -/
theorem fillLoop_complete (obs ideal : List Nat) (total : Nat) : ∀ (fuel : Nat) (size avail : List Nat) (i : Nat),
    FillInv 4 obs ideal size avail → i < 4 → 4 * avail.sum + turnsToSpare avail i < fuel →
    (fillLoop fuel total size avail obs ideal i).sum = total ∨
    (∀ k < 4, (fillLoop fuel total size avail obs ideal i).getD k 0 = obs.getD k 0) := by
  intro fuel size avail i h hi hf
  refine fillLoop_rule
    (fun f s a j => FillInv 4 obs ideal s a ∧ j < 4 ∧ 4 * a.sum + turnsToSpare a j < f)
    (fun r => r.sum = total ∨ ∀ k < 4, r.getD k 0 = obs.getD k 0) ?_ ?_ ?_ fuel size avail i ⟨h, hi, hf⟩
  · intro _ _ _ h; omega
  · intro _ s a _ ⟨h, _⟩ hz
    right
    intro k hk
    have hb := h.bins k hk
    have hak : a.getD k 0 = 0 := by have := getD_le_sum a k; omega
    unfold BinInv at hb
    omega
  · intro f s a j ⟨h, hj, hf⟩ hnz
    refine ⟨Or.inl, fun _ => ⟨fillInv_turn 4 obs ideal s a j h, Nat.mod_lt _ (by omega), ?_⟩⟩
    have := turn_measure obs ideal s a j h hj hnz
    omega

/-! ### evenly: the shortfall is handed out one candidate per bin per round -/

/-- after ρ full rounds and with bins 0..i-1 already served in the current one, a bin with spare candidates has
received min(rounds it was served in, what it could give) -/
def EvenInv (obs ideal size : List Nat) (i ρ : Nat) : Prop :=
  ∀ k < 4, obs.getD k 0 > ideal.getD k 0 →
    size.getD k 0 - ideal.getD k 0 = min (if k < i then ρ + 1 else ρ) (obs.getD k 0 - ideal.getD k 0)

theorem evenInv_next (obs ideal size : List Nat) (i ρ : Nat) (hi : i < 4) (h : EvenInv obs ideal size (i + 1) ρ) :
    ∃ ρ', EvenInv obs ideal size ((i + 1) % 4) ρ' := by
  by_cases h3 : i = 3
  · subst h3
    refine ⟨ρ + 1, fun k hk ho => ?_⟩
    have := h k hk ho
    rw [if_pos (by omega)] at this
    rw [if_neg (by omega)]
    exact this
  · rw [Nat.mod_eq_of_lt (by omega)]; exact ⟨ρ, h⟩

theorem evenInv_turn (obs ideal size avail : List Nat) (i ρ : Nat) (h : FillInv 4 obs ideal size avail)
    (he : EvenInv obs ideal size i ρ) : EvenInv obs ideal (turn obs ideal size avail i).1 (i + 1) ρ := by
  intro k hk ho
  have hek := he k hk ho
  have hb := h.bins k hk
  unfold BinInv at hb
  by_cases hik : i = k
  · subst hik
    have h1 : i < size.length := by rw [h.ls]; exact hk
    simp only [Nat.lt_irrefl, if_false] at hek
    simp only [Nat.lt_succ_self, if_true]
    unfold turn
    split <;> dsimp only
    · rw [getD_set, if_pos ⟨rfl, h1⟩]
      omega
    · omega
  · have hsame : (turn obs ideal size avail i).1.getD k 0 = size.getD k 0 := by
      unfold turn
      split <;> dsimp only
      rw [getD_set, if_neg (fun h => hik h.1)]
    rw [hsame]
    by_cases hki : k < i
    · rw [if_pos (by omega : k < i + 1)]; rw [if_pos hki] at hek; exact hek
    · rw [if_neg (by omega : ¬ k < i + 1)]; rw [if_neg hki] at hek; exact hek

theorem fillLoop_even (obs ideal : List Nat) (total : Nat) : ∀ (fuel : Nat) (size avail : List Nat) (i ρ : Nat),
    FillInv 4 obs ideal size avail → i < 4 → EvenInv obs ideal size i ρ →
    ∃ i' ρ', EvenInv obs ideal (fillLoop fuel total size avail obs ideal i) i' ρ' := by
  intro fuel size avail i ρ h hi he
  refine fillLoop_rule (fun _ s a j => FillInv 4 obs ideal s a ∧ j < 4 ∧ ∃ ρ, EvenInv obs ideal s j ρ)
    (fun r => ∃ i' ρ', EvenInv obs ideal r i' ρ') ?_ ?_ ?_ fuel size avail i ⟨h, hi, ρ, he⟩
  · intro _ _ j ⟨_, _, ρ, he⟩; exact ⟨j, ρ, he⟩
  · intro _ _ _ j ⟨_, _, ρ, he⟩ _; exact ⟨j, ρ, he⟩
  · intro _ s a j ⟨h, hj, ρ, he⟩ _
    have he' := evenInv_turn obs ideal s a j ρ h he
    exact ⟨fun _ => ⟨j + 1, ρ, he'⟩,
      fun _ => ⟨fillInv_turn 4 obs ideal s a j h, Nat.mod_lt _ (by omega), evenInv_next obs ideal _ j ρ hj he'⟩⟩

/-! ### `balance`, for any total, requested sizes and supplies

Only `balance_length`, `size0_sum_lt` and `balance_total` ask for four requested sizes; a missing entry counts as 0. -/

def size0 (d o : List Nat) : List Nat := (List.range 4).map fun i => min (o.getD i 0) (d.getD i 0)
def avail0 (d o : List Nat) : List Nat := (List.range 4).map fun i => o.getD i 0 - d.getD i 0

theorem size0_getD (d o : List Nat) (k : Nat) (hk : k < 4) : (size0 d o).getD k 0 = min (o.getD k 0) (d.getD k 0) :=
  getD_map_range _ 4 k 0 hk

theorem fillInv0 (d o : List Nat) : FillInv 4 o d (size0 d o) (avail0 d o) := by
  refine ⟨by simp [size0], by simp [avail0], ?_⟩
  intro k hk
  unfold BinInv
  rw [size0_getD d o k hk, avail0, getD_map_range _ 4 k 0 hk]
  omega

theorem evenInv0 (d o : List Nat) : EvenInv o d (size0 d o) 0 0 := by
  intro k hk ho
  rw [size0_getD d o k hk]
  simp only [Nat.not_lt_zero, if_false]
  omega

/-- `balance` with its two tests written out, by unfolding alone. Trap: deciding a test first and then closing
`balance … = fillLoop …` by `rfl` makes the kernel run the loop on symbolic fuel. -/
theorem balance_eq (T : Nat) (d o : List Nat) (nofill : Bool) :
    balance T d o nofill =
      if ((List.range 4).all fun i => o.getD i 0 ≥ d.getD i 0) = true then d
      else if nofill = true then size0 d o
      else fillLoop (4 * (avail0 d o).sum + 8) T (size0 d o) (avail0 d o) o d 0 := rfl

theorem enough_iff (d o : List Nat) :
    ((List.range 4).all fun i => o.getD i 0 ≥ d.getD i 0) = true ↔ ∀ k < 4, d.getD k 0 ≤ o.getD k 0 := by
  simp only [List.all_eq_true, List.mem_range, decide_eq_true_eq, ge_iff_le]

theorem balance_enough (T : Nat) (d o : List Nat) (nofill : Bool) (h : ∀ k < 4, d.getD k 0 ≤ o.getD k 0) :
    balance T d o nofill = d := by
  rw [balance_eq, if_pos ((enough_iff d o).2 h)]

theorem balance_short (T : Nat) (d o : List Nat) (nofill : Bool) (h : ¬ ∀ k < 4, d.getD k 0 ≤ o.getD k 0) :
    balance T d o nofill = if nofill = true then size0 d o
      else fillLoop (4 * (avail0 d o).sum + 8) T (size0 d o) (avail0 d o) o d 0 := by
  rw [balance_eq, if_neg (mt (enough_iff d o).1 h)]

theorem balance_length (T : Nat) (d o : List Nat) (nofill : Bool) (hd : d.length = 4) :
    (balance T d o nofill).length = 4 := by
  by_cases h : ∀ k < 4, d.getD k 0 ≤ o.getD k 0
  · rw [balance_enough T d o nofill h, hd]
  · rw [balance_short T d o nofill h]
    split
    · simp [size0]
    · obtain ⟨a, ha⟩ := fillLoop_inv 4 o d T (4 * (avail0 d o).sum + 8) _ _ 0 (fillInv0 d o)
      exact ha.ls

theorem fill_form {o d r a : List Nat} {i ρ : Nat} (h : FillInv 4 o d r a) (he : EvenInv o d r i ρ) (k : Nat) (hk : k < 4) :
    r.getD k 0 = min (o.getD k 0) (d.getD k 0) + min (if k < i then ρ + 1 else ρ) (o.getD k 0 - d.getD k 0) := by
  have hb := h.bins k hk
  have hek := he k hk
  unfold BinInv at hb
  by_cases hod : o.getD k 0 ≤ d.getD k 0
  · rw [Nat.min_eq_left hod, Nat.sub_eq_zero_of_le hod, Nat.min_zero]
    exact (hb.2 hod).1
  · rw [Nat.min_eq_right (Nat.le_of_not_le hod)]
    have := hek (Nat.lt_of_not_le hod)
    omega

/-- **the closed form of `balance`**: min(requested, supply) per bin plus a level fill of the spare candidates,
the level being one higher on the bins before `i`; no fill at all with --no-fill. What follows about single bins is
arithmetic on this form; use it by rewriting and the one-bin lemmas below, `omega` is slow on the whole of it. -/
theorem balance_form (T : Nat) (d o : List Nat) (nofill : Bool) :
    ∃ i ρ, (nofill = true → i = 0 ∧ ρ = 0) ∧ ∀ k < 4, (balance T d o nofill).getD k 0 =
      min (o.getD k 0) (d.getD k 0) + min (if k < i then ρ + 1 else ρ) (o.getD k 0 - d.getD k 0) := by
  by_cases h : ∀ k < 4, d.getD k 0 ≤ o.getD k 0
  · refine ⟨0, 0, fun _ => ⟨rfl, rfl⟩, fun k hk => ?_⟩
    have := h k hk
    rw [balance_enough T d o nofill h, if_neg (Nat.not_lt_zero k)]
    omega
  · rw [balance_short T d o nofill h]
    cases nofill with
    | true =>
      refine ⟨0, 0, fun _ => ⟨rfl, rfl⟩, fun k hk => ?_⟩
      rw [if_pos rfl, size0_getD d o k hk, if_neg (Nat.not_lt_zero k)]
      omega
    | false =>
      rw [if_neg Bool.false_ne_true]
      obtain ⟨a, hf⟩ := fillLoop_inv 4 o d T (4 * (avail0 d o).sum + 8) _ _ 0 (fillInv0 d o)
      obtain ⟨i, ρ, he⟩ := fillLoop_even o d T (4 * (avail0 d o).sum + 8) _ _ 0 0 (fillInv0 d o) (by omega) (evenInv0 d o)
      exact ⟨i, ρ, fun hn => (nomatch hn), fill_form hf he⟩

/- `balance_bounds` and `balance_nofill` are known to the C08 check as `Gofasta.Lemmas.TopRankingSpec.*`; hence the
prefix. -/
theorem TopRankingSpec.balance_bounds (T : Nat) (d o : List Nat) (nofill : Bool) : ∀ k < 4,
    min (o.getD k 0) (d.getD k 0) ≤ (balance T d o nofill).getD k 0 ∧ (balance T d o nofill).getD k 0 ≤ o.getD k 0 := by
  intro k hk
  obtain ⟨i, ρ, -, hf⟩ := balance_form T d o nofill
  have := hf k hk
  omega

theorem TopRankingSpec.balance_nofill (T : Nat) (d o : List Nat) : ∀ k < 4,
    (balance T d o true).getD k 0 = min (o.getD k 0) (d.getD k 0) := by
  intro k hk
  obtain ⟨i, ρ, h0, hf⟩ := balance_form T d o true
  obtain ⟨rfl, rfl⟩ := h0 rfl
  have := hf k hk
  rw [if_neg (Nat.not_lt_zero k)] at this
  omega

theorem form_extra (o d f r : Nat) (h : r = min o d + min f (o - d)) :
    r - min o d ≤ f ∧ (r < o → r - min o d = f) := by
  subst h
  rw [Nat.add_sub_cancel_left]
  omega

theorem level_le (i ρ a b : Nat) :
    (if b < i then ρ + 1 else ρ) ≤ (if a < i then ρ + 1 else ρ) + 1 ∧
    (b ≤ a ∨ (if b < i then ρ + 1 else ρ) ≤ (if a < i then ρ + 1 else ρ)) := by
  split <;> split <;> omega

/-- evenness, said of the extras over the start of the fill: a bin `a` that still holds less than its supply has
received at most one candidate less than any bin, and no fewer than any later bin -/
theorem balance_extras (T : Nat) (d o : List Nat) (nofill : Bool) (a b : Nat) (ha : a < 4) (hb : b < 4) (hra : (balance T d o nofill).getD a 0 < o.getD a 0) :
    (balance T d o nofill).getD b 0 - min (o.getD b 0) (d.getD b 0) ≤
      (balance T d o nofill).getD a 0 - min (o.getD a 0) (d.getD a 0) + 1 ∧
    (b ≤ a ∨ (balance T d o nofill).getD b 0 - min (o.getD b 0) (d.getD b 0) ≤
      (balance T d o nofill).getD a 0 - min (o.getD a 0) (d.getD a 0)) := by
  obtain ⟨i, ρ, -, hf⟩ := balance_form T d o nofill
  have eb := (form_extra _ _ _ _ (hf b hb)).1
  rw [(form_extra _ _ _ _ (hf a ha)).2 hra]
  have hl := level_le i ρ a b
  exact ⟨Nat.le_trans eb hl.1, hl.2.imp id (Nat.le_trans eb)⟩

/-- `fillLoop_sum_le` and `fillLoop_complete` for the call `balance` makes; of the `+ 8` in its fuel, 4 would do
(`turnsToSpare ≤ 3`) -/
theorem balance_fill (T : Nat) (d o : List Nat) (h : ¬ ∀ k < 4, d.getD k 0 ≤ o.getD k 0) :
    ((size0 d o).sum < T → (balance T d o false).sum ≤ T) ∧
    ((balance T d o false).sum = T ∨ ∀ k < 4, (balance T d o false).getD k 0 = o.getD k 0) := by
  rw [balance_short T d o false h, if_neg Bool.false_ne_true]
  refine ⟨fun hlt => fillLoop_sum_le o d T _ _ _ 0 hlt, ?_⟩
  apply fillLoop_complete o d T _ _ _ 0 (fillInv0 d o) (by omega)
  have := turnsToSpare_le (avail0 d o) 0
  omega

theorem size0_sum_lt (d o : List Nat) (hd : d.length = 4) (h : ¬ ∀ k < 4, d.getD k 0 ≤ o.getD k 0) :
    (size0 d o).sum < d.sum := by
  have ⟨k, hk⟩ := Classical.not_forall.1 h
  have ⟨hk4, hko⟩ := Classical.not_imp.1 hk
  rw [sum4_eq d hd, size0, sum_map_range4]
  exact sum4_lt (f := fun k => min (o.getD k 0) (d.getD k 0)) (g := fun k => d.getD k 0)
    (fun _ _ => Nat.min_le_right _ _) k hk4 (Nat.lt_of_le_of_lt (Nat.min_le_left _ _) (Nat.lt_of_not_le hko))

/-- `T` is `totalOf sizes` at the use (`TopRankingSpec.size_facts`): the sum of the requests, or 2^31 − 1 when a size is
"unlimited", and then the whole supply is below it: the second case of `hT'` -/
theorem balance_total (T : Nat) (d o : List Nat) (nofill : Bool) (hd : d.length = 4) (hT : T ≤ d.sum)
    (hT' : d.sum = T ∨ o.getD 0 0 + o.getD 1 0 + o.getD 2 0 + o.getD 3 0 < T) :
    (balance T d o nofill).sum ≤ T ∧ (nofill = false →
      (balance T d o nofill).sum = min T (o.getD 0 0 + o.getD 1 0 + o.getD 2 0 + o.getD 3 0)) := by
  by_cases h : ∀ k < 4, d.getD k 0 ≤ o.getD k 0
  · have := sum4_le h
    rw [balance_enough T d o nofill h]
    rw [sum4_eq d hd] at hT hT' ⊢
    omega
  · have hlt : (size0 d o).sum < T := by
      rcases hT' with e | e
      · exact e ▸ size0_sum_lt d o hd h
      · rw [size0, sum_map_range4]
        exact Nat.lt_of_le_of_lt (sum4_le (f := fun k => min (o.getD k 0) (d.getD k 0)) (g := fun k => o.getD k 0)
          fun _ _ => Nat.min_le_left _ _) e
    cases nofill with
    | true => rw [balance_short T d o true h, if_pos rfl]; exact ⟨Nat.le_of_lt hlt, fun hn => nomatch hn⟩
    | false =>
      obtain ⟨hle, hfull⟩ := balance_fill T d o h
      refine ⟨hle hlt, fun _ => ?_⟩
      have hle := hle hlt
      have hb := sum4_le fun k hk => (TopRankingSpec.balance_bounds T d o false k hk).2
      rw [sum4_eq _ (balance_length T d o false hd)] at hle hfull ⊢
      rw [forall_lt4] at hfull
      omega

/-- `balance` without --no-fill, requested sizes d summing to the total, supplies o:
every bin gets at least min(requested, available) and never more than its supply; the total is never exceeded;
and the shortfall is made up until the total is reached or every bin holds its whole supply -/
theorem balance_fill_spec (d0 d1 d2 d3 o0 o1 o2 o3 : Nat) :
    let d := [d0, d1, d2, d3]
    let o := [o0, o1, o2, o3]
    let r := balance d.sum d o false
    (∀ k < 4, min (o.getD k 0) (d.getD k 0) ≤ r.getD k 0 ∧ r.getD k 0 ≤ o.getD k 0) ∧
    r.sum ≤ d.sum ∧ (r.sum = d.sum ∨ ∀ k < 4, r.getD k 0 = o.getD k 0) := by
  intro d o r
  refine ⟨TopRankingSpec.balance_bounds d.sum d o false, ?_⟩
  by_cases h : ∀ k < 4, d.getD k 0 ≤ o.getD k 0
  · have hr : r = d := balance_enough d.sum d o false h
    rw [hr]
    exact ⟨Nat.le_refl _, Or.inl rfl⟩
  · have hf := balance_fill d.sum d o h
    exact ⟨hf.1 (size0_sum_lt d o rfl h), hf.2⟩

/-- non-vacuity: 12 requested as 3+3+3+3, supplies 1, 9, 0, 4: the shortfall of 5 goes to the bins with spare, in turn -/
example : balance 12 [3, 3, 3, 3] [1, 9, 0, 4] false = [1, 7, 0, 4] := by decide

/-- the shortfall is made up evenly: of two bins with spare candidates, one that has not
given everything it could has received at most one candidate less than the other (d = requested, o = supply,
r = result; additions are r − d). The first hypothesis (some bin is short of its request) is not used. -/
theorem balance_even (d0 d1 d2 d3 o0 o1 o2 o3 total : Nat) :
    let d := [d0, d1, d2, d3]
    let o := [o0, o1, o2, o3]
    let r := balance total d o false
    ¬ ((List.range 4).all fun i => o.getD i 0 ≥ d.getD i 0) = true →
    ∀ j < 4, ∀ k < 4, o.getD j 0 > d.getD j 0 → o.getD k 0 > d.getD k 0 → r.getD k 0 < o.getD k 0 →
      r.getD j 0 - d.getD j 0 ≤ r.getD k 0 - d.getD k 0 + 1 := by
  intro d o r _ j hj k hk hoj hok hrk
  have := (balance_extras total d o false k j hk hj hrk).1
  rwa [Nat.min_eq_right (Nat.le_of_lt hoj), Nat.min_eq_right (Nat.le_of_lt hok)] at this

end Gofasta.Lemmas
