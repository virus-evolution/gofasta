import Gofasta.Gen.Facts
import Gofasta.Model.Pipeline
/-
C19 — a failed output write is never reported as success (partial).
Proved: (1) on the call-site facts regenerated from the Go source by go/ast on this run, every output write
in the fifteen writer functions has its error checked and propagated; (2) for ANY run (any sequence of calls
made at checked sites, any length) and ANY fault point k within the run, the writer (`Model.Writer`, Model/Pipeline) reports it.
That the error then reaches main's return on every schedule is proved for the models of the writer goroutines: Lemmas/Sink
(the failing destination, linked to `Model.Writer` by `sink_eq_reportsFailure`), Lemmas/SchedFaultWriter, SchedAggWriter,
SchedFaults* (pipelines) and Lemmas/FanoutFaults (closest, topranking).
Observed, not proved: that the Go functions deliver that error to their callers and to the exit status —
the fault-enumeration stream drives the real entry points with a writer failing at every k.
-/
namespace Gofasta.Props.C19
open Gofasta Model

/-- the writer functions the property anchors -/
def expectedWriters : List String :=
  ["closest.writeClosest", "closest.writeClosestN", "closest.writeClosestNTable", "fastaio.WriteAlignment",
   "fastaio.WriteWrapAlignment", "sam.writePairwiseAlignment", "snps.writeOutput", "snps.aggregateWriteOutput",
   "updown.writeOutput", "updown.writeUpDownCatchment", "updown.writeUpdownTable", "variants.WriteVariants",
   "variants.AggregateWriteVariants", "sam.writeInsMap", "sam.writeDelMap"]

/-- **C19.writers_present** — each of them was found in the source and writes somewhere -/
theorem writers_present :
    expectedWriters.all (fun w => Gen.writerSites.any fun f => f.1 == w && !f.2.isEmpty) = true := by decide +kernel

/-- **C19.sites_checked** — every write call site of every writer checks and propagates its error -/
theorem sites_checked : Gen.writerSites.all (fun f => f.2.all (·.2)) = true := by decide

/-- **C19.generic** — if every call of a run is made at a checked site, then a destination that fails from the
k-th call on is always reported, for every run length and every fault point within the run; stated for a run that starts
at call number i + 1, which is what the induction over the calls needs -/
theorem generic : ∀ (calls : List Bool) (k i : Nat), (∀ c ∈ calls, c = true) → i + 1 ≤ k → k ≤ i + calls.length →
    Writer.run calls k i = true := by
  intro calls
  induction calls with
  | nil => intro k i _ h1 h2; simp at h2; omega
  | cons c rest ih =>
    intro k i hall h1 h2
    have hc : c = true := hall c (by simp)
    simp only [Writer.run, hc, and_true]
    by_cases hk : i + 1 ≥ k
    · simp [hk]
    · simp only [hk, if_false]
      apply ih k (i + 1) (fun x hx => hall x (by simp [hx])) (by omega)
      simp only [List.length_cons] at h2; omega

/-- `generic` for a whole run (1 ≤ k ≤ number of calls); `Lemmas/Sink.sink_eq_reportsFailure` ties `Sink` to this -/
theorem reports_every_fault (calls : List Bool) (k : Nat) (hall : ∀ c ∈ calls, c = true) (h1 : 1 ≤ k) (h2 : k ≤ calls.length) :
    Writer.reportsFailure calls k = true :=
  generic calls k 0 hall (by omega) (by omega)

/-- and the hypothesis is needed: one unchecked site is enough to lose a failure of the last call -/
theorem unchecked_loses : Writer.reportsFailure [true, true, false] 3 = false := by decide

/-- non-vacuity: header + two rows, fault at the second row -/
example : Writer.reportsFailure [true, true, true] 3 = true ∧ (∀ c ∈ [true, true, true], c = true) := by
  constructor <;> simp [Writer.reportsFailure, Writer.run]

end Gofasta.Props.C19
