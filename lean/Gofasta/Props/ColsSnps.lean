import Gofasta.Gen.ColsSnps
import Gofasta.Model.Snps
/-
Code of pkg/snps regenerated from the Go source on every run by the go/ast translator `cols.go` (harness) into
`Gen/ColsSnps.lean` (the method is described in Props/ColsClosest): the condition under which `getSNPs` reports a
column. The theorems below say, for ALL natural numbers, that it is the model's test and that the model's row is built
with it; a change of the condition in the source changes the generated definition and breaks an obligation here.
-/
namespace Gofasta.Props.Cols
open Gofasta Gofasta.Model Gofasta.Gen.Cols

theorem snps_append (r q : Nat) : snps_getSNPs r q = [encDiffer r q] := by
  simp [snps_getSNPs, encDiffer]

theorem snpsRowEnc_cons (i r q : Nat) (rs qs : List Nat) :
    snpsRowEnc i (r :: rs) (q :: qs) =
      (if (snps_getSNPs r q).getD 0 false then [(i + 1, dec r, dec q)] else []) ++ snpsRowEnc (i + 1) rs qs := by
  rw [snps_append]; simp only [snpsRowEnc, List.getD_cons_zero]
  by_cases h : encDiffer r q = true <;> simp [h]

end Gofasta.Props.Cols
