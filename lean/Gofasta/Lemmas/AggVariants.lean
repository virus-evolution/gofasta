import Gofasta.Lemmas.AggOrder
import Gofasta.Lemmas.VariantsOrder
/-
C12 for `variants --aggregate`: the aggregate table does not depend on the order in which the per-sequence
variant lists reach the aggregating writer (`variants_aggregate_any_order`; over the model's own lists, without the
hypothesis on ties, `variants_aggregate_model_deterministic`).  The latter needs what a record of `getVariantsPair` can
be (`mem_getVariantsPair`) and that the printed form of a record gives back its fields (`rep_fields`); C13 for the same
writer (`Lemmas/AggCount`) rests on these too, and on `getAAsPair_pos` (the position of an amino-acid record does not
depend on the query), which is proved here for it alone.
-/
namespace Gofasta.Lemmas.AggVariants
open Gofasta Model

abbrev VEntry := AggKey × Nat

theorem aggInsert_eq_ins : aggInsert = ins (κ := AggKey) := by
  funext k m
  induction m with
  | nil => rfl
  | cons e t ih => simp only [aggInsert, ins, ih]

def aggKeyOf (appendSnp : Bool) (v : Variant) : AggKey := ⟨{ v with snps := "" }, formatVariant appendSnp v⟩

/-- all the keys counted by `variantsAggregate`, in arrival order -/
def aggKeys (appendSnp : Bool) (start stop : Int) (refID : String) (rows : List (String × List Variant)) : List AggKey :=
  (rows.filter fun r => r.1 != refID).flatMap fun r => (r.2.filter (inWindow start stop)).map (aggKeyOf appendSnp)

def aggCounts (appendSnp : Bool) (start stop : Int) (refID : String) (rows : List (String × List Variant)) : List VEntry :=
  insAll (aggKeys appendSnp start stop refID rows) []

def aggVariants (start stop : Int) (refID : String) (rows : List (String × List Variant)) : List Variant :=
  (rows.filter fun r => r.1 != refID).flatMap fun r => r.2.filter (inWindow start stop)

theorem aggKeys_eq_map (a : Bool) (s e : Int) (refID : String) (rows : List (String × List Variant)) :
    aggKeys a s e refID rows = (aggVariants s e refID rows).map (aggKeyOf a) := by
  unfold aggKeys aggVariants
  rw [List.map_flatMap]

theorem counts_fold (a : Bool) (s e : Int) : ∀ (qrows : List (String × List Variant)) (m : List VEntry),
    qrows.foldl (fun m r => (r.2.filter (inWindow s e)).foldl (fun m v =>
      aggInsert { v := { v with snps := "" }, rep := formatVariant a v } m) m) m =
    insAll (qrows.flatMap fun r => (r.2.filter (inWindow s e)).map (aggKeyOf a)) m := by
  intro qrows m
  rw [insAll, List.foldl_flatMap, aggInsert_eq_ins]
  simp only [List.foldl_map, aggKeyOf]

theorem variantsAggregate_eq (a : Bool) (s e : Int) (n d : Nat) (refID : String) (rows : List (String × List Variant)) :
    variantsAggregate a s e n d refID rows =
      "mutation,frequency\n" ++ String.join (((sortStable aggLt (aggCounts a s e refID rows)).filter fun x =>
        x.2 * d ≥ n * (rows.filter fun r => r.1 != refID).length).map fun x =>
          x.1.rep ++ "," ++ fmt9 x.2 (rows.filter fun r => r.1 != refID).length ++ "\n") := by
  unfold variantsAggregate aggCounts aggKeys
  simp only []
  rw [counts_fold]

/-- `AggOrder.countAll_perm` (the snps counter) under a second name -/
theorem countAll_perm' (rows1 rows2 : List (List Snp)) (h : rows1.Perm rows2) : (countAll rows1).Perm (countAll rows2) :=
  AggOrder.countAll_perm rows1 rows2 h

/-- `aggLt` written with the combinator: the third level tests the query alleles as byte lists but orders them as
strings -/
theorem aggLt_eq : aggLt =
    lexLt (fun e => e.1.v.pos) (fun x y => decide (x < y)) (lexLt (fun e => e.1.v.kind.rank) (fun x y => decide (x < y))
      (lexLt (fun e => e.1.v.queAl) (fun x y => decide (bytesToString x < bytesToString y))
        fun a b => decide (a.1.rep < b.1.rep))) := by
  funext a b
  unfold aggLt lexLt
  rfl

/-- **`aggLt` is a strict partial order on all entries** (not a strict weak one, `aggLt_not_swo`: only "tied" fails to be
transitive). The third level is the string order pulled back along `bytesToString`, which need not be injective. -/
theorem aggLt_spo : SPO aggLt := by
  rw [aggLt_eq]
  exact lexLt_spo _ sto_int.spo (lexLt_spo _ sto_nat.spo
    (lexLt_spo _ (sto_string.spo.comap bytesToString) (sto_string.spo.comap fun e : VEntry => e.1.rep)))

theorem tied_aggLt_iff (a b : VEntry) : tied aggLt a b = true ↔
    a.1.v.pos = b.1.v.pos ∧ a.1.v.kind = b.1.v.kind ∧ bytesToString a.1.v.queAl = bytesToString b.1.v.queAl ∧
      (a.1.v.queAl = b.1.v.queAl → a.1.rep = b.1.rep) := by
  rw [aggLt_eq, tied_lexLt _ _ sto_int, tied_lexLt _ _ sto_nat, tied_lexLt_map _ bytesToString sto_string,
    tied_iff, sto_string.tied_iff]
  exact ⟨fun ⟨h1, h2, h3⟩ => ⟨h1, VariantsOrder.rank_inj _ _ h2, h3⟩, fun ⟨h1, h2, h3⟩ => ⟨h1, congrArg _ h2, h3⟩⟩

/-- the hypothesis about ties: two different counters that occur are never tied under `aggLt`
(the count plays no part in `aggLt`, so any count may be attached) -/
def Separated (ks : List AggKey) : Prop :=
  ∀ k1 ∈ ks, ∀ k2 ∈ ks, ∀ n1 n2 : Nat, tied aggLt (k1, n1) (k2, n2) = true → k1 = k2

theorem separated_iff (ks : List AggKey) : Separated ks ↔
    ∀ k1 ∈ ks, ∀ k2 ∈ ks, k1.v.pos = k2.v.pos → k1.v.kind = k2.v.kind →
      bytesToString k1.v.queAl = bytesToString k2.v.queAl → (k1.v.queAl = k2.v.queAl → k1.rep = k2.rep) → k1 = k2 := by
  unfold Separated
  constructor
  · intro h k1 h1 k2 h2 e1 e2 e3 e4
    exact h k1 h1 k2 h2 0 0 ((tied_aggLt_iff (k1, 0) (k2, 0)).2 ⟨e1, e2, e3, e4⟩)
  · intro h k1 h1 k2 h2 n1 n2 ht
    have := (tied_aggLt_iff (k1, n1) (k2, n2)).1 ht
    exact h k1 h1 k2 h2 this.1 this.2.1 this.2.2.1 this.2.2.2

theorem sorted_counts_any_order (a : Bool) (s e : Int) (refID : String) (rows1 rows2 : List (String × List Variant))
    (h : rows1.Perm rows2) (hsep : Separated (aggKeys a s e refID rows1)) :
    sortStable aggLt (aggCounts a s e refID rows1) = sortStable aggLt (aggCounts a s e refID rows2) :=
  sorted_insAll_any_order aggLt_spo _ _ (List.Perm.flatMap_right _ (h.filter _)) fun x hx y hy ht =>
    hsep x.1 ((mem_keys_insAll_nil x.1 _).1 (List.mem_map.2 ⟨x, hx, rfl⟩)) y.1
      ((mem_keys_insAll_nil y.1 _).1 (List.mem_map.2 ⟨y, hy, rfl⟩)) x.2 y.2 ht

/-- **C12 for `variants --aggregate`** — the whole table, bytes and all, is the same for every order in which the
per-sequence mutation lists reach the aggregating writer, provided two different counters that occur are never
tied under the sort key -/
theorem variants_aggregate_any_order (a : Bool) (s e : Int) (n d : Nat) (refID : String)
    (rows1 rows2 : List (String × List Variant)) (h : rows1.Perm rows2)
    (hsep : Separated (aggKeys a s e refID rows1)) :
    variantsAggregate a s e n d refID rows1 = variantsAggregate a s e n d refID rows2 := by
  rw [variantsAggregate_eq, variantsAggregate_eq, sorted_counts_any_order a s e refID rows1 rows2 h hsep,
    (h.filter _).length_eq]

/-! ### two counterexamples: `aggLt` is no strict weak order; the hypothesis on ties cannot be dropped -/

def cxA : VEntry := (⟨{ kind := .nuc, pos := 1, queAl := [0] }, "a"⟩, 1)
def cxB : VEntry := (⟨{ kind := .nuc, pos := 1, queAl := [55296] }, "a"⟩, 1)
def cxC : VEntry := (⟨{ kind := .nuc, pos := 1, queAl := [0] }, "b"⟩, 1)

/-- **`aggLt` itself is NOT a strict weak order on all entries**: it tests the query alleles as byte lists but
orders them as strings, and `bytesToString` is not injective (0 and the surrogate 55296 both print as the NUL
character). Here A is before C, yet B is tied with both. -/
theorem aggLt_not_swo : ¬ SWO aggLt := by
  intro h
  have := h.negtrans cxA cxC cxB (by decide +kernel)
  revert this
  decide +kernel

def cxV1 : Variant := { kind := .del, pos := 5, len := 1, feature := "x" }
def cxV2 : Variant := { kind := .del, pos := 5, len := 1, feature := "y" }
def cxRows1 : List (String × List Variant) := [("a", [cxV1]), ("b", [cxV2]), ("c", [cxV2])]
def cxRows2 : List (String × List Variant) := [("b", [cxV2]), ("a", [cxV1]), ("c", [cxV2])]

/-- **the tie hypothesis is needed for arbitrary `Variant` lists**: two records that differ only in a field that
neither the sort key nor the printed form shows (here `feature` of a deletion) are different counters, tied under
`aggLt`, and the two arrival orders print their lines (with different frequencies) in different order:
`del:5:1,0.333333333 / del:5:1,0.666666667` against `del:5:1,0.666666667 / del:5:1,0.333333333`. -/
theorem tie_hypothesis_needed : cxRows1.Perm cxRows2 ∧
    variantsAggregate false 0 0 0 1 "ref" cxRows1 ≠ variantsAggregate false 0 0 0 1 "ref" cxRows2 :=
  ⟨List.Perm.swap _ _ _, by decide +kernel⟩

/-- byte values that `Char.ofNat` keeps -/
def ValidBytes (l : List Nat) : Prop := ∀ x ∈ l, x.isValidChar

theorem bytesToString_inj (l1 l2 : List Nat) (h1 : ValidBytes l1) (h2 : ValidBytes l2)
    (h : bytesToString l1 = bytesToString l2) : l1 = l2 := by
  rw [← stringToBytes_bytesToString_valid l1 h1, ← stringToBytes_bytesToString_valid l2 h2, h]

end Gofasta.Lemmas.AggVariants

-- `AggCount.erase`: named in the statements of `Lemmas/AggCount`, defined here because `rep_fields` below is stated with it
namespace Gofasta.Lemmas.AggCount
open Gofasta Model

/-- what the counter key holds (`aggKeyOf_eq`) -/
def erase (v : Variant) : Variant := { v with snps := "" }

end Gofasta.Lemmas.AggCount

namespace Gofasta.Lemmas.AggVariants
open Gofasta Model AggCount

theorem aggKeyOf_eq (a : Bool) (v : Variant) : aggKeyOf a v = ⟨erase v, formatVariant a v⟩ := rfl

theorem erase_eq_iff (v1 v2 : Variant) : erase v1 = erase v2 ↔
    v1.kind = v2.kind ∧ v1.pos = v2.pos ∧ v1.len = v2.len ∧ v1.refAl = v2.refAl ∧ v1.queAl = v2.queAl ∧
      v1.feature = v2.feature ∧ v1.residue = v2.residue := by
  obtain ⟨k1, p1, l1, r1, q1, f1, e1, s1⟩ := v1
  obtain ⟨k2, p2, l2, r2, q2, f2, e2, s2⟩ := v2
  simp only [erase, Variant.mk.injEq, and_true]

/-! ### the records of the model's mutation lists, by origin -/

theorem dec_nd (e : Nat) : dec e < 256 ∧ (dec e < 48 ∨ 57 < dec e) := by
  simpa using dec_all (p := fun x => decide (x < 256) && (decide (x < 48) || decide (57 < x))) (by decide +kernel) (by decide) e

/-- one byte that is not a decimal digit: in the printed form it stands right after a decimal number (the residue
number; for a SNP, the position), and `digits_split` can cut the text there only if that byte ends the number -/
def AAByte (l : List Nat) : Prop := ∃ x, l = [x] ∧ x < 256 ∧ (x < 48 ∨ 57 < x)

theorem dictLookup_aabyte (c a : List Nat) (h : dictLookup c = some a) : AAByte a := by
  obtain ⟨x, y, z, rfl⟩ := dictLookup_eq_some h
  exact ⟨_, rfl, (stdAA_byte x y z).2⟩

theorem validBytes_byte (x : Nat) (h : x < 256) : ValidBytes [x] := by
  intro y hy
  rw [List.mem_singleton.1 hy]
  exact Or.inl (by omega)

/-- the SNP record of `getNucsPair` and `aaStep`, from the encoded symbols (the specification's is `Spec.nucRecord`) -/
def nucRec (p r x : Nat) : Variant := { kind := .nuc, pos := (p : Int), refAl := [dec r], queAl := [dec x] }

/-- the amino-acid record of `aaStep` -/
def aaRec (reg : Region) (c : Nat) (aa : List Nat) (p : Nat) (snps : List Variant) : Variant :=
  { kind := .aa, feature := reg.name, refAl := [reg.translation.getD c 0], queAl := aa,
    pos := (p : Int) - 2 * reg.strand, residue := c + 1, snps := joinWith ";" (snps.map fmtNuc) }

def IsNuc (v : Variant) : Prop := ∃ p r x, v = nucRec p r x

def IsAA (reg : Region) (bound : Nat) (v : Variant) : Prop :=
  ∃ c aa p snps, AAByte aa ∧ c < bound ∧ v = aaRec reg c aa p snps

theorem isNuc_kind (v : Variant) (h : IsNuc v) : v.kind = .nuc := by
  obtain ⟨_, _, _, rfl⟩ := h; rfl

theorem not_aa_of_isNuc (v : Variant) (h : IsNuc v) (k : v.kind = .aa) : False := by
  rw [isNuc_kind v h] at k; cases k

theorem isAA_kind (reg : Region) (b : Nat) (v : Variant) (h : IsAA reg b v) : v.kind = .aa := by
  obtain ⟨_, _, _, _, _, _, rfl⟩ := h; rfl

theorem isAA_feature (reg : Region) (b : Nat) (v : Variant) (h : IsAA reg b v) : v.feature = reg.name := by
  obtain ⟨_, _, _, _, _, _, rfl⟩ := h; rfl

theorem isAA_residue (reg : Region) (b : Nat) (v : Variant) (h : IsAA reg b v) : v.residue ≤ b := by
  obtain ⟨c, _, _, _, _, hc, rfl⟩ := h
  exact hc

theorem isAA_mono (reg : Region) (b b' : Nat) (hb : b ≤ b') (v : Variant) (h : IsAA reg b v) : IsAA reg b' v := by
  obtain ⟨c, aa, p, sn, h1, h2, h3⟩ := h
  exact ⟨c, aa, p, sn, h1, by omega, h3⟩

theorem getNucsPair_isNuc (ref q cols inter : List Nat) : ∀ v ∈ getNucsPair ref q cols inter, IsNuc v := by
  intro v hv
  unfold getNucsPair at hv
  obtain ⟨p, _, hp⟩ := List.mem_filterMap.1 hv
  split at hp
  · simp only [] at hp
    split at hp
    · cases hp; exact ⟨_, _, _, rfl⟩
    · cases hp
  · cases hp

/-- one step of the amino-acid scan, for any rows and positions, and silent on which residue is called; `Lemmas/AACalls`
(`aaStep_midCodon`, `aaStep_scanFrom`) computes the same step exactly, under `OkRow` and `ValidPositions` -/
theorem aaStep_spec (ref q cols : List Nat) (reg : Region) (s : AAState) (p : Nat) :
    (cols[p - 1]? = none ∧ aaStep ref q cols reg s p = s) ∨
    (cols[p - 1]? ≠ none ∧ ∃ snps : List Variant, (∀ v ∈ snps, v ∈ s.codonSnps ∨ IsNuc v) ∧
      ((s.codon.length + 1 ≠ 3 ∧ ∃ codon, codon.length = s.codon.length + 1 ∧
          aaStep ref q cols reg s p = { s with codonSnps := snps, codon := codon }) ∨
       (s.codon.length + 1 = 3 ∧ ∃ l aa, AAByte aa ∧ (∀ v ∈ l, v ∈ snps ∨ v = aaRec reg s.aaCounter aa p snps) ∧
          aaStep ref q cols reg s p = { codonSnps := [], codon := [], aaCounter := s.aaCounter + 1, out := s.out ++ l }))) := by
  unfold aaStep
  split
  · rename_i h; exact Or.inl ⟨h, rfl⟩
  · rename_i c h
    simp only []
    generalize hsn : (if encDiffer (q.getD c 0) (ref.getD c 0) = true then
      s.codonSnps ++ [{ kind := .nuc, pos := (p : Int), refAl := [dec (ref.getD c 0)], queAl := [dec (q.getD c 0)] }]
      else s.codonSnps) = snps
    refine Or.inr ⟨by rw [h]; exact Option.some_ne_none c, snps, ?_, ?_⟩
    · intro v hv
      subst hsn
      split at hv
      · rcases List.mem_append.1 hv with hv | hv
        · exact Or.inl hv
        · exact Or.inr ⟨_, _, _, List.mem_singleton.1 hv⟩
      · exact Or.inl hv
    · by_cases hl : s.codon.length + 1 = 3
      · have hl' : (s.codon ++ [dec (q.getD c 0)]).length = 3 := by rw [List.length_append]; exact hl
        rw [if_pos hl']
        refine Or.inr ⟨hl, ?_⟩
        -- the amino acid is one byte, whether the codon is in the dictionary or not
        have emit : ∀ aa, AAByte aa → ∃ l aa', AAByte aa' ∧ (∀ v ∈ l, v ∈ snps ∨ v = aaRec reg s.aaCounter aa' p snps) ∧
            (if aa ≠ [reg.translation.getD s.aaCounter 0] ∧ aa ≠ [88] then
              ({ codonSnps := [], codon := [], aaCounter := s.aaCounter + 1,
                 out := s.out ++ [aaRec reg s.aaCounter aa p snps] } : AAState)
              else { codonSnps := [], codon := [], aaCounter := s.aaCounter + 1, out := s.out ++ snps }) =
            { codonSnps := [], codon := [], aaCounter := s.aaCounter + 1, out := s.out ++ l } := by
          intro aa haa
          by_cases hc : aa ≠ [reg.translation.getD s.aaCounter 0] ∧ aa ≠ [88]
          · rw [if_pos hc]
            exact ⟨_, aa, haa, fun v hv => Or.inr (List.mem_singleton.1 hv), rfl⟩
          · rw [if_neg hc]
            exact ⟨_, aa, haa, fun v hv => Or.inl hv, rfl⟩
        split
        · rename_i a ha
          exact emit a (dictLookup_aabyte _ a ha)
        · exact emit [88] ⟨88, rfl, by omega, by omega⟩
      · have hl' : ¬ (s.codon ++ [dec (q.getD c 0)]).length = 3 := by rw [List.length_append]; exact hl
        rw [if_neg hl']
        exact Or.inl ⟨hl, _, List.length_append, rfl⟩

section
variable {reg : Region} {s : AAState} {p : Nat} {snps l : List Variant} {aa : List Nat}
  (hcs : ∀ v ∈ s.codonSnps, IsNuc v) (hsn : ∀ v ∈ snps, v ∈ s.codonSnps ∨ IsNuc v)
  (hl : ∀ v ∈ l, v ∈ snps ∨ v = aaRec reg s.aaCounter aa p snps)
include hcs hsn hl

/-- what the third step of a codon writes (`l` of `aaStep_spec`): SNP records or the new amino-acid record -/
theorem written_aa : ∀ v ∈ l, IsNuc v ∨ v = aaRec reg s.aaCounter aa p snps :=
  fun v hv => (hl v hv).imp_left fun hm => (hsn v hm).elim (hcs v) id

theorem written_aa_new : ∀ v ∈ l, v.kind = .aa → v = aaRec reg s.aaCounter aa p snps :=
  fun v hv k => (written_aa hcs hsn hl v hv).resolve_left fun a => not_aa_of_isNuc v a k

end

/-- the invariant of one amino-acid scan: pending and written SNP records are SNP records, written amino-acid records
are records of this region numbered up to the counter, and no two of them carry the same residue number -/
structure ScanInv (reg : Region) (s : AAState) : Prop where
  cs : ∀ v ∈ s.codonSnps, IsNuc v
  out : ∀ v ∈ s.out, IsNuc v ∨ IsAA reg s.aaCounter v
  uniq : ∀ v1 ∈ s.out, ∀ v2 ∈ s.out, v1.kind = .aa → v2.kind = .aa → v1.residue = v2.residue → v1 = v2

theorem ScanInv.bound {reg : Region} {s : AAState} (h : ScanInv reg s) : ∀ v ∈ s.out, v.kind = .aa → v.residue ≤ s.aaCounter :=
  fun v hv k => (h.out v hv).elim (fun a => (not_aa_of_isNuc v a k).elim) (isAA_residue reg _ v)

theorem ScanInv.step (ref q cols : List Nat) {reg : Region} {s : AAState} (p : Nat) (h : ScanInv reg s) :
    ScanInv reg (aaStep ref q cols reg s p) := by
  rcases aaStep_spec ref q cols reg s p with ⟨_, hr⟩ | ⟨_, snps, hsn, hcase⟩
  · rw [hr]; exact h
  · rcases hcase with ⟨_, codon, _, hr⟩ | ⟨_, l, aa, haa, hl, hr⟩
    · rw [hr]; exact ⟨fun v hv => (hsn v hv).elim (h.cs v) id, h.out, h.uniq⟩
    · rw [hr]
      have hl' := written_aa h.cs hsn hl
      have new := written_aa_new h.cs hsn hl
      have hne : ∀ v ∈ s.out, v.kind = .aa → v.residue ≠ (aaRec reg s.aaCounter aa p snps).residue := by
        intro v hv k
        have := h.bound v hv k
        show v.residue ≠ s.aaCounter + 1
        omega
      refine ⟨fun v hv => (by cases hv), fun v hv => ?_, fun v1 hv1 v2 hv2 k1 k2 hres => ?_⟩
      · rcases List.mem_append.1 hv with hv | hv
        · exact (h.out v hv).imp_right (isAA_mono reg _ _ (Nat.le_succ _) v)
        · exact (hl' v hv).imp_right fun e => ⟨s.aaCounter, aa, p, snps, haa, Nat.lt_succ_self _, e⟩
      · rcases List.mem_append.1 hv1 with m1 | m1 <;> rcases List.mem_append.1 hv2 with m2 | m2
        · exact h.uniq v1 m1 v2 m2 k1 k2 hres
        · rw [new v2 m2 k2] at hres
          exact absurd hres (hne v1 m1 k1)
        · rw [new v1 m1 k1] at hres
          exact absurd hres.symm (hne v2 m2 k2)
        · rw [new v1 m1 k1, new v2 m2 k2]

theorem ScanInv.fold (ref q cols : List Nat) {reg : Region} : ∀ (ps : List Nat) {s : AAState}, ScanInv reg s →
    ScanInv reg (ps.foldl (aaStep ref q cols reg) s)
  | [], _, h => h
  | p :: t, _, h => ScanInv.fold ref q cols t (h.step ref q cols p)

theorem ScanInv.init (reg : Region) : ScanInv reg {} :=
  ⟨fun _ hv => (by cases hv), fun _ hv => (by cases hv), fun _ hv => (by cases hv)⟩

theorem getAAsPair_scanInv (ref q cols : List Nat) (reg : Region) :
    ScanInv reg (reg.positions.foldl (aaStep ref q cols reg) {}) :=
  (ScanInv.init reg).fold ref q cols reg.positions

/-- two scans of one region over the same reference, for two queries, run in step: same counter, same codon fill, and
amino-acid records with the same residue number sit at the same position -/
structure InStep (s1 s2 : AAState) : Prop where
  counter : s1.aaCounter = s2.aaCounter
  len : s1.codon.length = s2.codon.length
  pos : ∀ v1 ∈ s1.out, ∀ v2 ∈ s2.out, v1.kind = .aa → v2.kind = .aa → v1.residue = v2.residue → v1.pos = v2.pos

theorem InStep.step (ref q1 q2 cols : List Nat) {reg : Region} {s1 s2 : AAState} (p : Nat)
    (j1 : ScanInv reg s1) (j2 : ScanInv reg s2) (h : InStep s1 s2) :
    InStep (aaStep ref q1 cols reg s1 p) (aaStep ref q2 cols reg s2 p) := by
  rcases aaStep_spec ref q1 cols reg s1 p with ⟨n1, hr1⟩ | ⟨e1, snps1, hsn1, hcase1⟩ <;>
    rcases aaStep_spec ref q2 cols reg s2 p with ⟨n2, hr2⟩ | ⟨e2, snps2, hsn2, hcase2⟩
  · rw [hr1, hr2]; exact h
  · exact absurd n1 e2
  · exact absurd n2 e1
  · have hlen := h.len
    have hcnt := h.counter
    rcases hcase1 with ⟨g1, cd1, l1, hr1⟩ | ⟨g1, l1, aa1, _, hl1, hr1⟩ <;>
      rcases hcase2 with ⟨g2, cd2, l2, hr2⟩ | ⟨g2, l2, aa2, _, hl2, hr2⟩
    · rw [hr1, hr2]
      exact ⟨hcnt, (l1.trans (congrArg (· + 1) hlen)).trans l2.symm, h.pos⟩
    · omega
    · omega
    · rw [hr1, hr2]
      refine ⟨congrArg (· + 1) hcnt, rfl, fun v1 hv1 v2 hv2 k1 k2 hres => ?_⟩
      -- a new amino-acid record carries the next residue number and sits at `p - 2 * strand`
      have new1 := written_aa_new j1.cs hsn1 hl1
      have new2 := written_aa_new j2.cs hsn2 hl2
      rcases List.mem_append.1 hv1 with m1 | m1 <;> rcases List.mem_append.1 hv2 with m2 | m2
      · exact h.pos v1 m1 v2 m2 k1 k2 hres
      · have := j1.bound v1 m1 k1
        rw [new2 v2 m2 k2] at hres
        have : v1.residue = s2.aaCounter + 1 := hres
        omega
      · have := j2.bound v2 m2 k2
        rw [new1 v1 m1 k1] at hres
        have : s1.aaCounter + 1 = v2.residue := hres
        omega
      · rw [new1 v1 m1 k1, new2 v2 m2 k2]
        rfl

theorem InStep.fold (ref q1 q2 cols : List Nat) {reg : Region} : ∀ (ps : List Nat) {s1 s2 : AAState},
    ScanInv reg s1 → ScanInv reg s2 → InStep s1 s2 →
    InStep (ps.foldl (aaStep ref q1 cols reg) s1) (ps.foldl (aaStep ref q2 cols reg) s2)
  | [], _, _, _, _, h => h
  | p :: t, _, _, j1, j2, h =>
    InStep.fold ref q1 q2 cols t (j1.step ref q1 cols p) (j2.step ref q2 cols p) (h.step ref q1 q2 cols p j1 j2)

theorem getAAsPair_pos (ref q1 q2 cols : List Nat) (reg : Region) :
    ∀ v1 ∈ getAAsPair ref q1 cols reg, ∀ v2 ∈ getAAsPair ref q2 cols reg, v1.kind = .aa → v2.kind = .aa →
      v1.residue = v2.residue → v1.pos = v2.pos :=
  (InStep.fold ref q1 q2 cols reg.positions (ScanInv.init reg) (ScanInv.init reg)
    ⟨rfl, rfl, fun _ hv => (by cases hv)⟩).pos

theorem mem_getVariantsPair (ref q : List Nat) (regions : List Region) (inter : List Nat) :
    ∀ v ∈ getVariantsPair ref q regions inter, VariantsOrder.IndelShape v ∨ IsNuc v ∨
      ∃ reg ∈ regions, v ∈ getAAsPair ref q (refCols ref) reg ∧ ∃ b, IsAA reg b v := by
  intro v hv
  rcases ((mem_getVariantsPair_iff ref q regions inter v).1 hv).1 with h | h | ⟨reg, hreg, h⟩
  · exact Or.inl (VariantsOrder.getIndelsPair_shape ref q v h)
  · exact Or.inr (Or.inl (getNucsPair_isNuc ref q _ inter v h))
  · rcases (getAAsPair_scanInv ref q _ reg).out v h with a | b
    · exact Or.inr (Or.inl a)
    · exact Or.inr (Or.inr ⟨reg, hreg, h, _, b⟩)

theorem origin_of_kind (ref q : List Nat) (regions : List Region) (inter : List Nat) :
    ∀ v ∈ getVariantsPair ref q regions inter,
      match v.kind with
      | .ins => ∃ x, v = VariantsOrder.mkIns x
      | .del => ∃ x, v = VariantsOrder.mkDel x
      | .nuc => IsNuc v
      | .aa => ∃ reg ∈ regions, v ∈ getAAsPair ref q (refCols ref) reg ∧ ∃ b, IsAA reg b v := by
  intro v hv
  rcases mem_getVariantsPair ref q regions inter v hv with ⟨x, rfl | rfl⟩ | h | ⟨reg, hr, hm, b, h⟩
  · exact ⟨x, rfl⟩
  · exact ⟨x, rfl⟩
  · rw [isNuc_kind v h]; exact h
  · rw [isAA_kind reg b v h]; exact ⟨reg, hr, hm, b, h⟩

/-- the rows that reach the aggregating writer: one mutation list per record of the alignment -/
def modelRows (ref : List Nat) (regions : List Region) (inter : List Nat) (recs : List (String × List Nat)) :
    List (String × List Variant) := recs.map fun r => (r.1, getVariantsPair ref r.2 regions inter)

theorem mem_aggVariants_model {s e : Int} {refID : String} {ref : List Nat} {regions : List Region} {inter : List Nat}
    {recs : List (String × List Nat)} {v : Variant} (h : v ∈ aggVariants s e refID (modelRows ref regions inter recs)) :
    ∃ q, v ∈ getVariantsPair ref q regions inter := by
  obtain ⟨r, hr, hv⟩ := List.mem_flatMap.1 h
  obtain ⟨x, _, rfl⟩ := List.mem_map.1 (List.mem_filter.1 hr).1
  exact ⟨x.2, (List.mem_filter.1 hv).1⟩

/-! ### the printed form of a record can be read back -/

theorem split_at_first {α : Type} (p : α → Bool) (l1 l2 : List α) (c1 c2 : α) (r1 r2 : List α)
    (h1 : ∀ x ∈ l1, p x = true) (h2 : ∀ x ∈ l2, p x = true) (n1 : p c1 = false) (n2 : p c2 = false)
    (h : l1 ++ c1 :: r1 = l2 ++ c2 :: r2) : l1 = l2 ∧ c1 :: r1 = c2 :: r2 := by
  have e := congrArg (List.takeWhile p) h
  rw [takeWhile_append_stop p c1 r1 n1, takeWhile_append_stop p c2 r2 n2, takeWhile_all p l1 h1, takeWhile_all p l2 h2] at e
  subst e
  exact ⟨rfl, List.append_cancel_left h⟩

theorem toDigits_inj (n m : Nat) (h : Nat.toDigits 10 n = Nat.toDigits 10 m) : n = m := by
  rw [← Nat.ofDigitChars_ten_toDigits (n := n), ← Nat.ofDigitChars_ten_toDigits (n := m), h]

theorem digits_split (n m : Nat) (c1 c2 : Char) (t1 t2 : List Char) (h1 : c1.isDigit = false) (h2 : c2.isDigit = false)
    (h : Nat.toDigits 10 n ++ c1 :: t1 = Nat.toDigits 10 m ++ c2 :: t2) : n = m ∧ c1 = c2 ∧ t1 = t2 := by
  have dig : ∀ k, ∀ c ∈ Nat.toDigits 10 k, c.isDigit = true :=
    fun _ c hc => Nat.isDigit_of_mem_toDigits (by omega) (by omega) hc
  obtain ⟨e1, e2⟩ := split_at_first Char.isDigit _ _ c1 c2 t1 t2 (dig n) (dig m) h1 h2 h
  simp only [List.cons.injEq] at e2
  exact ⟨toDigits_inj n m e1, e2.1, e2.2⟩

theorem isDigit_ofNat_false (x : Nat) (h1 : x < 256) (h2 : x < 48 ∨ 57 < x) : (Char.ofNat x).isDigit = false := by
  have := toNat_ofNat_valid x (Or.inl (by omega))
  unfold Char.toNat at this
  simp only [Char.isDigit, UInt32.le_iff_toNat_le, this, Bool.and_eq_false_iff, decide_eq_false_iff_not, ge_iff_le]
  have e1 : '0'.val.toNat = 48 := by decide
  have e2 : '9'.val.toNat = 57 := by decide
  rw [e1, e2]
  omega

theorem ofNat_inj_valid (x y : Nat) (hx : x.isValidChar) (hy : y.isValidChar) (h : Char.ofNat x = Char.ofNat y) : x = y := by
  rw [← toNat_ofNat_valid x hx, ← toNat_ofNat_valid y hy, h]

theorem ofNat_inj_byte (x y : Nat) (hx : x < 256) (hy : y < 256) (h : Char.ofNat x = Char.ofNat y) : x = y :=
  ofNat_inj_valid x y (Or.inl (by omega)) (Or.inl (by omega)) h

theorem aaRec_format_toList (a : Bool) (g : Region) (c : Nat) (aa : List Nat) (p : Nat) (sn : List Variant) :
    (formatVariant a (aaRec g c aa p sn)).toList = 'a' :: 'a' :: ':' :: (g.name.toList ++ ':' ::
      Char.ofNat (g.translation.getD c 0) :: (Nat.toDigits 10 (c + 1) ++ (aa.map Char.ofNat ++
        (if a then "(" ++ joinWith ";" (sn.map fmtNuc) ++ ")" else "").toList))) := by
  have e1 : "aa:".toList = ['a', 'a', ':'] := by decide
  have e2 : ":".toList = [':'] := by decide
  simp only [formatVariant, aaRec, String.toList_append, bytesToString, String.toList_ofList, e1, e2,
    Nat.toString_eq_repr, Nat.toList_repr, List.append_assoc, List.cons_append, List.nil_append, List.map_cons, List.map_nil]

theorem aaRec_format_inj (a : Bool) (g1 g2 : Region) (c1 c2 : Nat) (aa1 aa2 : List Nat) (p1 p2 : Nat) (sn1 sn2 : List Variant)
    (n1 : ∀ c ∈ g1.name.toList, c ≠ ':') (n2 : ∀ c ∈ g2.name.toList, c ≠ ':') (h1 : AAByte aa1) (h2 : AAByte aa2)
    (h : formatVariant a (aaRec g1 c1 aa1 p1 sn1) = formatVariant a (aaRec g2 c2 aa2 p2 sn2)) :
    g1.name = g2.name ∧ c1 = c2 ∧ Char.ofNat (g1.translation.getD c1 0) = Char.ofNat (g2.translation.getD c2 0) ∧ aa1 = aa2 := by
  have h' := congrArg String.toList h
  rw [aaRec_format_toList, aaRec_format_toList] at h'
  simp only [List.cons.injEq, true_and] at h'
  obtain ⟨e1, e2⟩ := split_at_first (· != ':') _ _ ':' ':' _ _ (fun c hc => bne_iff_ne.2 (n1 c hc)) (fun c hc => bne_iff_ne.2 (n2 c hc))
    (bne_self_eq_false _) (bne_self_eq_false _) h'
  obtain ⟨z1, rfl, z11, z12⟩ := h1
  obtain ⟨z2, rfl, z21, z22⟩ := h2
  simp only [List.map_cons, List.map_nil, List.cons_append, List.nil_append, List.cons.injEq, true_and] at e2
  obtain ⟨a1, a2, _⟩ := digits_split _ _ _ _ _ _ (isDigit_ofNat_false z1 z11 z12) (isDigit_ofNat_false z2 z21 z22) e2.2
  exact ⟨String.toList_inj.1 e1, by omega, e2.1, by rw [ofNat_inj_byte z1 z2 z11 z21 a2]⟩

def kindChar : VKind → Char | .aa => 'a' | .del => 'd' | .ins => 'i' | .nuc => 'n'

theorem format_head (a : Bool) (v : Variant) : (formatVariant a v).toList.head? = some (kindChar v.kind) := by
  have e1 : "aa:".toList = ['a', 'a', ':'] := rfl
  have e2 : "del:".toList = ['d', 'e', 'l', ':'] := rfl
  have e3 : "ins:".toList = ['i', 'n', 's', ':'] := rfl
  have e4 : "nuc:".toList = ['n', 'u', 'c', ':'] := rfl
  cases hk : v.kind <;>
    simp only [formatVariant, fmtNuc, hk, String.toList_append, e1, e2, e3, e4, List.head?_cons,
      kindChar, List.cons_append]

theorem kind_of_format (a : Bool) (v1 v2 : Variant) (h : formatVariant a v1 = formatVariant a v2) : v1.kind = v2.kind := by
  have h1 := format_head a v1
  rw [h, format_head a v2] at h1
  simp only [Option.some.injEq] at h1
  revert h1
  cases v1.kind <;> cases v2.kind <;> simp [kindChar]

theorem toString_nat_toList (n : Nat) : (toString n).toList = Nat.toDigits 10 n := by
  simp [Nat.toString_eq_repr, Nat.toList_repr]

theorem toString_int_toList (n : Nat) : (toString (n : Int)).toList = Nat.toDigits 10 n :=
  toString_nat_toList n

theorem indel_format_inj (a : Bool) (x1 x2 : Nat × Nat) :
    (formatVariant a (VariantsOrder.mkIns x1) = formatVariant a (VariantsOrder.mkIns x2) → x1 = x2) ∧
    (formatVariant a (VariantsOrder.mkDel x1) = formatVariant a (VariantsOrder.mkDel x2) → x1 = x2) := by
  have e2 : "del:".toList = ['d', 'e', 'l', ':'] := rfl
  have e3 : "ins:".toList = ['i', 'n', 's', ':'] := rfl
  have e5 : ":".toList = [':'] := rfl
  have hc : ':'.isDigit = false := by decide
  constructor <;> intro h <;> have h' := congrArg String.toList h
  · simp only [formatVariant, VariantsOrder.mkIns, String.toList_append, toString_int_toList, toString_nat_toList, e3, e5,
      List.append_assoc, List.cons_append, List.nil_append, List.cons.injEq, true_and] at h'
    obtain ⟨a1, _, a3⟩ := digits_split _ _ _ _ _ _ hc hc h'
    exact Prod.ext a1 (toDigits_inj _ _ a3)
  · simp only [formatVariant, VariantsOrder.mkDel, String.toList_append, toString_int_toList, toString_nat_toList, e2, e5,
      List.append_assoc, List.cons_append, List.nil_append, List.cons.injEq, true_and] at h'
    obtain ⟨a1, _, a3⟩ := digits_split _ _ _ _ _ _ hc hc h'
    exact Prod.ext a1 (toDigits_inj _ _ a3)

theorem nuc_format_inj (a : Bool) (p1 r1 x1 p2 r2 x2 : Nat)
    (h : formatVariant a (nucRec p1 r1 x1) = formatVariant a (nucRec p2 r2 x2)) : nucRec p1 r1 x1 = nucRec p2 r2 x2 := by
  have e4 : "nuc:".toList = ['n', 'u', 'c', ':'] := rfl
  have h' := congrArg String.toList h
  simp only [formatVariant, nucRec, fmtNuc, bytesToString, String.toList_append, String.toList_ofList, toString_int_toList, e4,
    List.map_cons, List.map_nil, List.cons_append, List.nil_append, List.cons.injEq, true_and] at h'
  obtain ⟨hr, hrest⟩ := h'
  have n1 := dec_nd x1
  have n2 := dec_nd x2
  obtain ⟨a1, a2, _⟩ := digits_split _ _ _ _ _ _ (isDigit_ofNat_false _ n1.1 n1.2) (isDigit_ofNat_false _ n2.1 n2.2) hrest
  unfold nucRec
  rw [ofNat_inj_byte _ _ (dec_nd r1).1 (dec_nd r2).1 hr, ofNat_inj_byte _ _ n1.1 n2.1 a2, a1]

/-- the two conditions on the annotation: feature names contain no colon (the separator of the printed form), and
the values of a translation are ones `Char.ofNat` keeps (every byte is) -/
def RegionsOk (regions : List Region) : Prop :=
  ∀ reg ∈ regions, (∀ c ∈ reg.name.toList, c ≠ ':') ∧ ValidBytes reg.translation

theorem getD_valid (l : List Nat) (h : ValidBytes l) (k : Nat) : (l.getD k 0).isValidChar :=
  forall_getD h (Or.inl (by decide)) k

theorem queAl_valid (ref q : List Nat) (regions : List Region) (inter : List Nat) :
    ∀ v ∈ getVariantsPair ref q regions inter, ValidBytes v.queAl := by
  intro v hv
  rcases mem_getVariantsPair ref q regions inter v hv with
    ⟨x, rfl | rfl⟩ | ⟨p, r, x, rfl⟩ | ⟨reg, _, _, b, c, aa, p, sn, haa, _, rfl⟩
  · intro _ h; cases h
  · intro _ h; cases h
  · exact validBytes_byte _ (dec_nd x).1
  · obtain ⟨x, rfl, hx, _⟩ := haa
    exact validBytes_byte x hx

/-- two records of the mutation lists of two queries (same reference, same annotation, `RegionsOk`) that print the same
text agree in every field but `snps` — except that the text of an amino-acid record does not show its position -/
theorem rep_fields (a : Bool) (ref q1 q2 : List Nat) (regions : List Region) (inter : List Nat) (hreg : RegionsOk regions)
    (v1 v2 : Variant) (hv1 : v1 ∈ getVariantsPair ref q1 regions inter) (hv2 : v2 ∈ getVariantsPair ref q2 regions inter)
    (h : formatVariant a v1 = formatVariant a v2) :
    v1.kind = v2.kind ∧ v1.feature = v2.feature ∧ v1.residue = v2.residue ∧
      ((v1.kind = .aa → v1.pos = v2.pos) → erase v1 = erase v2) := by
  -- the text shows the kind, the kind tells the origin, and every origin's text can be read back
  have hk := kind_of_format a v1 v2 h
  have o1 := origin_of_kind ref q1 regions inter v1 hv1
  have o2 := origin_of_kind ref q2 regions inter v2 hv2
  rw [← hk] at o2
  refine ⟨hk, ?_⟩
  cases k : v1.kind <;> rw [k] at o1 o2
  · obtain ⟨g1, hg1, _, _, c1, aa1, p1, sn1, haa1, _, rfl⟩ := o1
    obtain ⟨g2, hg2, _, _, c2, aa2, p2, sn2, haa2, _, rfl⟩ := o2
    obtain ⟨en, rfl, et, rfl⟩ :=
      aaRec_format_inj a g1 g2 c1 c2 aa1 aa2 p1 p2 sn1 sn2 (hreg g1 hg1).1 (hreg g2 hg2).1 haa1 haa2 h
    have ht := ofNat_inj_valid _ _ (getD_valid _ (hreg g1 hg1).2 c1) (getD_valid _ (hreg g2 hg2).2 c1) et
    exact ⟨en, rfl, fun hp => (erase_eq_iff _ _).2 ⟨rfl, hp rfl, rfl, congrArg (fun t => [t]) ht, rfl, en, rfl⟩⟩
  · obtain ⟨x1, rfl⟩ := o1
    obtain ⟨x2, rfl⟩ := o2
    rw [(indel_format_inj a x1 x2).2 h]
    exact ⟨rfl, rfl, fun _ => rfl⟩
  · obtain ⟨x1, rfl⟩ := o1
    obtain ⟨x2, rfl⟩ := o2
    rw [(indel_format_inj a x1 x2).1 h]
    exact ⟨rfl, rfl, fun _ => rfl⟩
  · obtain ⟨p1, r1, x1, rfl⟩ := o1
    obtain ⟨p2, r2, x2, rfl⟩ := o2
    rw [nuc_format_inj a _ _ _ _ _ _ h]
    exact ⟨rfl, rfl, fun _ => rfl⟩

theorem separated_model (a : Bool) (s e : Int) (refID : String) (ref : List Nat) (regions : List Region)
    (inter : List Nat) (recs : List (String × List Nat)) (hreg : RegionsOk regions) :
    Separated (aggKeys a s e refID (modelRows ref regions inter recs)) := by
  rw [separated_iff, aggKeys_eq_map]
  intro k1 hk1 k2 hk2 hp _ hs hr
  obtain ⟨v1, hv1, rfl⟩ := List.mem_map.1 hk1
  obtain ⟨v2, hv2, rfl⟩ := List.mem_map.1 hk2
  obtain ⟨q1, m1⟩ := mem_aggVariants_model hv1
  obtain ⟨q2, m2⟩ := mem_aggVariants_model hv2
  -- tied records have the same query allele, hence the same text; the text gives every field but the position, and
  -- the position is the same because the records are tied
  have hf : formatVariant a v1 = formatVariant a v2 :=
    hr (bytesToString_inj _ _ (queAl_valid ref q1 regions inter v1 m1) (queAl_valid ref q2 regions inter v2 m2) hs)
  rw [aggKeyOf_eq, aggKeyOf_eq, (rep_fields a ref q1 q2 regions inter hreg v1 v2 m1 m2 hf).2.2.2 fun _ => hp, hf]

/-- **C12 for `variants --aggregate`, end to end over the model** — for every encoded reference row, every alignment
and every annotation whose feature names contain no colon and whose translations are characters (`RegionsOk`), the aggregate table
(which mutations, their frequencies, their order: the printed text) is the same for every order in which the
per-sequence mutation lists reach the aggregating writer. No assumption about ties: that different counters are
never tied is proved from the definitions of `formatVariant`, `AggKey` and the model's mutation lists. -/
theorem variants_aggregate_model_deterministic (a : Bool) (s e : Int) (n d : Nat) (refID : String)
    (ref : List Nat) (regions : List Region) (inter : List Nat) (recs1 recs2 : List (String × List Nat))
    (h : recs1.Perm recs2) (hreg : RegionsOk regions) :
    variantsAggregate a s e n d refID (modelRows ref regions inter recs1) =
      variantsAggregate a s e n d refID (modelRows ref regions inter recs2) :=
  variants_aggregate_any_order a s e n d refID _ _ (h.map _) (separated_model a s e refID ref regions inter recs1 hreg)

theorem variants_aggregate_model_any_order_no_regions (a : Bool) (s e : Int) (n d : Nat) (refID : String)
    (ref : List Nat) (inter : List Nat) (recs1 recs2 : List (String × List Nat)) (h : recs1.Perm recs2) :
    variantsAggregate a s e n d refID (modelRows ref [] inter recs1) =
      variantsAggregate a s e n d refID (modelRows ref [] inter recs2) :=
  variants_aggregate_model_deterministic a s e n d refID ref [] inter recs1 recs2 h (fun _ hr => (by cases hr))

end Gofasta.Lemmas.AggVariants
