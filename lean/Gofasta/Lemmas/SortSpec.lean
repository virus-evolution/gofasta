import Gofasta.Lemmas.TopK
/-
The stable sort of the models (`sortStable`, used wherever the Go code calls sort.SliceStable) is THE stable
sort: a permutation of its input, sorted, keeping tied elements in input order — and the only such list. Sortedness
and stability alone decide it: a sorted list is determined by its subsequences inside the classes of tied elements
(`sorted_classes_unique_on`), so two inputs are sorted alike exactly when they have the same classes
(`sortStable_eq_iff`). Then strict partial orders without ties between different elements, where the sorted
arrangement does not depend on the input order at all, and comparators that go through keys level by level (`lexLt`):
strict partial orders when the levels are, with ties that are read off level by level where the levels are strict
total orders (`STO`).

As in Lemmas/TopK, the statements relative to a predicate (`SWOOn P lt`, lists with `AllP P`) are in namespace
`Gofasta.Lemmas.ClosestOrder`, the statements for `SWO` in `Gofasta.Model`; where both exist the relative one
ends in `_on`, except `sorted_sortStable`, whose two forms have the same name in the two namespaces.
-/
namespace Gofasta.Model
variable {α : Type} {lt : α → α → Bool}

def tied (lt : α → α → Bool) (a b : α) : Bool := !lt a b && !lt b a

theorem tied_iff (a b : α) : tied lt a b = true ↔ lt a b = false ∧ lt b a = false := by
  simp [tied]

theorem tied_symm {a b : α} (h : tied lt a b = true) : tied lt b a = true := by
  rw [tied_iff] at *; exact ⟨h.2, h.1⟩

end Gofasta.Model

namespace Gofasta.Lemmas.ClosestOrder
open Gofasta.Model
variable {α : Type} {P : α → Prop} {lt : α → α → Bool}

theorem tied_self_on (hS : SWOOn P lt) {a : α} (ha : P a) : tied lt a a = true :=
  (tied_iff a a).2 ⟨hS.irrefl ha, hS.irrefl ha⟩

theorem tied_trans_on (hS : SWOOn P lt) {a b c : α} (ha : P a) (hb : P b) (hc : P c)
    (hab : tied lt a b = true) (hbc : tied lt b c = true) : tied lt a c = true := by
  rw [tied_iff] at *
  exact ⟨hS.not_lt_trans ha hb hc hab.1 hbc.1, hS.not_lt_trans hc hb ha hbc.2 hab.2⟩

theorem lt_of_sorted_cons_on (hS : SWOOn P lt) {x y : α} {t : List α} (hx : P x) (hl : AllP P (y :: t))
    (hs : Sorted lt (y :: t)) (hxy : lt x y = true) : ∀ z ∈ y :: t, lt x z = true := by
  intro z hz
  rcases List.mem_cons.1 hz with rfl | hz'
  · exact hxy
  · have hzy : lt z y = false := (sorted_cons.1 hs).1 z hz'
    rcases hS.negtrans x y z hx (hl y (by simp)) (hl z hz) hxy with h | h
    · exact h
    · rw [hzy] at h; cases h

/-- the step that carries stability: seen from the class of ties of any `z`, inserting `x` into a sorted list is
appending it at the end -/
theorem insSorted_filter_tied_on (hS : SWOOn P lt) (x z : α) (hx : P x) (hz : P z) : ∀ (l : List α), AllP P l →
    Sorted lt l → (insSorted lt x l).filter (tied lt z) = (l ++ [x]).filter (tied lt z) := by
  intro l
  induction l with
  | nil => intro _ _; rfl
  | cons y t ih =>
    intro hl hs
    simp only [insSorted]
    split
    next hxy =>
      by_cases hzx : tied lt z x = true
      · -- `x` goes in front of `y :: t`, all of which it is before: none of them is tied with `z`
        have hnone : (y :: t).filter (tied lt z) = [] := by
          rw [List.filter_eq_nil_iff]
          intro w hw hzw
          have hxw := lt_of_sorted_cons_on hS hx hl hs hxy w hw
          rw [((tied_iff x w).1 (tied_trans_on hS hx hz (hl w hw) (tied_symm hzx) hzw)).1] at hxw
          cases hxw
        rw [List.filter_cons, if_pos hzx, hnone, List.filter_append, hnone]
        simp [hzx]
      · rw [List.filter_cons, if_neg hzx, List.filter_append]
        simp [hzx]
    next =>
      simp only [List.cons_append, List.filter_cons]
      rw [ih (fun w hw => hl w (by simp [hw])) (sorted_cons.1 hs).2]

theorem sortStable_stable_on (hS : SWOOn P lt) (z : α) (hz : P z) (l : List α) (hl : AllP P l) :
    (sortStable lt l).filter (tied lt z) = l.filter (tied lt z) := by
  induction l using rev_ind with
  | nil => rfl
  | snoc l x ih =>
    rw [sortStable_append_singleton,
      insSorted_filter_tied_on hS x z (hl x (by simp)) hz _ (allP_sortStable hl.left) (sorted_sortStable hS l hl.left)]
    rw [List.filter_append, ih hl.left, List.filter_append]

theorem mem_of_classes_eq_on {P : α → Prop} (hS : SWOOn P lt) {l1 l2 : List α} (hP : AllP P l1)
    (hf : ∀ z, P z → l1.filter (tied lt z) = l2.filter (tied lt z)) {a : α} (ha : a ∈ l1) : a ∈ l2 :=
  (List.mem_filter.1 (hf a (hP a ha) ▸ List.mem_filter.2 ⟨ha, tied_self_on hS (hP a ha)⟩)).1

/-- that the two lists are permutations of each other need not be assumed: every element is in its own class -/
theorem sorted_classes_unique_on {P : α → Prop} (hS : SWOOn P lt) : ∀ (l1 l2 : List α), AllP P l1 → AllP P l2 →
    Sorted lt l1 → Sorted lt l2 → (∀ z, P z → l1.filter (tied lt z) = l2.filter (tied lt z)) → l1 = l2
  | [], [], _, _, _, _, _ => rfl
  | [], b :: _, _, h2, _, _, hf =>
    nomatch mem_of_classes_eq_on hS h2 (fun z hz => (hf z hz).symm) (List.mem_cons_self (a := b))
  | a :: _, [], h1, _, _, _, hf => nomatch mem_of_classes_eq_on hS h1 hf (List.mem_cons_self (a := a))
  | a :: t1, b :: t2, h1, h2, hs1, hs2, hf => by
    have hPa : P a := h1 a List.mem_cons_self
    have hPb : P b := h2 b List.mem_cons_self
    -- the two heads are tied: each is the head of one sorted list and a member of the other
    have hab : lt a b = false := by
      rcases List.mem_cons.1 (mem_of_classes_eq_on hS h1 hf (List.mem_cons_self (a := a))) with rfl | h
      · exact hS.irrefl hPa
      · exact (sorted_cons.1 hs2).1 a h
    have hba : lt b a = false := by
      rcases List.mem_cons.1 (mem_of_classes_eq_on hS h2 (fun z hz => (hf z hz).symm) (List.mem_cons_self (a := b))) with rfl | h
      · exact hS.irrefl hPb
      · exact (sorted_cons.1 hs1).1 b h
    -- so they are the first element of the same class on both sides
    have hfa := hf a hPa
    rw [List.filter_cons, if_pos (tied_self_on hS hPa), List.filter_cons,
      if_pos ((tied_iff a b).2 ⟨hab, hba⟩)] at hfa
    cases (List.cons.inj hfa).1
    congr 1
    refine sorted_classes_unique_on hS t1 t2 (fun w hw => h1 w (List.mem_cons_of_mem _ hw))
      (fun w hw => h2 w (List.mem_cons_of_mem _ hw)) (sorted_cons.1 hs1).2 (sorted_cons.1 hs2).2 fun z hz => ?_
    have := hf z hz
    simp only [List.filter_cons] at this
    split at this
    · exact (List.cons.inj this).2
    · exact this

theorem sortStable_of_classes_on (hS : SWOOn P lt) (l l' : List α) (hl : AllP P l) (hl' : AllP P l') (hs : Sorted lt l')
    (hst : ∀ z, P z → l'.filter (tied lt z) = l.filter (tied lt z)) : l' = sortStable lt l :=
  sorted_classes_unique_on hS l' (sortStable lt l) hl' (allP_sortStable hl) hs (sorted_sortStable hS l hl) fun z hz => by
    rw [hst z hz, sortStable_stable_on hS z hz l hl]

end Gofasta.Lemmas.ClosestOrder

namespace Gofasta.Model
open Gofasta.Lemmas.ClosestOrder
variable {α : Type} {lt : α → α → Bool}

theorem tied_self (hS : SWO lt) (a : α) : tied lt a a = true := tied_self_on (P := fun _ => True) (SWO.on hS) trivial

theorem sortStable_stable (hS : SWO lt) (z : α) (l : List α) : (sortStable lt l).filter (tied lt z) = l.filter (tied lt z) :=
  sortStable_stable_on (P := fun _ => True) (SWO.on hS) z trivial l fun _ _ => trivial

/-- `sorted_classes_unique_on` with a hypothesis it does not need: that the lists are permutations of each other
follows from the classes -/
theorem sorted_stable_unique (hS : SWO lt) : ∀ (l1 l2 : List α), l1.Perm l2 → Sorted lt l1 → Sorted lt l2 →
    (∀ z, l1.filter (tied lt z) = l2.filter (tied lt z)) → l1 = l2 :=
  fun l1 l2 _ hs1 hs2 hf => sorted_classes_unique_on (P := fun _ => True) (SWO.on hS) l1 l2 (fun _ _ => trivial)
    (fun _ _ => trivial) hs1 hs2 fun z _ => hf z

theorem sortStable_of_classes (hS : SWO lt) (l l' : List α) (hs : Sorted lt l')
    (hst : ∀ z, l'.filter (tied lt z) = l.filter (tied lt z)) : l' = sortStable lt l :=
  sortStable_of_classes_on (P := fun _ => True) (SWO.on hS) l l' (fun _ _ => trivial) (fun _ _ => trivial) hs
    fun z _ => hst z

theorem sortStable_eq_iff (hS : SWO lt) (l1 l2 : List α) :
    sortStable lt l1 = sortStable lt l2 ↔ ∀ z, l1.filter (tied lt z) = l2.filter (tied lt z) :=
  ⟨fun h z => by rw [← sortStable_stable hS z l1, h, sortStable_stable hS z l2],
   fun h => sortStable_of_classes hS l2 _ (sorted_sortStable hS l1) fun z => by rw [sortStable_stable hS z l1, h z]⟩

theorem sortStable_comm (hS : SWO lt) (F : List α → List α) (hsub : ∀ l, (F l).Sublist l)
    (hcl : ∀ z l, (F l).filter (tied lt z) = F (l.filter (tied lt z))) (l : List α) :
    F (sortStable lt l) = sortStable lt (F l) :=
  sortStable_of_classes hS _ _ ((sorted_sortStable hS l).sublist (hsub _)) fun z => by
    rw [hcl, hcl, sortStable_stable hS z l]

theorem filter_sortStable (hS : SWO lt) (p : α → Bool) (l : List α) :
    (sortStable lt l).filter p = sortStable lt (l.filter p) :=
  sortStable_comm hS (List.filter p) (fun _ => List.filter_sublist) (fun z l => Lemmas.filter_filter_comm p (tied lt z) l) l

theorem sortStable_partition (hS : SWO lt) (p : α → Bool) (hp : ∀ a b, tied lt a b = true → p a = p b) (l rest : List α) :
    sortStable lt (l ++ rest) = sortStable lt (l.filter p ++ l.filter (fun x => !p x) ++ rest) := by
  rw [sortStable_eq_iff hS]
  intro z
  -- the class of `z` lies on one side of the partition
  have side : ∀ (b : Bool), (l.filter fun x => p x == b).filter (tied lt z) = if p z = b then l.filter (tied lt z) else [] := by
    intro b
    split
    · rename_i hz
      rw [List.filter_filter]
      exact List.filter_congr fun x _ => by
        cases hx : tied lt z x
        · rfl
        · rw [← hp z x hx, hz]; simp
    · rename_i hz
      rw [List.filter_eq_nil_iff]
      intro x hx hzx
      exact hz ((hp z x hzx).trans (beq_iff_eq.1 (List.mem_filter.1 hx).2))
  have e1 : l.filter p = l.filter fun x => p x == true := List.filter_congr fun x _ => by simp
  have e2 : (l.filter fun x => !p x) = l.filter fun x => p x == false := List.filter_congr fun x _ => by simp
  rw [List.filter_append, List.filter_append, List.filter_append, e1, e2, side true, side false]
  cases p z <;> simp

/-- **the stable sort, characterised** — `sortStable lt l` is the one list that is a permutation of `l`, sorted
by `lt`, and keeps tied elements in input order. This is `sortStable_of_classes`; the permutation is not needed. -/
theorem sortStable_unique (hS : SWO lt) (l l' : List α) (hp : l'.Perm l) (hs : Sorted lt l')
    (hst : ∀ z, l'.filter (tied lt z) = l.filter (tied lt z)) : l' = sortStable lt l :=
  have _ := hp
  sortStable_of_classes hS l l' hs hst

end Gofasta.Model

/-! ### strict partial orders: without ties the sorted arrangement is unique -/

namespace Gofasta.Model
open Gofasta.Lemmas.ClosestOrder
variable {α β γ : Type}

structure SPO (lt : β → β → Bool) : Prop where
  asymm : ∀ a b, lt a b = true → lt b a = false
  trans : ∀ a b c, lt a b = true → lt b c = true → lt a c = true

theorem SPO.irrefl {lt : β → β → Bool} (h : SPO lt) (a : β) : lt a a = false := by
  cases e : lt a a
  · rfl
  · rw [h.asymm a a e] at e; cases e

theorem SPO.comap {lt : γ → γ → Bool} (h : SPO lt) (g : β → γ) : SPO (fun x y => lt (g x) (g y)) :=
  ⟨fun _ _ => h.asymm _ _, fun _ _ _ => h.trans _ _ _⟩

theorem SPO.of_swo {lt : β → β → Bool} (h : SWO lt) : SPO lt :=
  ⟨h.asymm, fun a b c hab hbc => (h.negtrans a b c hab).elim id fun hcb => by rw [h.asymm b c hbc] at hcb; cases hcb⟩

theorem SPO.swoOn {lt : α → α → Bool} {P : α → Prop} (h : SPO lt)
    (hn : ∀ a b, P a → P b → tied lt a b = true → a = b) : SWOOn P lt := by
  refine ⟨fun a b _ _ => h.asymm a b, fun a b c ha _ hc hab => ?_⟩
  cases hac : lt a c
  · cases hca : lt c a
    · rw [← hn a c ha hc ((tied_iff a c).2 ⟨hac, hca⟩)]; exact Or.inr hab
    · exact Or.inr (h.trans c a b hca hab)
  · exact Or.inl rfl

/-- both sides are sorted, and a sorted arrangement without ties is unique -/
theorem sort_perm_eq_of_no_ties {lt : α → α → Bool} (hS : SPO lt) (m1 m2 : List α) (hp : m1.Perm m2)
    (hd : ∀ x ∈ m1, ∀ y ∈ m1, tied lt x y = true → x = y) :
    sortStable lt m1 = sortStable lt m2 := by
  have hW : SWOOn (· ∈ m1) lt := hS.swoOn fun x y hx hy => hd x hx y hy
  refine List.Perm.eq_of_pairwise ?_ (Lemmas.ClosestOrder.sorted_sortStable hW m1 fun _ h => h)
    (Lemmas.ClosestOrder.sorted_sortStable hW m2 fun _ h => hp.mem_iff.2 h)
    ((sortStable_perm m1).trans (hp.trans (sortStable_perm m2).symm))
  intro x y hx hy hyx hxy
  exact hd x ((sortStable_perm m1).mem_iff.1 hx) y (hp.mem_iff.2 ((sortStable_perm m2).mem_iff.1 hy))
    ((tied_iff x y).2 ⟨hxy, hyx⟩)

section Lex

structure STO (ltβ : β → β → Bool) : Prop where
  asymm : ∀ a b, ltβ a b = true → ltβ b a = false
  trans : ∀ a b c, ltβ a b = true → ltβ b c = true → ltβ a c = true
  total : ∀ a b, a ≠ b → ltβ a b = true ∨ ltβ b a = true

theorem STO.tied_iff {ltβ : β → β → Bool} (h : STO ltβ) (x y : β) : ltβ x y = false ∧ ltβ y x = false ↔ x = y := by
  constructor
  · intro ⟨h1, h2⟩
    apply Classical.byContradiction
    intro e
    rcases h.total x y e with t | t
    · rw [h1] at t; cases t
    · rw [h2] at t; cases t
  · rintro rfl
    cases hx : ltβ x x
    · exact ⟨rfl, rfl⟩
    · rw [h.asymm x x hx] at hx; cases hx

theorem STO.spo {ltβ : β → β → Bool} (h : STO ltβ) : SPO ltβ := ⟨h.asymm, h.trans⟩

variable [BEq β]

def lexLt (f : α → β) (ltβ : β → β → Bool) (rest : α → α → Bool) (a b : α) : Bool :=
  if f a != f b then ltβ (f a) (f b) else rest a b

variable [LawfulBEq β] {f : α → β} {ltβ : β → β → Bool} {rest : α → α → Bool} {a b : α}

theorem lexLt_of_eq (h : f a = f b) : lexLt f ltβ rest a b = rest a b := by
  rw [lexLt, h, bne_self_eq_false]
  rfl

theorem lexLt_of_ne (h : f a ≠ f b) : lexLt f ltβ rest a b = ltβ (f a) (f b) := by
  rw [lexLt, bne_iff_ne.2 h, if_pos rfl]

theorem lexLt_spo (f : α → β) (hβ : SPO ltβ) (hr : SPO rest) : SPO (lexLt f ltβ rest) := by
  constructor
  · intro a b h
    by_cases e : f a = f b
    · rw [lexLt_of_eq e] at h
      rw [lexLt_of_eq e.symm]
      exact hr.asymm _ _ h
    · rw [lexLt_of_ne e] at h
      rw [lexLt_of_ne (Ne.symm e)]
      exact hβ.asymm _ _ h
  · intro a b c hab hbc
    by_cases eab : f a = f b
    · rw [lexLt_of_eq eab] at hab
      by_cases ebc : f b = f c
      · rw [lexLt_of_eq ebc] at hbc
        rw [lexLt_of_eq (eab.trans ebc)]
        exact hr.trans a b c hab hbc
      · rw [lexLt_of_ne ebc, ← eab] at hbc
        rw [lexLt_of_ne (eab ▸ ebc)]
        exact hbc
    · rw [lexLt_of_ne eab] at hab
      by_cases ebc : f b = f c
      · rw [lexLt_of_ne (ebc ▸ eab), ← ebc]
        exact hab
      · rw [lexLt_of_ne ebc] at hbc
        have hac := hβ.trans _ _ _ hab hbc
        rw [lexLt_of_ne fun e => by rw [e, hβ.irrefl] at hac; cases hac]
        exact hac

/-- a level that tests the keys themselves (`f a = f b`) but orders them by their images under `g`, as the third level
of `aggLt` does -/
theorem tied_lexLt_map (f : α → β) (g : β → γ) {lt' : γ → γ → Bool} (hγ : STO lt') (rest : α → α → Bool) (a b : α) :
    tied (lexLt f (fun x y => lt' (g x) (g y)) rest) a b = true ↔ g (f a) = g (f b) ∧ (f a = f b → tied rest a b = true) := by
  rw [tied_iff]
  by_cases e : f a = f b
  · rw [lexLt_of_eq e, lexLt_of_eq e.symm, ← tied_iff]
    exact ⟨fun h => ⟨congrArg g e, fun _ => h⟩, fun h => h.2 e⟩
  · rw [lexLt_of_ne e, lexLt_of_ne (Ne.symm e), hγ.tied_iff]
    exact ⟨fun h => ⟨h, fun e' => absurd e' e⟩, fun h => h.1⟩

theorem tied_lexLt (f : α → β) (rest : α → α → Bool) (hβ : STO ltβ) (a b : α) :
    tied (lexLt f ltβ rest) a b = true ↔ f a = f b ∧ tied rest a b = true :=
  (tied_lexLt_map f id hβ rest a b).trans ⟨fun h => ⟨h.1, h.2 h.1⟩, fun h => ⟨h.1, fun _ => h.2⟩⟩

end Lex

theorem sto_int : STO (fun (a b : Int) => decide (a < b)) := by
  constructor
  · intro a b h; simp only [decide_eq_true_eq, decide_eq_false_iff_not] at *; omega
  · intro a b c h1 h2; simp only [decide_eq_true_eq] at *; omega
  · intro a b h; simp only [decide_eq_true_eq]; omega

theorem sto_nat : STO (fun (a b : Nat) => decide (a < b)) := by
  constructor
  · intro a b h; simp only [decide_eq_true_eq, decide_eq_false_iff_not] at *; omega
  · intro a b c h1 h2; simp only [decide_eq_true_eq] at *; omega
  · intro a b h; simp only [decide_eq_true_eq]; omega

theorem sto_string : STO (fun (a b : String) => decide (a < b)) := by
  constructor
  · intro a b h
    simp only [decide_eq_true_eq, decide_eq_false_iff_not] at *
    exact String.lt_asymm h
  · intro a b c h1 h2
    simp only [decide_eq_true_eq] at *
    exact String.lt_trans h1 h2
  · intro a b h
    simp only [decide_eq_true_eq]
    by_cases h1 : a < b
    · exact Or.inl h1
    · by_cases h2 : b < a
      · exact Or.inr h2
      · exact absurd (String.le_antisymm (String.not_lt.1 h2) (String.not_lt.1 h1)) h

end Gofasta.Model
