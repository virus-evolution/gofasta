import Gofasta.Lemmas.SortSpec
/-
An association list that counts in first-seen order.  Both aggregating writers of gofasta (snps: `countInsert`,
variants: `aggInsert`) are instances, so what is counted (occurrences), that each key is kept once, and that two arrival
orders give permutations of each other is proved here once, for any key type; so is that the sorted list does not
depend on the arrival order (`sort_perm_eq_of_keys`: `AggOrder.sort_perm_eq` for snps is its instance at `snpLt`,
`sorted_insAll_any_order` the form the variants writer uses).  The counting list is in namespace
`Gofasta.Lemmas.AggVariants`, not one named after the file.
-/
namespace Gofasta.Lemmas.AggVariants

section Generic
variable {κ : Type}

def keys (m : List (κ × Nat)) : List κ := m.map (·.1)

theorem keys_cons (k : κ) (n : Nat) (t : List (κ × Nat)) : keys ((k, n) :: t) = k :: keys t := rfl

variable [DecidableEq κ]

def ins (k : κ) : List (κ × Nat) → List (κ × Nat)
  | [] => [(k, 1)]
  | (k', n) :: t => if k' = k then (k', n + 1) :: t else (k', n) :: ins k t

def insAll (ks : List κ) (m : List (κ × Nat)) : List (κ × Nat) := ks.foldl (fun m k => ins k m) m

def cnt (k : κ) : List (κ × Nat) → Nat
  | [] => 0
  | (k', n) :: t => if k' = k then n else cnt k t

theorem cnt_ins (k j : κ) : ∀ (m : List (κ × Nat)), cnt j (ins k m) = cnt j m + if k = j then 1 else 0
  | [] => by simp only [ins, cnt, Nat.zero_add]
  | (k', n) :: t => by
    by_cases hk : k' = k
    · subst hk
      by_cases hj : k' = j
      · simp only [ins, cnt, if_pos hj, if_true]
      · simp only [ins, cnt, if_neg hj, if_true, Nat.add_zero]
    · by_cases hj : k' = j
      · subst hj
        simp only [ins, cnt, if_neg hk, if_true, if_neg (Ne.symm hk), Nat.add_zero]
      · simp only [ins, cnt, if_neg hk, if_neg hj, cnt_ins k j t]

/- `[BEq κ] [LawfulBEq κ]` beside `[DecidableEq κ]`: `List.count` must use the `BEq` instance the caller has in scope
(for `Snp` the product instance), which is not the one `DecidableEq` would supply here. -/
theorem cnt_insAll [BEq κ] [LawfulBEq κ] (k : κ) :
    ∀ (ks : List κ) (m : List (κ × Nat)), cnt k (insAll ks m) = cnt k m + ks.count k
  | [], m => rfl
  | s :: t, m => by
    rw [insAll, List.foldl_cons, ← insAll, cnt_insAll k t, cnt_ins, List.count_cons]
    simp only [beq_iff_eq]
    omega

theorem keys_ins [BEq κ] [LawfulBEq κ] (k : κ) :
    ∀ (m : List (κ × Nat)), keys (ins k m) = if k ∈ keys m then keys m else keys m ++ [k]
  | [] => rfl
  | (k', n) :: t => by
    rw [ins, keys_cons]
    by_cases h : k' = k
    · rw [if_pos h, keys_cons, if_pos (h ▸ List.mem_cons_self)]
    · rw [if_neg h, keys_cons, keys_ins k t]
      by_cases hm : k ∈ keys t
      · rw [if_pos hm, if_pos (List.mem_cons_of_mem _ hm)]
      · rw [if_neg hm, if_neg (fun hc => hm ((List.mem_cons.1 hc).resolve_left (Ne.symm h))), List.cons_append]

theorem mem_keys_ins (k j : κ) (m : List (κ × Nat)) : j ∈ keys (ins k m) ↔ j = k ∨ j ∈ keys m := by
  rw [keys_ins]
  split
  · rename_i hk
    exact ⟨Or.inr, fun h => h.elim (fun e => e ▸ hk) id⟩
  · rw [List.mem_append, List.mem_singleton, or_comm]

theorem nodup_keys_ins (k : κ) (m : List (κ × Nat)) (h : (keys m).Nodup) : (keys (ins k m)).Nodup := by
  rw [keys_ins]
  split
  · exact h
  · rename_i hk
    rw [List.nodup_append]
    exact ⟨h, List.pairwise_singleton _ _, fun a ha b hb e => hk (List.mem_singleton.1 hb ▸ e ▸ ha)⟩

theorem mem_keys_insAll (j : κ) : ∀ (ks : List κ) (m : List (κ × Nat)), j ∈ keys (insAll ks m) ↔ j ∈ ks ∨ j ∈ keys m
  | [], m => by simp only [insAll, List.foldl_nil, List.not_mem_nil, false_or]
  | s :: t, m => by
    rw [insAll, List.foldl_cons, ← insAll, mem_keys_insAll j t, mem_keys_ins, List.mem_cons, ← or_assoc, @or_comm (j ∈ t)]

theorem mem_keys_insAll_nil (j : κ) (ks : List κ) : j ∈ keys (insAll ks []) ↔ j ∈ ks :=
  (mem_keys_insAll j ks []).trans (or_iff_left List.not_mem_nil)

theorem nodup_keys_insAll : ∀ (ks : List κ) (m : List (κ × Nat)), (keys m).Nodup → (keys (insAll ks m)).Nodup
  | [], _, h => h
  | s :: t, m, h => nodup_keys_insAll t (ins s m) (nodup_keys_ins s m h)

theorem nodup_keys_insAll_nil (ks : List κ) : (keys (insAll ks [])).Nodup := nodup_keys_insAll ks [] List.nodup_nil

theorem cnt_insAll_nil [BEq κ] [LawfulBEq κ] (k : κ) (ks : List κ) : cnt k (insAll ks []) = ks.count k := by
  rw [cnt_insAll, cnt, Nat.zero_add]

theorem mem_of_mem_keys (k : κ) : ∀ (m : List (κ × Nat)), k ∈ keys m → (k, cnt k m) ∈ m
  | (k', n) :: t, h => by
    by_cases hk : k' = k
    · subst hk
      rw [cnt, if_pos rfl]
      exact List.mem_cons_self
    · rw [cnt, if_neg hk]
      exact List.mem_cons_of_mem _ (mem_of_mem_keys k t ((List.mem_cons.1 h).resolve_left (Ne.symm hk)))

theorem cnt_of_mem (k : κ) (n : Nat) : ∀ (m : List (κ × Nat)), (keys m).Nodup → (k, n) ∈ m → cnt k m = n
  | (k', n') :: t, hnd, h => by
    have hnd' := List.nodup_cons.1 hnd
    rcases List.mem_cons.1 h with e | h
    · cases e
      rw [cnt, if_pos rfl]
    · have hk : k' ≠ k := fun e => hnd'.1 (e ▸ List.mem_map.2 ⟨(k, n), h, rfl⟩)
      rw [cnt, if_neg hk]
      exact cnt_of_mem k n t hnd'.2 h

theorem mem_iff_cnt (m : List (κ × Nat)) (h : (keys m).Nodup) (e : κ × Nat) :
    e ∈ m ↔ e.1 ∈ keys m ∧ e.2 = cnt e.1 m :=
  ⟨fun he => ⟨List.mem_map.2 ⟨e, he, rfl⟩, (cnt_of_mem e.1 e.2 m h he).symm⟩,
   fun ⟨hk, hc⟩ => by have := mem_of_mem_keys e.1 m hk; rwa [← hc] at this⟩

theorem entry_ext (m : List (κ × Nat)) (hk : (keys m).Nodup) (x y : κ × Nat) (hx : x ∈ m) (hy : y ∈ m)
    (h : x.1 = y.1) : x = y :=
  Prod.ext h (by rw [← cnt_of_mem x.1 x.2 m hk hx, ← cnt_of_mem y.1 y.2 m hk hy, h])

theorem mem_insAll_nil [BEq κ] [LawfulBEq κ] (ks : List κ) (e : κ × Nat) :
    e ∈ insAll ks [] ↔ e.1 ∈ ks ∧ e.2 = ks.count e.1 := by
  rw [mem_iff_cnt _ (nodup_keys_insAll_nil ks), mem_keys_insAll_nil, cnt_insAll_nil]

theorem insAll_perm (ks1 ks2 : List κ) (h : ks1.Perm ks2) : (insAll ks1 []).Perm (insAll ks2 []) := by
  rw [List.perm_ext_iff_of_nodup (nodup_of_map _ _ (nodup_keys_insAll_nil ks1)) (nodup_of_map _ _ (nodup_keys_insAll_nil ks2))]
  intro e
  rw [mem_insAll_nil, mem_insAll_nil, h.mem_iff, h.count_eq]

open Gofasta.Model

theorem sort_perm_eq_of_keys {lt : κ × Nat → κ × Nat → Bool} (hS : SPO lt) (m1 m2 : List (κ × Nat)) (hp : m1.Perm m2)
    (hk : (keys m1).Nodup) (hsep : ∀ x ∈ m1, ∀ y ∈ m1, tied lt x y = true → x.1 = y.1) :
    sortStable lt m1 = sortStable lt m2 :=
  sort_perm_eq_of_no_ties hS m1 m2 hp fun x hx y hy ht => entry_ext m1 hk x y hx hy (hsep x hx y hy ht)

theorem sorted_insAll_any_order {lt : κ × Nat → κ × Nat → Bool} (hS : SPO lt) (ks1 ks2 : List κ) (hp : ks1.Perm ks2)
    (hsep : ∀ x ∈ insAll ks1 [], ∀ y ∈ insAll ks1 [], tied lt x y = true → x.1 = y.1) :
    sortStable lt (insAll ks1 []) = sortStable lt (insAll ks2 []) :=
  sort_perm_eq_of_keys hS _ _ (insAll_perm ks1 ks2 hp) (nodup_keys_insAll_nil ks1) hsep

end Generic

end Gofasta.Lemmas.AggVariants
