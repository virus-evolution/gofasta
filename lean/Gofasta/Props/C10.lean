import Gofasta.Lemmas.UpdownRecon
import Gofasta.Lemmas.Enc
import Gofasta.Lemmas.Reorder
import Gofasta.Model.Updown
import Gofasta.Spec.Updown
/-
C10 — updown list is a lossless summary of each sequence relative to the reference.
-/
namespace Gofasta.Props.C10
open Gofasta Base Model Spec Lemmas

/-- every symbol has a code (`C03.Accepted false`; the bound follows from the second conjunct, `enc_lt`) -/
def Accepted (s : List Nat) : Prop := ∀ b ∈ s, b < 256 ∧ enc false b ≠ 0

instance (s : List Nat) : Decidable (Accepted s) := by unfold Accepted; infer_instance

theorem accepted_tail {b : Nat} {s : List Nat} (h : Accepted (b :: s)) : Accepted s :=
  fun x hx => h x (by simp [hx])

/-! One column of `getLines` (pkg/updown/input.go): the query's code is tested first (A/C/G/T or not), the difference
from the reference only for an A/C/G/T column — the condition `Cols.updown_append` reads off the source. -/

/-- the tract closed at column `i` (0-based, exclusive end), if one is open -/
def closedOf (o : Option Nat) (i : Nat) : List (Nat × Nat) := match o with | some a => [(a + 1, i)] | none => []

theorem udScan_q_nil (i : Nat) (o : Option Nat) (rs : List Nat) : udScan i o rs [] = ([], closedOf o i, 0) := by
  cases rs <;> cases o <;> rfl

theorem udScan_r_nil (i : Nat) (o : Option Nat) (qs : List Nat) : udScan i o [] qs = ([], closedOf o i, 0) := by
  cases qs <;> cases o <;> rfl

theorem udScan_res (i : Nat) (o : Option Nat) (r q : Nat) (rs t : List Nat) (h : encResolved q = true) :
    udScan i o (r :: rs) (q :: t) =
      ((if encDiffer r q then [(i + 1, dec r, dec q)] else []) ++ (udScan (i + 1) none rs t).1,
       closedOf o i ++ (udScan (i + 1) none rs t).2.1, (udScan (i + 1) none rs t).2.2) := by
  cases o <;> simp [udScan, h, closedOf]

theorem udScan_unres (i : Nat) (o : Option Nat) (r q : Nat) (rs t : List Nat) (h : encResolved q = false) :
    udScan i o (r :: rs) (q :: t) =
      ((udScan (i + 1) (some (o.getD i)) rs t).1, (udScan (i + 1) (some (o.getD i)) rs t).2.1,
       (udScan (i + 1) (some (o.getD i)) rs t).2.2 + 1) := by
  simp [udScan, h]

/-- **C10.snps_exact** — the SNP list is exactly the A/C/G/T columns whose base is not in the
reference symbol's set (`specUdSnps`: in column order, each as position, reference symbol, base) -/
theorem snps_exact : ∀ (q ref : List Nat) (i : Nat) (o : Option Nat), Accepted ref → Accepted q →
    (udScan i o (ref.map (enc false)) (q.map (enc false))).1 = specUdSnps i ref q := by
  intro q
  induction q with
  | nil => intro ref i o _ _; rw [List.map_nil, udScan_q_nil]; cases ref <;> rfl
  | cons b t ih =>
    intro ref i o hr hq
    cases ref with
    | nil => rw [List.map_nil, udScan_r_nil]; rfl
    | cons r rs =>
      have hb := (hq b (by simp)).2
      have hr0 := (hr r (by simp)).2
      have hres := encResolved_iff false b hb
      rw [List.map_cons, List.map_cons, specUdSnps]
      cases hacgt : isACGT b <;> rw [hacgt] at hres
      · rw [udScan_unres _ _ _ _ _ _ hres, ih rs _ _ (accepted_tail hr) (accepted_tail hq)]; rfl
      · rw [udScan_res _ _ _ _ _ _ hres, encDiffer_iff false r b hr0 hb, ih rs _ _ (accepted_tail hr) (accepted_tail hq),
          dec_enc false r hr0, dec_enc false b hb]
        cases disjointSyms false r b <;> rfl

/-- C10 — ambcount is the number of non-A/C/G/T columns -/
theorem ambcount_exact : ∀ (q ref : List Nat) (i : Nat) (o : Option Nat), ref.length = q.length → Accepted q →
    (udScan i o (ref.map (enc false)) (q.map (enc false))).2.2 = specAmbCount q := by
  intro q
  induction q with
  | nil => intro ref i o _ _; rw [List.map_nil, udScan_q_nil]; rfl
  | cons b t ih =>
    intro ref i o hl hq
    cases ref with
    | nil => simp at hl
    | cons r rs =>
      have hres := encResolved_iff false b (hq b (by simp)).2
      have hl' : rs.length = t.length := by simpa using hl
      rw [List.map_cons, List.map_cons]
      cases hacgt : isACGT b <;> rw [hacgt] at hres
      · rw [udScan_unres _ _ _ _ _ _ hres, ih rs _ _ hl' (accepted_tail hq)]
        simp [specAmbCount, hacgt]
      · rw [udScan_res _ _ _ _ _ _ hres, ih rs _ _ hl' (accepted_tail hq)]
        simp [specAmbCount, hacgt]

/-- C10 — SNPcount is the number of listed SNPs (by construction) -/
theorem snpcount_exact (id : String) (ref q : List Nat) : (getLine id ref q).snpCount = (getLine id ref q).snps.length := rfl

/-- tract bookkeeping: with a tract open since column `a`, the scan closes it where the run of
non-A/C/G/T columns ends; with none open it yields the maximal runs of the remaining columns -/
theorem ambs_runs : ∀ (q ref : List Nat) (i : Nat), ref.length = q.length → Accepted q →
    (∀ a, (udScan i (some a) (ref.map (enc false)) (q.map (enc false))).2.1 =
      (a + 1, i + (q.takeWhile fun x => !isACGT x).length) ::
        specRuns (i + (q.takeWhile fun x => !isACGT x).length) (q.dropWhile fun x => !isACGT x)) ∧
    (udScan i none (ref.map (enc false)) (q.map (enc false))).2.1 = specRuns i q := by
  intro q
  induction q with
  | nil =>
    intro ref i _ _
    simp [udScan_q_nil, closedOf, specRuns]
  | cons b t ih =>
    intro ref i hl hq
    cases ref with
    | nil => simp at hl
    | cons r rs =>
      have hres := encResolved_iff false b (hq b (by simp)).2
      obtain ⟨ihA, ihB⟩ := ih rs (i + 1) (by simpa using hl) (accepted_tail hq)
      rw [List.map_cons, List.map_cons]
      cases hacgt : isACGT b <;> rw [hacgt] at hres
      · -- `b` opens or prolongs a tract, which the rest of the scan closes
        simp [udScan_unres _ _ _ _ _ _ hres, ihA, specRuns, hacgt, Nat.add_assoc, Nat.add_comm 1]
      · -- `b` closes the open tract, if any; the rest is scanned with none open
        simp [udScan_res _ _ _ _ _ _ hres, ihB, closedOf, specRuns, hacgt]

/-- **C10.ambs_are_maximal_runs** — the ambiguity ranges are exactly the maximal runs of
non-A/C/G/T columns (1-based, inclusive) -/
theorem ambs_are_maximal_runs (id : String) (ref q : List Nat) (hl : ref.length = q.length) (hq : Accepted q) :
    (getLine id (ref.map (enc false)) (q.map (enc false))).ambs = specRuns 0 q :=
  (ambs_runs q ref 0 hl hq).2

/-- **C10.row** — the whole row of the model is the specified row -/
theorem row (id : String) (ref q : List Nat) (hl : ref.length = q.length) (hr : Accepted ref) (hq : Accepted q) :
    getLine id (ref.map (enc false)) (q.map (enc false)) = specUdLine id ref q := by
  unfold getLine specUdLine
  simp only [snps_exact q ref 0 none hr hq, (ambs_runs q ref 0 hl hq).2, ambcount_exact q ref 0 none hl hq]

/-- **C10.lossless** — the row the model writes lets the sequence be reconstructed up to the identity of its
non-A/C/G/T symbols: with an A/C/G/T reference, rebuilding column by column from (reference, SNP list, ambiguity
ranges) gives the sequence with every non-A/C/G/T symbol masked as '?' (letter case folded) -/
theorem lossless (id : String) (ref q : List Nat) (hl : ref.length = q.length) (hr : Accepted ref) (hq : Accepted q)
    (hacgt : ∀ r ∈ ref, Base.isACGT r = true) :
    reconstruct ref (getLine id (ref.map (enc false)) (q.map (enc false))) = q.map mask := by
  rw [row id ref q hl hr hq]
  exact Gofasta.Lemmas.reconstruct_row id ref q hl hacgt

/-- **C10.rows_in_input_order** — L-reorder instance for updown/list.writeOutput -/
theorem rows_in_input_order (rows : Nat → String) (n : Nat) (arrival : List Nat)
    (h : arrival.Perm (List.range n)) :
    Reorder.run (arrival.map fun i => (i, rows i)) = (List.range n).map rows :=
  Reorder.run_perm rows n arrival h

/-- non-vacuity: tracts at both ends, a length-1 tract, two tracts one base apart, one SNP;
the hypotheses of `row` hold and the row is non-trivial -/
example : Accepted [65, 67, 65, 67, 71, 84, 84, 65, 71, 71, 65, 67, 71] ∧
    Accepted [78, 78, 65, 84, 71, 84, 82, 65, 89, 89, 65, 67, 45] ∧
    (getLine "x" ([65, 67, 65, 67, 71, 84, 84, 65, 71, 71, 65, 67, 71].map (enc false))
        ([78, 78, 65, 84, 71, 84, 82, 65, 89, 89, 65, 67, 45].map (enc false))).ambs = [(1, 2), (7, 7), (9, 10), (13, 13)] ∧
    (getLine "x" ([65, 67, 65, 67, 71, 84, 84, 65, 71, 71, 65, 67, 71].map (enc false))
        ([78, 78, 65, 84, 71, 84, 82, 65, 89, 89, 65, 67, 45].map (enc false))).snps = [(4, 67, 84)] := by
  refine ⟨by decide, by decide, by decide +kernel, by decide +kernel⟩

end Gofasta.Props.C10
