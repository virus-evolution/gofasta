import Gofasta.Lemmas.SamRoundTrip
import Gofasta.Lemmas.SamFlatten
import Gofasta.Lemmas.PairSkipIns
import Gofasta.Lemmas.Bytes
/-
Glue between the SAM text layer (Model/SamText: the reader on BYTES) and the command models that start from structured
records (Model/Sam: `SamRec`): the theorems of C01 / C02 restated for what is read from the bytes of a SAM file.
A stream without @SQ line gives the commands nothing (`samRecsOfText_no_sq`, `samRecsOfText_headerless`).
-/
namespace Gofasta.Lemmas.FromBytes
open Gofasta Model Spec
open Gofasta.Model.SamText (Bytes Rec)
open Gofasta.Lemmas.SamRT
open Gofasta.Props.C01 (samNoIns qSpan refSpan)
open Gofasta.Props.C02 (NoDash)

/-- What the commands get from a SAM text: the name and length of the FIRST reference of the header (as in
pkg/sam/toma.go: an error when `header.Refs()` is empty, else `header.Refs()[0].Len()`) and the records as `SamRec`.
`none` in every case in which the Go code does not get to the conversion, or in which the model has no counterpart:
  * NewReader fails (empty text, malformed header, text ending inside an @ line), or panics, or is outside the model ;
  * the Read loop ends in anything but io.EOF (a malformed record line: the command stops with the error ; an
    empty line: index panic) ;
  * the header has no @SQ line (there is no reference length to work with). -/
def samRecsOfText (text : List Nat) : Option (String × Nat × List SamRec) :=
  match readRows text with
  | some ((name, len) :: _, recs) => some (bytesToString name, len, recs)
  | _ => none

theorem samRecsOfText_render (name : Bytes) (len : Nat) (recs : List SamRec) (hr : refOk name len = true)
    (h : ∀ r ∈ recs, recOk len r = true) :
    samRecsOfText (renderSam name len recs) = some (bytesToString name, len, recs) := by
  unfold samRecsOfText
  rw [sam_roundtrip name len recs hr h]

theorem samRecsOfText_render_string (name : String) (len : Nat) (recs : List SamRec)
    (hr : refOk (stringToBytes name) len = true) (h : ∀ r ∈ recs, recOk len r = true) :
    samRecsOfText (renderSam (stringToBytes name) len recs) = some (name, len, recs) := by
  rw [samRecsOfText_render _ len recs hr h, bytesToString_stringToBytes]

theorem samRecsOfText_of_no_refs (text : List Nat)
    (hr : ∀ h recs e after, SamText.readSam text = .ok h recs e after → h.refs = []) : samRecsOfText text = none := by
  unfold samRecsOfText readRows
  cases hread : SamText.readSam text with
  | ok h recs e after => cases e <;> simp [hr h recs _ after hread]
  | _ => rfl

/-- **header-less SAM stream**: a text that does not start with '@' has no @SQ line: no reference length, and this glue
layer gives nothing (a refusal of gofasta for toMultiAlign only: see `Lemmas/Refusals`, 5a) -/
theorem samRecsOfText_headerless (c : Nat) (t : List Nat) (hc : c ≠ SamText.bAt) : samRecsOfText (c :: t) = none :=
  samRecsOfText_of_no_refs _ fun h recs e after hread => by
    simp only [SamText.readSam, hc, ne_eq, not_false_eq_true, if_true] at hread
    cases hread
    rfl

/-- **SAM stream without any @SQ line** (no terminated line whose type is SQ): there is no reference length to work
with; `samRecsOfText` gives nothing. The hypothesis holds of the empty stream, not of every header-less one (a record
line may have "SQ" as its bytes 1-2): for those, `samRecsOfText_headerless` -/
theorem samRecsOfText_no_sq (text : List Nat)
    (h : ∀ l ∈ (SamText.linesOf text).1, ((SamText.stripCr l).drop 1).take 2 ≠ SamText.tSQ) :
    samRecsOfText text = none :=
  samRecsOfText_of_no_refs text fun _ _ _ _ => readSam_no_sq h

/-! ### `recOk` (what can be written and read back) versus `WFSamRec` (what the command theorems need) -/

/-- 1 for the operators that consume reference bases (M D N = X), else 0 -/
def rUnit (op : Nat) : Nat := if op = 0 ∨ op = 2 ∨ op = 3 ∨ op = 7 ∨ op = 8 then 1 else 0

theorem refSpan_cons (op len : Nat) (rest : List (Nat × Nat)) :
    refSpan samNoIns ((op, len) :: rest) = len * rUnit op + refSpan samNoIns rest := by
  rw [(spans_cons op len rest).2, rUnit]
  split <;> simp

theorem qSpan_eq_queryLen : ∀ (c : List (Nat × Nat)), qSpan samNoIns c = queryLen c
  | [] => rfl
  | (op, len) :: rest => by
    rw [(spans_cons op len rest).1, qSpan_eq_queryLen rest]
    simp [queryLen]

theorem cigarIsValid_qSpan (c : List (Nat × Nat)) (n : Nat) (h : SamText.cigarIsValid c n = true) :
    qSpan samNoIns c = n := by
  have := validLoop_queryLen c 0 0 n 0 h
  rw [qSpan_eq_queryLen]
  omega

theorem alphabet_letters : ∀ b ∈ seqAlphabet, b ≠ 61 → isLetter b = true := by decide +kernel

/-- what `WFSamRec` asks beyond `recOk`: a record without SEQ (`*`) has a CIGAR that consumes no query base, the
alignment ends inside the reference, and SEQ does not use '=' (the one byte of Seq.Expand's alphabet that is not a letter) -/
def recFit (len : Nat) (r : SamRec) : Bool :=
  (!r.seq.isEmpty || decide (qSpan samNoIns r.cigar = 0)) && decide (r.pos + refSpan samNoIns r.cigar ≤ len) &&
  !r.seq.contains 61

theorem recFit_iff (len : Nat) (r : SamRec) : recFit len r = true ↔
    (r.seq ≠ [] ∨ qSpan samNoIns r.cigar = 0) ∧ r.pos + refSpan samNoIns r.cigar ≤ len ∧ 61 ∉ r.seq := by
  simp only [recFit, Bool.and_eq_true, Bool.or_eq_true, Bool.not_eq_true', List.isEmpty_eq_false_iff, decide_eq_true_eq,
    List.contains_eq_mem, decide_eq_false_iff_not, and_assoc, ne_eq]

theorem wf_iff_recFit (len : Nat) (r : SamRec) (h : recOk len r = true) : WFSamRec r len ↔ recFit len r = true := by
  have f := recOk_facts len r h
  rw [recFit_iff]
  constructor
  · intro w
    refine ⟨?_, w.hr, fun hm => absurd (w.letters 61 hm) (by decide)⟩
    by_cases hs : r.seq = []
    · have := w.hq
      rw [hs] at this
      exact Or.inr (Nat.le_zero.1 this)
    · exact Or.inl hs
  · rintro ⟨h1, h2, h3⟩
    refine ⟨?_, h2, fun b hb => alphabet_letters b (f.seq b hb) (fun e => h3 (e ▸ hb))⟩
    by_cases hs : r.seq = []
    · rw [h1.resolve_left (fun hne => hne hs)]
      exact Nat.zero_le _
    · by_cases hc : r.cigar = []
      · rw [hc]
        exact Nat.zero_le _
      · exact Nat.le_of_eq (cigarIsValid_qSpan _ _ (f.valid hs hc))

/-- the gap is real: three records that can be written and are read back, and are not `WFSamRec` -/
example : recOk 10 ⟨"q", 0, 0, [(0, 3)], []⟩ = true ∧ ¬ WFSamRec ⟨"q", 0, 0, [(0, 3)], []⟩ 10 :=
  ⟨by decide +kernel, fun w => absurd w.hq (by decide)⟩
example : recOk 10 ⟨"q", 0, 9, [(0, 3)], [65, 67, 71]⟩ = true ∧ ¬ WFSamRec ⟨"q", 0, 9, [(0, 3)], [65, 67, 71]⟩ 10 :=
  ⟨by decide +kernel, fun w => absurd w.hr (by decide)⟩
example : recOk 10 ⟨"q", 0, 0, [(0, 1)], [61]⟩ = true ∧ ¬ WFSamRec ⟨"q", 0, 0, [(0, 1)], [61]⟩ 10 :=
  ⟨by decide +kernel, fun w => absurd (w.letters 61 (by simp)) (by decide)⟩

/-- `sam toMultiAlign` on the bytes of a SAM file ; none = error -/
def tomaOfText (o : TomaOpts) (text : List Nat) : Option String :=
  match samRecsOfText text with
  | some (_, L, recs) => toMultiAlign L o recs
  | none => none

/-- `sam toPairAlign` on the bytes of a SAM file and a reference sequence ; none = error -/
def topaOfText (ref : List Nat) (refName : String) (start stop wrap : Int) (omitRef omitIns : Bool) (text : List Nat) :
    Option (List (String × String)) :=
  match samRecsOfText text with
  | some (_, _, recs) => toPairAlign ref refName start stop wrap omitRef omitIns recs
  | none => none

theorem wf_retained (len : Nat) (recs : List SamRec) (h : ∀ r ∈ recs, recOk len r = true)
    (hfit : ∀ r ∈ recs, isSkipped r = false → recFit len r = true) :
    ∀ r ∈ recs, isSkipped r = false → WFSamRec r len :=
  fun r hr hs => (wf_iff_recFit len r (h r hr)).2 (hfit r hr hs)

/-- C01 (`toMultiAlign_total`) for the bytes `renderSam` writes (one @HD / @SQ / @PG header, MAPQ 60, no mate, no QUAL,
no optional field): for every reference and every list of records that can be written (`refOk`, `recOk`), whose retained
records fit (`recFit`), and every accepted window, pad and wrap setting, the command run on the TEXT writes one record
per block of retained records, in input order, each with the specification's row -/
theorem toMultiAlign_from_bytes (name : Bytes) (len : Nat) (recs : List SamRec) (o : TomaOpts) (s e : Nat) (trim : Bool)
    (hr : refOk name len = true) (h : ∀ r ∈ recs, recOk len r = true)
    (hfit : ∀ r ∈ recs, isSkipped r = false → recFit len r = true)
    (hargs : checkArgs len o.start o.stop = some (s, e, trim)) :
    tomaOfText o (renderSam name len recs) = some (String.join ((samBlocks recs).map fun b =>
      tomaRecordText o.wrap (b.headD default).name (specWindow (specTomaRow b len o.pad) o.pad trim s e))) := by
  rw [tomaOfText, samRecsOfText_render name len recs hr h]
  exact toMultiAlign_total len o recs s e trim hargs (wf_retained len recs h hfit)

/-- the same statement with the records named by what the reader returns -/
theorem toMultiAlign_from_bytes' (name : Bytes) (len : Nat) (recs : List SamRec) (o : TomaOpts) (s e : Nat) (trim : Bool)
    (hr : refOk name len = true) (h : ∀ r ∈ recs, recOk len r = true)
    (hfit : ∀ r ∈ recs, isSkipped r = false → recFit len r = true)
    (hargs : checkArgs len o.start o.stop = some (s, e, trim)) :
    ∃ nm L rs, samRecsOfText (renderSam name len recs) = some (nm, L, rs) ∧
      toMultiAlign L o rs = some (String.join ((samBlocks rs).map fun b =>
        tomaRecordText o.wrap (b.headD default).name (specWindow (specTomaRow b L o.pad) o.pad trim s e))) :=
  ⟨bytesToString name, len, recs, samRecsOfText_render name len recs hr h,
    toMultiAlign_total len o recs s e trim hargs (wf_retained len recs h hfit)⟩

/-- C02 (`toPairAlign_spec`, both values of skip-insertions) for the bytes `renderSam` writes against a reference
sequence `ref` (the @SQ length is its length), `ref` without '-' and without bytes below '*' -/
theorem toPairAlign_from_bytes (name : Bytes) (ref : List Nat) (refName : String) (start stop wrap : Int)
    (omitRef omitIns : Bool) (recs : List SamRec) (s e : Nat) (trim : Bool)
    (hr : refOk name ref.length = true) (h : ∀ r ∈ recs, recOk ref.length r = true)
    (hfit : ∀ r ∈ recs, isSkipped r = false → recFit ref.length r = true)
    (hargs : checkArgs ref.length start stop = some (s, e, trim))
    (hnd : NoDash ref) (hge : ∀ b ∈ ref, star ≤ b) :
    topaOfText ref refName start stop wrap omitRef omitIns (renderSam name ref.length recs) =
      some ((samBlocks recs).map fun b =>
        ((b.headD default).name, pairText wrap refName (b.headD default).name omitRef
          (if trim then specTrimPair (PairSkipIns.specPairOf omitIns b ref) s e else PairSkipIns.specPairOf omitIns b ref))) := by
  rw [topaOfText, samRecsOfText_render name ref.length recs hr h]
  exact PairSkipIns.toPairAlign_spec ref refName start stop wrap omitRef omitIns recs s e trim hargs hnd hge
    (wf_retained ref.length recs h hfit)

/-- the insertions-kept branch, with the specification of `toPairAlign_keepIns_spec` -/
theorem toPairAlign_keepIns_from_bytes (name : Bytes) (ref : List Nat) (refName : String) (start stop wrap : Int)
    (omitRef : Bool) (recs : List SamRec) (s e : Nat) (trim : Bool)
    (hr : refOk name ref.length = true) (h : ∀ r ∈ recs, recOk ref.length r = true)
    (hfit : ∀ r ∈ recs, isSkipped r = false → recFit ref.length r = true)
    (hargs : checkArgs ref.length start stop = some (s, e, trim))
    (hnd : NoDash ref) (hge : ∀ b ∈ ref, star ≤ b) :
    topaOfText ref refName start stop wrap omitRef false (renderSam name ref.length recs) =
      some ((samBlocks recs).map fun b =>
        ((b.headD default).name, pairText wrap refName (b.headD default).name omitRef
          (if trim then specTrimPair (specPair b ref) s e else specPair b ref))) :=
  toPairAlign_from_bytes name ref refName start stop wrap omitRef false recs s e trim hr h hfit hargs hnd hge

/-- the repair in the Go code: a stream that does not end in a newline is given one -/
def terminate (text : List Nat) : List Nat :=
  if text = [] ∨ text.getLast? = some 10 then text else text ++ [10]

/-- the file as an editor that strips the final newline leaves it -/
def dropLastNewline (text : List Nat) : List Nat :=
  if text.getLast? = some 10 then text.dropLast else text

theorem dropLastNewline_snoc (x : List Nat) : dropLastNewline (x ++ [10]) = x := by
  simp [dropLastNewline]

theorem terminate_dropLastNewline (x : List Nat) (c : Nat) (hx : x.getLast? = some c) (hc : c ≠ 10) :
    terminate (dropLastNewline (x ++ [10])) = x ++ [10] := by
  have hne : ¬ (x = [] ∨ x.getLast? = some 10) := by
    rw [hx]
    exact fun h => h.elim (fun e => by rw [e] at hx; cases hx) (fun e => hc (Option.some.inj e))
  rw [dropLastNewline_snoc, terminate, if_neg hne]

theorem renderSam_snoc (name : Bytes) (len : Nat) (recs : List SamRec) (r : SamRec) :
    renderSam name len (recs ++ [r]) = renderSam name len recs ++ recLine name r ++ [10] := by
  simp [renderSam, unlines, SamText.bNl]

/-- the written text is `x ++ [newline]` where `x` ends in a byte other than the newline (the last byte of the @PG line
or the `*` of the QUAL column): no hypothesis on the reference or the records is needed -/
theorem renderSam_shape (name : Bytes) (len : Nat) (recs : List SamRec) :
    ∃ x c, renderSam name len recs = x ++ [10] ∧ x.getLast? = some c ∧ c ≠ 10 := by
  rcases List.eq_nil_or_concat recs with rfl | ⟨L, r, rfl⟩
  · exact ⟨unlines [hdLine, sqLine name len] ++ pgLine, 102, by simp [renderSam, unlines, SamText.bNl],
      by rw [List.getLast?_append]; rfl, by decide⟩
  · rw [List.concat_eq_append]
    exact ⟨renderSam name len L ++ recLine name r, 42, renderSam_snoc name len L r,
      by rw [List.getLast?_append, recLine_last]; rfl, by decide⟩

theorem terminate_dropLastNewline_renderSam (name : Bytes) (len : Nat) (recs : List SamRec) :
    terminate (dropLastNewline (renderSam name len recs)) = renderSam name len recs := by
  obtain ⟨x, c, e, hx, hc⟩ := renderSam_shape name len recs
  rw [e, terminate_dropLastNewline x c hx hc]

theorem unterminated_last_read (name : Bytes) (len : Nat) (recs : List SamRec) :
    samRecsOfText (terminate (dropLastNewline (renderSam name len recs))) = samRecsOfText (renderSam name len recs) := by
  rw [terminate_dropLastNewline_renderSam]

theorem unterminated_last_read_all (name : Bytes) (len : Nat) (recs : List SamRec) (hr : refOk name len = true)
    (h : ∀ r ∈ recs, recOk len r = true) :
    samRecsOfText (terminate (dropLastNewline (renderSam name len recs))) = some (bytesToString name, len, recs) := by
  rw [unterminated_last_read, samRecsOfText_render name len recs hr h]

theorem samRecsOfText_congr (t1 t2 : List Nat) (h : SamText.readSam t1 = SamText.readSam t2) :
    samRecsOfText t1 = samRecsOfText t2 := by
  unfold samRecsOfText readRows
  rw [h]

/-- WITHOUT the repair (finding F-C01b) the last record of such a file is dropped
silently: the reader returns the records before it and reaches io.EOF -/
theorem unterminated_loses_last (name : Bytes) (len : Nat) (recs : List SamRec) (r : SamRec) (hr : refOk name len = true)
    (h : ∀ x ∈ recs ++ [r], recOk len x = true) :
    samRecsOfText (dropLastNewline (renderSam name len (recs ++ [r]))) = some (bytesToString name, len, recs) := by
  have hrf := refOk_facts name len hr
  obtain ⟨hfs, hfr⟩ := List.forall_mem_append.1 fun x hx => recOk_facts len x (h x hx)
  have hfr := hfr r (List.mem_singleton_self r)
  rw [renderSam_snoc, dropLastNewline_snoc]
  exact (samRecsOfText_congr _ _ (readSam_unterminated _ (recLine name r) (by simp)
      (lines_noNl name len recs hrf hfs) (joinB_noNl (clean_fields name len r hrf.name hfr))
      (recLine_head name len r hfr))).trans
    (samRecsOfText_render name len recs hr fun x hx => h x (List.mem_append_left _ hx))

/-! ### non-vacuity: a concrete SAM file of two records (one query, 3M1D then 2M: a conflict at one column, a base over a deletion at the next) -/

def exName : Bytes := [114, 101, 102]
def exR1 : SamRec := ⟨"q", 0, 1, [(0, 3), (2, 1)], [65, 67, 71]⟩
def exR2 : SamRec := ⟨"q", 2048, 3, [(0, 2)], [84, 84]⟩

example : bytesToString (renderSam exName 8 [exR1, exR2]) =
    "@HD\tVN:1.6\tSO:unsorted\n@SQ\tSN:ref\tLN:8\n@PG\tID:verif\tPN:verif\n" ++
    "q\t0\tref\t2\t60\t3M1D\t*\t0\t0\tACG\t*\nq\t2048\tref\t4\t60\t2M\t*\t0\t0\tTT\t*\n" := by
  apply bytesToString_eq_of
  rw [stringToBytes_append, stringToBytes_ofList, stringToBytes_ofList]
  decide +kernel

theorem ex_hyps : refOk exName 8 = true ∧ (∀ r ∈ [exR1, exR2], recOk 8 r = true) ∧
    (∀ r ∈ [exR1, exR2], isSkipped r = false → recFit 8 r = true) ∧
    checkArgs 8 ({} : TomaOpts).start ({} : TomaOpts).stop = some (1, 8, false) := by
  decide +kernel

example : samRecsOfText (renderSam exName 8 [exR1, exR2]) = some ("ref", 8, [exR1, exR2]) :=
  samRecsOfText_render exName 8 [exR1, exR2] ex_hyps.1 ex_hyps.2.1

/-- the theorem applies, and this is the output -/
example : tomaOfText {} (renderSam exName 8 [exR1, exR2]) = some ">q\n-ACNT---\n" := by
  rw [toMultiAlign_from_bytes exName 8 [exR1, exR2] {} 1 8 false ex_hyps.1 ex_hyps.2.1 ex_hyps.2.2.1 ex_hyps.2.2.2]
  decide +kernel

/-- the file without its final newline: the last record is lost without the repair, read with it -/
example : samRecsOfText (dropLastNewline (renderSam exName 8 [exR1, exR2])) = some ("ref", 8, [exR1]) :=
  unterminated_loses_last exName 8 [exR1] exR2 ex_hyps.1 ex_hyps.2.1
example : samRecsOfText (terminate (dropLastNewline (renderSam exName 8 [exR1, exR2]))) = some ("ref", 8, [exR1, exR2]) :=
  unterminated_last_read_all exName 8 [exR1, exR2] ex_hyps.1 ex_hyps.2.1

def exRefSeq : List Nat := [65, 67, 71, 84, 65, 67, 71, 84]
/-- a first record with an insertion (2M1I1M1D) -/
def exR3 : SamRec := ⟨"q", 0, 1, [(0, 2), (1, 1), (0, 1), (2, 1)], [65, 67, 84, 71]⟩

theorem ex_hyps_pair : refOk exName exRefSeq.length = true ∧ (∀ r ∈ [exR3, exR2], recOk exRefSeq.length r = true) ∧
    (∀ r ∈ [exR3, exR2], isSkipped r = false → recFit exRefSeq.length r = true) ∧
    NoDash exRefSeq ∧ (∀ b ∈ exRefSeq, star ≤ b) := by
  unfold NoDash
  decide +kernel

/-- toPairAlign on the bytes, insertions kept, whole reference -/
example : topaOfText exRefSeq "ref" (-1) (-1) (-1) false false (renderSam exName exRefSeq.length [exR3, exR2]) =
    some [("q", ">ref\nACG-TACGT\n>q\nNACTNTNNN\n")] := by
  obtain ⟨h1, h2, h3, h4, h5⟩ := ex_hyps_pair
  rw [toPairAlign_from_bytes exName exRefSeq "ref" (-1) (-1) (-1) false false [exR3, exR2] 1 8 false h1 h2 h3
    (by decide +kernel) h4 h5]
  decide +kernel

/-- skip-insertions, window 2..6 -/
example : topaOfText exRefSeq "ref" 2 6 (-1) false true (renderSam exName exRefSeq.length [exR3, exR2]) =
    some [("q", ">ref\nCGTAC\n>q\nACNTN\n")] := by
  obtain ⟨h1, h2, h3, h4, h5⟩ := ex_hyps_pair
  rw [toPairAlign_from_bytes exName exRefSeq "ref" 2 6 (-1) false true [exR3, exR2] 2 6 true h1 h2 h3
    (by decide +kernel) h4 h5]
  decide +kernel

end Gofasta.Lemmas.FromBytes
