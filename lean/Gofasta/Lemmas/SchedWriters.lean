import Gofasta.Lemmas.SchedRun
import Gofasta.Model.Validate
/-
The writers of the pipeline commands, without any command: the text writer `TextW` and what every schedule of either
goroutine model makes of it and of any writer that cannot fail; workers that check the width of a row (`WidthChecked`).
The commands are in Lemmas/SchedCommands, whose namespace this module keeps: the full names of these statements are
referred to from outside the Lean sources.
-/
set_option autoImplicit false

namespace Gofasta.Lemmas.SchedCommands
open Gofasta Gofasta.Model
open Gofasta.Lemmas.Outcome (Complete)
open Gofasta.Lemmas.SchedRun
open Gofasta.Lemmas.Sched (run_eq_of_indexed)

variable {α β ε σ : Type}

-- the modules that open this namespace (the commands, the failing writers) use these four without opening Lemmas.Sched
export Gofasta.Lemmas.Sched (map_ok_inj all_ok_of_map map_ok_eq snd_perm_of_indexed)

/-- for a writer state that keeps the pending map and counter in a field `ro` and feeds it every record under the index
shifted by k -/
theorem foldl_ro_out (ro : σ → Reorder.St β) (step : σ → Nat × β → σ) (k : Nat)
    (hstep : ∀ st r, ro (step st r) = Reorder.recv (ro st) (shiftIdx k r)) (recs : List (Nat × β)) (st : σ)
    (h0 : ro st = ⟨[], k, []⟩) : (ro (recs.foldl step st)).out = Reorder.run recs := by
  have h : ∀ (recs : List (Nat × β)) (st : σ),
      ro (recs.foldl step st) = (recs.map (shiftIdx k)).foldl Reorder.recv (ro st) := by
    intro recs
    induction recs with
    | nil => intro st; rfl
    | cons r t ih => intro st; rw [List.foldl_cons, ih, hstep]; rfl
  rw [h, h0, ← runFrom_shift k]
  rfl

/-- for a writer state that keeps, besides `ro`, a value `acc` that every loop body extends by the records it has just
flushed (`ext`, which respects concatenation) -/
theorem foldl_ro_acc {κ : Type} (ro : σ → Reorder.St β) (acc : σ → κ) (ext : κ → List β → κ) (step : σ → Nat × β → σ)
    (k : Nat) (hro : ∀ st r, ro (step st r) = Reorder.recv (ro st) (shiftIdx k r))
    (hacc : ∀ st r, acc (step st r) = ext (acc st) ((ro (step st r)).out.drop (ro st).out.length))
    (hext : ∀ a l l', ext a (l ++ l') = ext (ext a l) l')
    (recs : List (Nat × β)) (st : σ) (h0 : ro st = ⟨[], k, []⟩) (ha : ext (acc st) [] = acc st) :
    acc (recs.foldl step st) = ext (acc st) (Reorder.run recs) := by
  have h : ∀ (recs : List (Nat × β)) (st' : σ), acc st' = ext (acc st) (ro st').out →
      acc (recs.foldl step st') = ext (acc st) (ro (recs.foldl step st')).out := by
    intro recs
    induction recs with
    | nil => exact fun _ h => h
    | cons r t ih =>
      intro st' h
      refine ih _ ?_
      obtain ⟨l, hl⟩ := Reorder.recv_out_prefix (ro st') (shiftIdx k r)
      rw [hacc, hro, hl, List.drop_left, hext, ← h]
  rw [h recs st (by rw [h0, ha]), foldl_ro_out ro step k hro recs st h0]

/-- state of a writer goroutine of the shape of snps.writeOutput, updown/list.writeOutput,
variants.WriteVariants, fastaio.WriteAlignment: the pending map with its counter (`ro`) and the
bytes written so far (`text`) -/
structure TextW (β : Type) where
  ro : Reorder.St β
  text : String

/-- before the loop: the header is written; the counter starts at k -/
def TextW.start (header : String) (k : Nat) : TextW β := ⟨⟨[], k, []⟩, header⟩

/-- the loop body: store the record under its index, flush, and write each flushed record -/
def TextW.absorb (render : β → String) (k : Nat) (st : TextW β) (r : Nat × β) : TextW β :=
  let ro' := Reorder.recv st.ro (shiftIdx k r)
  ⟨ro', st.text ++ String.join ((ro'.out.drop st.ro.out.length).map render)⟩

theorem TextW.absorb_ro (render : β → String) (k : Nat) (st : TextW β) (r : Nat × β) :
    (TextW.absorb render k st r).ro = Reorder.recv st.ro (shiftIdx k r) := rfl

theorem TextW.run_text (render : β → String) (header : String) (k : Nat) (recs : List (Nat × β)) :
    (recs.foldl (TextW.absorb render k) (TextW.start header k)).text =
      header ++ String.join ((Reorder.run recs).map render) :=
  foldl_ro_acc TextW.ro TextW.text (fun a l => a ++ String.join (l.map render)) _ k (fun _ _ => rfl) (fun _ _ => rfl)
    (fun a l l' => by rw [List.map_append, String.join_append, String.append_assoc]) recs _ rfl String.append_empty

theorem _root_.Gofasta.Lemmas.Outcome.Complete.textw {items : List α} {F : α → Except ε β} {absorb : TextW β → Nat × β → Except ε (TextW β)}
    {finish : TextW β → Except ε (TextW β)} {init wst : TextW β} (render : β → String) (header : String) (k : Nat)
    (habs : ∀ st r, absorb st r = .ok (TextW.absorb render k st r)) (hfin : ∀ st, finish st = .ok st)
    (hinit : init = TextW.start header k) (hc : Complete items F absorb finish init wst) :
    ∃ ys : List β, items.map F = ys.map Except.ok ∧ wst.text = header ++ String.join (ys.map render) := by
  obtain ⟨ys, arr, hys, hperm, hgood, hw⟩ := hc.total _ id habs hfin
  exact ⟨ys, hys, by rw [hw, hinit, id, TextW.run_text, run_eq_of_indexed hperm hgood]⟩

/-- **text writer, every schedule of either model**: when main has returned nil, every item was accepted by the workers
and the text written is the header followed by the rendered results in input order -/
theorem _root_.Gofasta.Lemmas.SchedRun.Sound.text_writer {J : Job α β ε (TextW β)} {o : Obs β ε (TextW β)}
    (so : Sound J o) (render : β → String) (header : String) (k : Nat) (hN : J.staffed)
    (habs : ∀ st r, J.absorb st r = .ok (TextW.absorb render k st r)) (hfin : ∀ st, J.finish st = .ok st)
    (hinit : J.init = TextW.start header k) (hm : o.ret none) :
    ∃ ys : List β, J.items.map J.F = ys.map Except.ok ∧ o.wst.text = header ++ String.join (ys.map render) :=
  (so.complete hN hm).textw render header k habs hfin hinit

/-- **workers that accept every item (results ys), a writer that cannot fail, every schedule of either model**;
`Reorder.run arr = ys`: a re-ordering writer has then flushed exactly ys -/
theorem _root_.Gofasta.Lemmas.SchedRun.Sound.total_writer {J : Job α β ε σ} {o : Obs β ε σ} (so : Sound J o) {ys : List β}
    (hys : J.items.map J.F = ys.map Except.ok) (g : σ → Nat × β → σ) (fin : σ → σ) (hN : J.staffed)
    (habs : ∀ st r, J.absorb st r = .ok (g st r)) (hfin : ∀ st, J.finish st = .ok (fin st)) (hm : o.ret none) :
    ∃ arr : List (Nat × β), (arr.map Prod.fst).Perm (List.range ys.length) ∧ (∀ r ∈ arr, ys[r.1]? = some r.2) ∧
      Reorder.run arr = ys ∧ o.wst = fin (arr.foldl g J.init) := by
  obtain ⟨ys', arr, hys', hperm, hgood, hst⟩ := (so.complete hN hm).total g fin habs hfin
  cases map_ok_inj (hys.symm.trans hys')
  exact ⟨arr, hperm, hgood, run_eq_of_indexed hperm hgood, hst⟩

section onePool
open Gofasta.Model.Sched Gofasta.Lemmas.Sched

theorem text_writer_every_schedule {cfg : Cfg α β ε (TextW β)} {s : State α β ε (TextW β)}
    (render : β → String) (header : String) (k : Nat) (hN : 1 ≤ cfg.N)
    (habs : ∀ st r, cfg.absorb st r = .ok (TextW.absorb render k st r))
    (hfin : ∀ st, cfg.finish st = .ok st)
    (hinit : cfg.init = TextW.start header k)
    (hr : Reach cfg s) (hm : s.main = .ret none) :
    ∃ ys : List β, cfg.items.map cfg.f = ys.map Except.ok ∧ s.wst.text = header ++ String.join (ys.map render) :=
  (sound hr).text_writer render header k hN habs hfin hinit hm

theorem runSchedule_returns_nil {cfg : Cfg α β ε σ} (hN : 1 ≤ cfg.N)
    (hrf : cfg.readFail = none) (hf : ∀ x ∈ cfg.items, ∃ y, cfg.f x = .ok y)
    (ha : ∀ st r, ∃ st', cfg.absorb st r = .ok st') (hfin : ∀ st, ∃ st', cfg.finish st = .ok st')
    (sched : List Nat) (hlen : μ cfg (init cfg) ≤ sched.length) :
    (runSchedule cfg sched).main = .ret none :=
  (sound (runSchedule_reach cfg sched)).returns_nil hrf hf ha hfin (runSchedule_returns hN sched hlen)

end onePool

/-- the errors of the pipeline commands themselves (not of their output destination) -/
inductive CmdErr where
  | width      -- a row is not as wide as the reference
  | input      -- the reader could not read a record
  | stage      -- a value of the wrong kind on a channel of a chain (no item meets it: `sv_items_pass` of SchedCommands)
  deriving DecidableEq, Repr

section widthChecked
variable {F : String × List Nat → Except CmdErr β} {w : Nat} {g : String × List Nat → β}

/-- the shape of the workers of snps, updown list and variants -/
def WidthChecked (F : String × List Nat → Except CmdErr β) (w : Nat) (g : String × List Nat → β) : Prop :=
  ∀ x, F x = if x.2.length ≠ w then .error .width else .ok (g x)

theorem WidthChecked.ok (hF : WidthChecked F w g) {x : String × List Nat} {y : β} (h : F x = .ok y) :
    x.2.length = w ∧ y = g x := by
  rw [hF x] at h
  split at h
  · cases h
  · rename_i hw; exact ⟨Decidable.of_not_not hw, (Except.ok.inj h).symm⟩

theorem WidthChecked.error (hF : WidthChecked F w g) {x : String × List Nat} {e : CmdErr} (h : F x = .error e) :
    e = .width := by
  rw [hF x] at h
  split at h
  · exact (Except.error.inj h).symm
  · cases h

theorem WidthChecked.all_ok (hF : WidthChecked F w g) {items : List (String × List Nat)}
    (hw : ∀ x ∈ items, x.2.length = w) : ∀ x ∈ items, ∃ y, F x = .ok y :=
  fun x hx => ⟨g x, (hF x).trans (if_neg (not_not_intro (hw x hx)))⟩

theorem WidthChecked.bad (hF : WidthChecked F w g) {items : List (String × List Nat)}
    (hbad : ∃ x ∈ items, x.2.length ≠ w) : ∃ x ∈ items, ∃ e, F x = .error e :=
  hbad.imp fun x hx => ⟨hx.1, .width, (hF x).trans (if_pos hx.2)⟩

theorem WidthChecked.results (hF : WidthChecked F w g) {items : List (String × List Nat)} {ys : List β}
    (h : items.map F = ys.map Except.ok) : ys = items.map g ∧ ∀ x ∈ items, x.2.length = w :=
  ⟨map_ok_eq (fun _ _ hy => (hF.ok hy).2) h, fun x hx => (all_ok_of_map h x hx).elim fun _ hy => (hF.ok hy).1⟩

theorem refusesWidths_true (w : Nat) (ws : List Nat) : refusesWidths w ws = true ↔ ∃ x ∈ ws, x ≠ w := by
  simp [refusesWidths]

theorem refusesWidths_false (w : Nat) (ws : List Nat) : refusesWidths w ws = false ↔ ∀ x ∈ ws, x = w := by
  simp [refusesWidths]

theorem refusesWidths_cases {P Q : Prop} (w : Nat) (recs : List (String × List Nat))
    (hbad : (∃ r ∈ recs, r.2.length ≠ w) → P) (hgood : (∀ r ∈ recs, r.2.length = w) → Q) :
    if refusesWidths w (recs.map fun r => r.2.length) then P else Q := by
  split
  · rename_i h
    obtain ⟨_, hx, hne⟩ := (refusesWidths_true w _).mp h
    obtain ⟨r, hr, rfl⟩ := List.mem_map.mp hx
    exact hbad ⟨r, hr, hne⟩
  · rename_i h
    exact hgood fun r hr => (refusesWidths_false w _).mp (Bool.eq_false_iff.mpr h) _ (List.mem_map_of_mem hr)

open Gofasta.Model.Sched Gofasta.Lemmas.Sched in
theorem WidthChecked.error_reported {cfg : Cfg (String × List Nat) β CmdErr σ} (hF : WidthChecked cfg.f w g)
    (hN : 1 ≤ cfg.N) (hbad : ∃ x ∈ cfg.items, x.2.length ≠ w) {s : State (String × List Nat) β CmdErr σ}
    (hr : Reach cfg s) : s.main ≠ .ret none :=
  Lemmas.Sched.error_reported hN (Or.inr (Or.inl (hF.bad hbad))) hr

open Gofasta.Model.Sched Gofasta.Lemmas.Sched in
theorem runSchedule_returns_width {cfg : Cfg (String × List Nat) β CmdErr σ} (hF : WidthChecked cfg.f w g)
    (hN : 1 ≤ cfg.N) (hrf : cfg.readFail = none)
    (ha : ∀ st r, ∃ st', cfg.absorb st r = .ok st') (hfin : ∀ st, ∃ st', cfg.finish st = .ok st')
    (hbad : ∃ x ∈ cfg.items, x.2.length ≠ w) (sched : List Nat) (hlen : μ cfg (init cfg) ≤ sched.length) :
    (runSchedule cfg sched).main = .ret (some .width) := by
  obtain ⟨r, hret⟩ := runSchedule_returns hN sched hlen
  cases r with
  | none => exact absurd hret (hF.error_reported hN hbad (runSchedule_reach cfg sched))
  | some e =>
    -- the error main has returned is one that the reader, a worker or the writer produced: here, a worker
    rcases error_has_source (runSchedule_reach cfg sched) hret with ⟨k, h⟩ | ⟨x, _, h⟩ | ⟨st, r, h⟩ | ⟨st, h⟩
    · rw [hrf] at h; cases h
    · rw [hret, hF.error h]
    · obtain ⟨st', hy⟩ := ha st r; rw [hy] at h; cases h
    · obtain ⟨st', hy⟩ := hfin st; rw [hy] at h; cases h

end widthChecked

section chain
open Gofasta.Model.SchedChain Gofasta.Lemmas.SchedChain

variable {γ : Type}

theorem chain_text_writer_every_schedule {cfg : Cfg γ ε (TextW γ)} {s : State γ ε (TextW γ)}
    (render : γ → String) (header : String) (k : Nat) (hN : ∀ P ∈ cfg.pools, 1 ≤ P.N)
    (habs : ∀ st r, cfg.absorb st r = .ok (TextW.absorb render k st r))
    (hfin : ∀ st, cfg.finish st = .ok st)
    (hinit : cfg.init = TextW.start header k)
    (hr : Reach cfg s) (hm : s.main = .ret none) :
    ∃ ys : List γ, cfg.items.map (pass cfg.pools) = ys.map Except.ok ∧
      s.wst.text = header ++ String.join (ys.map render) :=
  (chain_sound hr).text_writer render header k hN habs hfin hinit hm

theorem chain_total_writer {σ : Type} {cfg : Cfg γ ε σ} {s : State γ ε σ} {ys : List γ}
    (hys : cfg.items.map (pass cfg.pools) = ys.map Except.ok) (g : σ → Nat × γ → σ) (fin : σ → σ)
    (hN : ∀ P ∈ cfg.pools, 1 ≤ P.N) (habs : ∀ st r, cfg.absorb st r = .ok (g st r))
    (hfin : ∀ st, cfg.finish st = .ok (fin st)) (hr : Reach cfg s) (hm : s.main = .ret none) :
    ∃ arr : List (Nat × γ), (arr.map Prod.fst).Perm (List.range ys.length) ∧ (∀ r ∈ arr, ys[r.1]? = some r.2) ∧
      Reorder.run arr = ys ∧ s.wst = fin (arr.foldl g cfg.init) :=
  (chain_sound hr).total_writer hys g fin hN habs hfin hm

theorem chain_runSchedule_returns_nil {σ : Type} {cfg : Cfg γ ε σ} (hN : ∀ P ∈ cfg.pools, 1 ≤ P.N)
    (hrf : cfg.readFail = none) (hf : ∀ x ∈ cfg.items, ∃ y, pass cfg.pools x = .ok y)
    (ha : ∀ st r, ∃ st', cfg.absorb st r = .ok st') (hfin : ∀ st, ∃ st', cfg.finish st = .ok st')
    (sched : List Nat) (hlen : μ cfg (init cfg) ≤ sched.length) :
    (runSchedule cfg sched).main = .ret none :=
  (chain_sound (runSchedule_reach cfg sched)).returns_nil hrf hf ha hfin (runSchedule_returns hN sched hlen)

theorem two_pools_pos {P1 P2 : Pool γ ε} (h1 : 1 ≤ P1.N) (h2 : 1 ≤ P2.N) : ∀ P ∈ [P1, P2], 1 ≤ P.N := by
  intro P hP
  simp only [List.mem_cons, List.not_mem_nil, or_false] at hP
  rcases hP with rfl | rfl
  · exact h1
  · exact h2

end chain

end Gofasta.Lemmas.SchedCommands
