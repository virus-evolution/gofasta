import Gofasta.Lemmas.TextFacts
/-
The GFF3 text reader (model of gff.ReadGFF, Gofasta.Model.GffText) reads back what a writer wrote from structured
rows: every column, every tag and value (in their escaped form: the reader never decodes percent-escapes), the ID
map, whatever the line ends (LF / CRLF, final line end or not).  The rows come back unchanged exactly when nothing in them
needed escaping; a line of `maxToken` bytes or more is reported; the `finding_*` theorems are concrete texts that the
reader rejects or changes.
-/
namespace Gofasta.Lemmas.GffRT
open Gofasta Model Model.GffText
open Gofasta.Model.Csv (joinB splitB atoi digitsOf maxInt64)
open Gofasta.Lemmas.CsvRT (splitB_joinB splitB_plain splitB_append_sep forall_mem_joinB head?_joinB_ne atoi_digitsOf digitsOf_ne)

/-- no byte of an escaped text is a control character, ';', '=' or ',' -/
theorem escByte_clean (b : Nat) : ∀ x ∈ escByte b, 32 ≤ x ∧ x ≠ 59 ∧ x ≠ 61 ∧ x ≠ 44 := by
  have hd : ∀ n, 32 ≤ hexDigit n ∧ hexDigit n ≠ 59 ∧ hexDigit n ≠ 61 ∧ hexDigit n ≠ 44 := fun n => by
    unfold hexDigit
    split <;> omega
  unfold escByte
  split
  · exact List.forall_mem_cons.2 ⟨by decide, List.forall_mem_cons.2 ⟨hd _, List.forall_mem_singleton.2 (hd _)⟩⟩
  · next hn =>
    simp only [needsEsc, Bool.or_eq_true, decide_eq_true_eq, beq_iff_eq, not_or] at hn
    exact List.forall_mem_singleton.2 (by omega)

theorem escAttr_clean (s : Bytes) : ∀ x ∈ escAttr s, 32 ≤ x ∧ x ≠ 59 ∧ x ≠ 61 ∧ x ≠ 44 :=
  List.forall_mem_flatMap.2 fun b _ => escByte_clean b

theorem escAttr_cons (b : Nat) (t : Bytes) : escAttr (b :: t) = escByte b ++ escAttr t := List.flatMap_cons

theorem escByte_plain {b : Nat} (h : needsEsc b = false) : escByte b = [b] := by
  rw [escByte, h]
  rfl

theorem escAttr_plain (s : Bytes) (h : ∀ b ∈ s, needsEsc b = false) : escAttr s = s :=
  (flatMap_congr escByte (fun b => [b]) s fun b hb => escByte_plain (h b hb)).trans (List.flatMap_singleton' s)

/-- a tag with its values, as the reader hands them back: still escaped -/
def escPair (a : Bytes × List Bytes) : Bytes × List Bytes := (escAttr a.1, a.2.map escAttr)

theorem values_bytes (vs : List Bytes) : ∀ x ∈ joinB commaB (vs.map escAttr), 32 ≤ x ∧ x ≠ 59 ∧ x ≠ 61 :=
  forall_mem_joinB (by decide) (List.forall_mem_map.2 fun v _ x hx =>
    ⟨(escAttr_clean v x hx).1, (escAttr_clean v x hx).2.1, (escAttr_clean v x hx).2.2.1⟩)

theorem renderAttr_bytes (a : Bytes × List Bytes) : ∀ x ∈ renderAttr a, 32 ≤ x ∧ x ≠ 59 :=
  List.forall_mem_append.2 ⟨fun x hx => ⟨(escAttr_clean a.1 x hx).1, (escAttr_clean a.1 x hx).2.1⟩,
    List.forall_mem_cons.2 ⟨by decide, fun x hx => ⟨(values_bytes a.2 x hx).1, (values_bytes a.2 x hx).2.1⟩⟩⟩

theorem renderAttrs_bytes (as : List (Bytes × List Bytes)) : ∀ x ∈ renderAttrs as, 32 ≤ x :=
  forall_mem_joinB (by decide) (List.forall_mem_map.2 fun a _ x hx => (renderAttr_bytes a x hx).1)

theorem renderAttr_split (a : Bytes × List Bytes) :
    splitB eqB (renderAttr a) = [escAttr a.1, joinB commaB (a.2.map escAttr)] := by
  unfold renderAttr
  rw [splitB_append_sep eqB _ _ (fun b hb => (escAttr_clean a.1 b hb).2.2.1)]
  rw [splitB_plain eqB _ (fun b hb => (values_bytes a.2 b hb).2.2)]

theorem values_split (vs : List Bytes) (hv : vs ≠ []) : splitB commaB (joinB commaB (vs.map escAttr)) = vs.map escAttr :=
  splitB_joinB commaB _ (by simpa using hv) (List.forall_mem_map.2 fun v _ b hb => (escAttr_clean v b hb).2.2.2)

theorem insertKV_new {α : Type} (k : Bytes) (v : α) : ∀ (m : List (Bytes × α)), k ∉ m.map (·.1) →
    insertKV k v m = m ++ [(k, v)] := by
  intro m
  induction m with
  | nil => intro _; rfl
  | cons p t ih =>
    intro h
    obtain ⟨k', v'⟩ := p
    have hk : k' ≠ k := by
      intro e; apply h; simp [e]
    have ht : k ∉ t.map (·.1) := by
      intro e; apply h; simp only [List.map_cons, List.mem_cons]; exact Or.inr e
    simp only [insertKV, hk, if_false, List.cons_append, ih ht]

/-- column nine read back entry by entry: every written tag is new to the reader's map (`Nodup`: the reader keeps one
entry per tag, a repeated tag would replace the earlier one), so it is appended with its values -/
theorem attrsLoop_render : ∀ (as m : List (Bytes × List Bytes)), (∀ a ∈ as, a.2 ≠ []) →
    (m.map (·.1) ++ as.map fun a => escAttr a.1).Nodup → attrsLoop (as.map renderAttr) m = some (m ++ as.map escPair) := by
  intro as
  induction as with
  | nil => intro m _ _; simp [attrsLoop]
  | cons a t ih =>
    intro m hv hnd
    have hnew : escAttr a.1 ∉ m.map (·.1) := by
      intro hmem
      have := (List.nodup_append.1 hnd).2.2 _ hmem (escAttr a.1) (by simp)
      exact this rfl
    simp only [List.map_cons, attrsLoop, renderAttr_split, values_split a.2 (hv a List.mem_cons_self)]
    rw [insertKV_new _ _ m hnew, ih (m ++ [(escAttr a.1, a.2.map escAttr)]) (fun x hx => hv x (List.mem_cons_of_mem _ hx))]
    · simp [escPair]
    · simpa [List.append_assoc] using hnd

theorem parseAttrs_render (as : List (Bytes × List Bytes)) (hne : as ≠ []) (hv : ∀ a ∈ as, a.2 ≠ [])
    (hnd : (as.map fun a => escAttr a.1).Nodup) : parseAttrs (renderAttrs as) = some (as.map escPair) := by
  unfold parseAttrs renderAttrs
  rw [splitB_joinB semiB (as.map renderAttr) (by simpa using hne)]
  · have := attrsLoop_render as [] hv (by simpa using hnd)
    simpa using this
  · exact List.forall_mem_map.2 fun a _ b hb => (renderAttr_bytes a b hb).2

def FieldOk (f : Bytes) : Prop := ∀ b ∈ f, b ≠ 9 ∧ b ≠ 10 ∧ b ≠ 13

/-- a CDS row carries a phase; a phase is 0, 1 or 2 -/
def PhaseOk (r : Row) : Prop := (r.phase = none → r.type ≠ cdsB) ∧ r.phase.getD 0 ≤ 2

/-- a row a writer may hold: the seqid passes the reader's own check, the free-text columns have no TAB / LF / CR,
    the coordinates fit an int64, the strand is one of + - . ?, there is at least one tag, every tag has at least one
    value, no tag twice, and the written line fits the reader's line buffer (fewer than maxToken = 1 MiB bytes, CR included).
    Nothing is asked of the bytes of tags and values: the escaping rule takes care of them. -/
def RowOk (r : Row) : Prop :=
  seqidOk r.seqid = true ∧ FieldOk r.source ∧ FieldOk r.type ∧ r.start ≤ maxInt64 ∧ r.stop ≤ maxInt64 ∧
  FieldOk r.score ∧ strandOk r.strand = true ∧ PhaseOk r ∧ r.attrs ≠ [] ∧ (∀ a ∈ r.attrs, a.2 ≠ []) ∧
  (r.attrs.map fun a => escAttr a.1).Nodup ∧ (renderRow r).length + 1 < maxToken

instance (f : Bytes) : Decidable (FieldOk f) := by unfold FieldOk; infer_instance
instance (r : Row) : Decidable (PhaseOk r) := by unfold PhaseOk; infer_instance
instance (r : Row) : Decidable (RowOk r) := by unfold RowOk; infer_instance

theorem seqid_bytes (f : Bytes) (h : seqidOk f = true) : ∀ b ∈ f, 33 ≤ b ∧ b ≠ 35 := by
  intro b hb
  have := List.all_eq_true.1 h b hb
  simp only [seqidByteOk, Bool.or_eq_true, Bool.and_eq_true, decide_eq_true_eq, beq_iff_eq] at this
  omega

theorem strand_cases (f : Bytes) (h : strandOk f = true) : f = [43] ∨ f = [45] ∨ f = [46] ∨ f = [63] := by
  simpa [strandOk, or_assoc] using h

theorem fieldOk_of_ge (f : Bytes) (h : ∀ b ∈ f, 32 ≤ b) : FieldOk f :=
  fun b hb => by have := h b hb; omega

theorem fieldOk_digits (n : Nat) : FieldOk (digitsOf n) := fun b hb =>
  ⟨digitsOf_ne n 9 (by decide) b hb, digitsOf_ne n 10 (by decide) b hb, digitsOf_ne n 13 (by decide) b hb⟩

theorem rowFields_ok (r : Row) (h : RowOk r) : ∀ p ∈ rowFields r, FieldOk p := by
  obtain ⟨hid, hsrc, htyp, _, _, hsc, hsd, _, _, _, _, _⟩ := h
  simp only [rowFields, List.forall_mem_cons]
  refine ⟨fieldOk_of_ge _ (fun b hb => by have := (seqid_bytes _ hid b hb).1; omega), hsrc, htyp, fieldOk_digits _,
    fieldOk_digits _, hsc, ?_, ?_, fieldOk_of_ge _ (renderAttrs_bytes r.attrs), fun _ h => nomatch h⟩
  · rcases strand_cases _ hsd with e | e | e | e <;> rw [e] <;> decide
  · cases r.phase with
    | none => decide
    | some n => exact fieldOk_digits n

theorem phaseOf_render (r : Row) (h : PhaseOk r) :
    phaseOf r.type (phaseB r.phase) = some ((r.phase.getD 0 : Nat) : Int) := by
  obtain ⟨hcds, hle⟩ := h
  cases hp : r.phase with
  | none =>
    have hd : atoi [dotB] = none := by decide
    simp only [phaseB, phaseOf, hd, hcds hp, ne_eq, not_false_eq_true, and_self, if_true, Option.getD_none]
    rfl
  | some p =>
    rw [hp] at hle
    simp only [Option.getD_some] at hle
    have hm : p ≤ maxInt64 := by unfold maxInt64; omega
    have h0 : (0 : Int) ≤ (p : Int) ∧ (p : Int) ≤ 2 := by omega
    simp only [phaseB, phaseOf, atoi_digitsOf p hm, h0, and_self, if_true, Option.getD_some]

theorem parseFeature_renderRow (r : Row) (h : RowOk r) : parseFeature (renderRow r) = .ok r.toFeature := by
  have hf := rowFields_ok r h
  obtain ⟨hid, _, _, hst, hen, _, hsd, hph, hne, hvals, hnd, _⟩ := h
  unfold parseFeature renderRow
  rw [splitB_joinB tabB (rowFields r) (by simp [rowFields]) (fun p hp b hb => (hf p hp b hb).1)]
  simp only [rowFields, hid, hsd, atoi_digitsOf r.start hst, atoi_digitsOf r.stop hen, phaseOf_render r hph,
    parseAttrs_render r.attrs hne hvals hnd, Bool.not_true, Bool.false_eq_true, if_false]
  rfl

/-- the bound asked of a written line (one byte for a CR, written or not) covers both line ends -/
theorem lines_fit (crlf : Bool) (lines : List Bytes) (h : ∀ l ∈ lines, CleanLine l ∧ l ≠ [] ∧ l.length + 1 < maxToken) :
    ∀ l ∈ lines, CleanLine l ∧ l ≠ [] ∧ l.length + (eolCR crlf).length < maxToken := fun l hl =>
  ⟨(h l hl).1, (h l hl).2.1, by
    cases crlf
    · exact Nat.lt_of_succ_lt (h l hl).2.2
    · exact (h l hl).2.2⟩

theorem scanLines_render (crlf finalEol : Bool) (lines : List Bytes)
    (h : ∀ l ∈ lines, CleanLine l ∧ l ≠ [] ∧ l.length + 1 < maxToken) : scanLines (renderText crlf finalEol lines) = lines :=
  (scan_render crlf finalEol lines (lines_fit crlf lines h)).1

theorem short_lines_unchanged (text : Bytes) (h : ∀ l ∈ splitLinesAux text [], l.length < maxToken) :
    readGFF text = readLines (scanLines text) := by
  unfold readGFF readLines
  rw [tooLong_false_of_short text h]
  cases loop {} (scanLines text) <;> simp

theorem renderRow_bytes (r : Row) (h : RowOk r) : ∀ b ∈ renderRow r, b ≠ 10 ∧ b ≠ 13 :=
  forall_mem_joinB (by decide) fun p hp b hb => (rowFields_ok r h p hp b hb).2

theorem renderRow_ne_nil (r : Row) : renderRow r ≠ [] := by
  unfold renderRow rowFields
  simp [joinB]

theorem renderRow_head (r : Row) (h : RowOk r) : (renderRow r).head? ≠ some 35 :=
  head?_joinB_ne (by decide) fun e => (seqid_bytes r.seqid h.1 35 (List.mem_of_head? e)).2 rfl

theorem hasPrefix_cons_ne (a b : Nat) (p l : Bytes) (h : b ≠ a) : hasPrefix (a :: p) (b :: l) = false := by
  simp only [hasPrefix, List.length_cons, List.take_succ_cons]
  simp [h]

theorem hasPrefix_head_ne (a : Nat) (p l : Bytes) (h : l.head? ≠ some a) : hasPrefix (a :: p) l = false := by
  cases l with
  | nil => simp [hasPrefix]
  | cons b t =>
    apply hasPrefix_cons_ne
    intro e
    apply h
    simp [e]

def Word (w : Bytes) : Prop := ∀ b ∈ w, 33 ≤ b ∧ b ≤ 126

instance (w : Bytes) : Decidable (Word w) := by unfold Word; infer_instance

/-- a byte that starts none of the multi-byte white-space characters of unicode.IsSpace (they are listed at
`FromBytes.NoWideSpace`): at such a byte `spaceLen` looks no further -/
abbrev NarrowByte (b : Nat) : Prop := b ≠ 0xC2 ∧ b ≠ 0xE1 ∧ b ≠ 0xE2 ∧ b ≠ 0xE3

theorem spaceLen_narrow (b : Nat) (t : List Nat) (h : NarrowByte b) : spaceLen (b :: t) = if isSpaceB b then 1 else 0 := by
  simp only [spaceLen, isSpaceB, beq_false_of_ne h.1, beq_false_of_ne h.2.1, beq_false_of_ne h.2.2.1,
    beq_false_of_ne h.2.2.2, Bool.false_eq_true, if_false]
  rfl

theorem fieldsAux_collect (b : Nat) (t cur : Bytes) (hn : NarrowByte b) (hs : isSpaceB b = false) :
    fieldsAux (b :: t) 0 cur = fieldsAux t 0 (b :: cur) := by
  rw [fieldsAux]
  simp [spaceLen_narrow b t hn, hs]

theorem fieldsAux_space (b : Nat) (t cur : Bytes) (hn : NarrowByte b) (hs : isSpaceB b = true) :
    fieldsAux (b :: t) 0 cur = if cur.isEmpty then fieldsAux t 0 [] else cur.reverse :: fieldsAux t 0 [] := by
  rw [fieldsAux]
  simp [spaceLen_narrow b t hn, hs]

theorem fieldsAux_skip : ∀ (s : List Nat), (∀ b ∈ s, NarrowByte b) →
    fieldsAux s 0 [] = fieldsAux (s.dropWhile isSpaceB) 0 []
  | [], _ => rfl
  | b :: t, h => by
    obtain ⟨hb, ht⟩ := List.forall_mem_cons.1 h
    by_cases hs : isSpaceB b = true
    · rw [fieldsAux_space b t [] hb hs, List.dropWhile_cons, if_pos hs]
      exact fieldsAux_skip t ht
    · rw [List.dropWhile_cons, if_neg hs]

theorem fieldsAux_first : ∀ (t cur : List Nat), (∀ b ∈ t, NarrowByte b) → cur ≠ [] →
    (fieldsAux t 0 cur).head? = some (cur.reverse ++ t.takeWhile fun b => !isSpaceB b)
  | [], cur, _, hc => by simp [fieldsAux, hc]
  | b :: u, cur, hn, hc => by
    obtain ⟨hb, hu⟩ := List.forall_mem_cons.1 hn
    by_cases hs : isSpaceB b = true
    · rw [fieldsAux_space b u cur hb hs]
      simp [hc, hs]
    · have hs' : isSpaceB b = false := by simpa using hs
      rw [fieldsAux_collect b u cur hb hs', fieldsAux_first u (b :: cur) hu (List.cons_ne_nil _ _)]
      simp [hs']

theorem word_byte {b : Nat} (h : 33 ≤ b ∧ b ≤ 126) : NarrowByte b ∧ isSpaceB b = false := by
  refine ⟨by omega, ?_⟩
  simp only [isSpaceB, Bool.or_eq_false_iff, beq_eq_false_iff_ne, Bool.and_eq_false_iff, decide_eq_false_iff_not]
  omega

theorem fieldsAux_word : ∀ (w rest cur : Bytes), Word w → fieldsAux (w ++ rest) 0 cur = fieldsAux rest 0 (w.reverse ++ cur)
  | [], rest, cur, _ => rfl
  | b :: t, rest, cur, h => by
    obtain ⟨hb, ht⟩ := List.forall_mem_cons.1 h
    rw [List.cons_append, fieldsAux_collect b _ cur (word_byte hb).1 (word_byte hb).2, fieldsAux_word t rest (b :: cur) ht]
    simp

theorem fields_two (a v : Bytes) (ha : Word a) (hane : a ≠ []) (hv : Word v) (hvne : v ≠ []) :
    fields (a ++ 32 :: v) = [a, v] := by
  have := fieldsAux_word v [] [] hv
  rw [List.append_nil] at this
  rw [fields, fieldsAux_word a (32 :: v) [] ha, fieldsAux_space 32 v _ (by decide) (by decide), this]
  simp [fieldsAux, hane, hvne]

/-- the version written after "##gff-version ": a non-empty word of printable ASCII, short enough for the line buffer -/
def VerOk (ver : Bytes) : Prop := ver ≠ [] ∧ Word ver ∧ (versionPrefix ++ ver).length + 1 < maxToken

instance (ver : Bytes) : Decidable (VerOk ver) := by unfold VerOk; infer_instance

/-- the header line as the reader keeps it: without the ## -/
def headerLine (ver : Bytes) : Bytes := versionTag ++ 32 :: ver

/-- the reader's state after the version line -/
def st0 (ver : Bytes) : St := { hdr := [headerLine ver] }

/-- the reader's state once the first feature line has opened the body (`openBody`), with the features `feats`
appended so far -/
def st1 (ver : Bytes) (feats : List Feature) : St :=
  { first := false, hdr := [headerLine ver], version := ver, headers := [headerLine ver], feats := feats }

def expected (ver : Bytes) (rows : List Row) : GFF :=
  { version := ver, headers := [headerLine ver], comments := [], regions := [],
    features := rows.map Row.toFeature, idmap := idMap (rows.map Row.toFeature), fasta := [] }

theorem step_version (ver : Bytes) : step {} (versionPrefix ++ ver) = .ok (st0 ver) := by
  have h1 : hasPrefix fastaTag (versionPrefix ++ ver) = false := rfl
  have h2 : hasPrefix [hashB, hashB] (versionPrefix ++ ver) = true := rfl
  unfold step
  simp only [h1, h2, Bool.false_eq_true, if_false, if_true]
  rfl

theorem openBody_st0 (ver : Bytes) (hv : VerOk ver) : openBody (st0 ver) = .ok (st1 ver []) := by
  have hp : hasPrefix versionTag (headerLine ver) = true := rfl
  have hf : fields (headerLine ver) = [versionTag, ver] :=
    fields_two versionTag ver (by decide) (by decide) hv.2.1 hv.1
  have hr : hasPrefix regionTag (headerLine ver) = false := hasPrefix_cons_ne 115 103 _ _ (by decide)
  unfold openBody
  simp only [st0, versionOf, hp, hf, regionsLoop, hr, if_true, Bool.false_eq_true, if_false]
  rfl

/-- a feature line with what the line parser makes of it: it does not start with '#', so it is no directive, no
comment and not the ##FASTA line -/
def FeatLine (l : Bytes) (f : Feature) : Prop := l.head? ≠ some 35 ∧ parseFeature l = .ok f

theorem step_featLine {s : St} {l : Bytes} {f : Feature} (hs : s.inFasta = false) (h : FeatLine l f) :
    step s l = (if s.first then openBody s else .ok s).bind fun s1 => .ok { s1 with feats := s1.feats ++ [f] } := by
  unfold step
  simp only [hs, hasPrefix_head_ne _ _ _ h.1, fastaTag, hashB, h.2, Bool.false_eq_true, if_false]
  cases (if s.first = true then openBody s else Except.ok s) <;> rfl

theorem loop_featLines {α : Type} (line : α → Bytes) (feat : α → Feature) : ∀ (xs : List α) (s : St) (rest : List Bytes),
    s.inFasta = false → s.first = false → (∀ x ∈ xs, FeatLine (line x) (feat x)) →
    loop s (xs.map line ++ rest) = loop { s with feats := s.feats ++ xs.map feat } rest
  | [], s, rest, _, _, _ => by simp
  | x :: t, s, rest, hs, hf, h => by
    obtain ⟨hx, ht⟩ := List.forall_mem_cons.1 h
    have e : step s (line x) = .ok { s with feats := s.feats ++ [feat x] } := by
      simp only [step_featLine hs hx, hf, Bool.false_eq_true, if_false, Except.bind]
    rw [List.map_cons, List.cons_append, loop, e]
    simp only
    rw [loop_featLines line feat t { s with feats := s.feats ++ [feat x] } rest hs hf ht]
    simp

theorem loop_file {α : Type} (line : α → Bytes) (feat : α → Feature) (ver : Bytes) (hv : VerOk ver) (x : α) (xs : List α)
    (rest : List Bytes) (h : ∀ y ∈ x :: xs, FeatLine (line y) (feat y)) :
    loop {} ((versionPrefix ++ ver) :: ((x :: xs).map line ++ rest)) = loop (st1 ver ((x :: xs).map feat)) rest := by
  obtain ⟨hx, ht⟩ := List.forall_mem_cons.1 h
  have h0 : (st0 ver).first = true := rfl
  simp only [List.map_cons, List.cons_append, loop, step_version, step_featLine (s := st0 ver) rfl hx, h0, if_true,
    openBody_st0 ver hv, Except.bind]
  exact loop_featLines line feat xs (st1 ver [feat x]) rest rfl rfl ht

theorem featLine_renderRow (r : Row) (h : RowOk r) : FeatLine (renderRow r) r.toFeature :=
  ⟨renderRow_head r h, parseFeature_renderRow r h⟩

theorem renderLines_clean (ver : Bytes) (rows : List Row) (hv : VerOk ver) (h : ∀ r ∈ rows, RowOk r) :
    ∀ l ∈ GffText.renderLines ver rows, CleanLine l ∧ l ≠ [] ∧ l.length + 1 < maxToken := by
  refine List.forall_mem_cons.2 ⟨⟨cleanLine_of _ (List.forall_mem_append.2 ⟨by decide, fun b hb => ?_⟩),
    by simp [versionPrefix], hv.2.2⟩, List.forall_mem_map.2 fun r hr =>
      ⟨cleanLine_of _ (renderRow_bytes r (h r hr)), renderRow_ne_nil r, (h r hr).2.2.2.2.2.2.2.2.2.2.2⟩⟩
  have := hv.2.1 b hb
  omega

/-- for every version word and every non-empty list of well-formed rows, written with LF or CRLF
line ends, with or without a final line end: ReadGFF returns the version, the one header line, no comments, no
sequence regions, no FASTA, and - in file order - every row with all nine columns (an absent phase as 0, tags and
values in their ESCAPED form: the reader does not decode percent-escapes), plus the ID map of those features. -/
theorem gff_roundtrip (crlf finalEol : Bool) (ver : Bytes) (rows : List Row) (hv : VerOk ver) (hne : rows ≠ [])
    (h : ∀ r ∈ rows, RowOk r) :
    readGFF (renderText crlf finalEol (GffText.renderLines ver rows)) = .ok (expected ver rows) := by
  obtain ⟨e1, e2⟩ := scan_render crlf finalEol _ (lines_fit crlf _ (renderLines_clean ver rows hv h))
  obtain ⟨r, t, rfl⟩ := List.exists_cons_of_ne_nil hne
  have := loop_file renderRow Row.toFeature ver hv r t [] fun y hy => featLine_renderRow y (h y hy)
  rw [List.append_nil] at this
  rw [readGFF, e1, e2, GffText.renderLines, this]
  rfl

theorem render_eq_renderText (ver : Bytes) (rows : List Row) :
    render ver rows = renderText false true (GffText.renderLines ver rows) :=
  (Gofasta.Lemmas.renderText_lf _).symm

/-- the canonical layout (the bytes the generator of stream C14gff writes, checked case by case by the driver) -/
theorem gff_roundtrip_canonical (ver : Bytes) (rows : List Row) (hv : VerOk ver) (hne : rows ≠ [])
    (h : ∀ r ∈ rows, RowOk r) : readGFF (render ver rows) = .ok (expected ver rows) := by
  rw [render_eq_renderText]
  exact gff_roundtrip false true ver rows hv hne h

/-! ### when is the round trip exact? -/

def PlainText (s : Bytes) : Prop := ∀ b ∈ s, needsEsc b = false

instance (s : Bytes) : Decidable (PlainText s) := by unfold PlainText; infer_instance

def AttrsPlain (r : Row) : Prop := ∀ a ∈ r.attrs, PlainText a.1 ∧ ∀ v ∈ a.2, PlainText v

instance (r : Row) : Decidable (AttrsPlain r) := by unfold AttrsPlain; infer_instance

theorem escAttr_length_ge : ∀ (s : Bytes), s.length ≤ (escAttr s).length
  | [] => Nat.le_refl _
  | b :: t => by
    have : 1 ≤ (escByte b).length := by unfold escByte; split <;> simp
    have := escAttr_length_ge t
    rw [escAttr_cons, List.length_append, List.length_cons]
    omega

/-- escaping changes every text that needs it (it makes it longer) -/
theorem escAttr_fixed : ∀ (s : Bytes), escAttr s = s → PlainText s
  | [], _ => fun _ hb => nomatch hb
  | b :: t, h => by
    rw [escAttr_cons] at h
    by_cases hn : needsEsc b = true
    · have hl := congrArg List.length h
      have := escAttr_length_ge t
      simp only [escByte, hn, if_true, List.length_append, List.length_cons, List.length_nil] at hl
      omega
    · have hn' : needsEsc b = false := by simpa using hn
      rw [escByte_plain hn'] at h
      exact List.forall_mem_cons.2 ⟨hn', escAttr_fixed t (List.cons.inj h).2⟩

theorem escAttr_eq_self (s : Bytes) : escAttr s = s ↔ PlainText s := ⟨escAttr_fixed s, escAttr_plain s⟩

theorem toFeature_raw_iff (r : Row) : r.toFeature = r.toFeatureRaw ↔ AttrsPlain r := by
  have h1 : r.toFeature = r.toFeatureRaw ↔ r.attrs.map escPair = r.attrs :=
    ⟨fun h => congrArg Feature.attrs h, fun h => by simp only [Row.toFeatureRaw, Row.toFeature]; exact congrArg _ h⟩
  have h2 : ∀ a : Bytes × List Bytes, escPair a = a ↔ PlainText a.1 ∧ ∀ v ∈ a.2, PlainText v := fun a => by
    rw [Prod.ext_iff]
    simp only [escPair, escAttr_eq_self, map_eq_self]
  rw [h1, map_eq_self]
  exact forall_congr' fun a => imp_congr_right fun _ => h2 a

/-- rows whose tags and values need no escaping are read back as they are -/
theorem gff_roundtrip_exact (crlf finalEol : Bool) (ver : Bytes) (rows : List Row) (hv : VerOk ver) (hne : rows ≠ [])
    (h : ∀ r ∈ rows, RowOk r) (hp : ∀ r ∈ rows, AttrsPlain r) :
    ∃ g, readGFF (renderText crlf finalEol (GffText.renderLines ver rows)) = .ok g ∧ g.version = ver ∧
      g.features = rows.map Row.toFeatureRaw := by
  refine ⟨expected ver rows, gff_roundtrip crlf finalEol ver rows hv hne h, rfl, ?_⟩
  simp only [expected]
  apply List.map_congr_left
  intro r hr
  exact (toFeature_raw_iff r).2 (hp r hr)

/-- and ONLY those: as soon as one tag or value of one row needed escaping, the features of `expected` - which
ReadGFF hands back, by `gff_roundtrip` - differ from the rows (the escaped text comes back) -/
theorem gff_roundtrip_escaped_differs (ver : Bytes) (rows : List Row) (r : Row) (hr : r ∈ rows) (hesc : ¬ AttrsPlain r) :
    (expected ver rows).features ≠ rows.map Row.toFeatureRaw := by
  intro h
  simp only [expected] at h
  have : ∀ x ∈ rows, x.toFeature = x.toFeatureRaw := List.map_inj_left.1 h
  exact hesc ((toFeature_raw_iff r).1 (this r hr))

/-! ### an over-long line is reported

A reader that never looks at Scanner.Err (gofasta before the repair of finding F-C14c) drops a line of `maxToken`
bytes or more and everything after it without an error. The reader reports such a line (`long_line_reported`); the
scanner itself delivers only the lines before the long one (`scanLines_long_line`). -/

theorem long_line_result (text : Bytes) (h : ∃ l ∈ splitLinesAux text [], maxToken ≤ l.length) :
    readGFF text = match loop {} (scanLines text) with
      | .error e => .error e
      | .ok _ => .error .tooLong := by
  unfold readGFF
  rw [(tooLong_iff text).2 h]
  cases loop {} (scanLines text) <;> simp

/-- a text that holds a line of `maxToken` bytes or more (raw length, a trailing CR
included) is never read as a success: the result is bufio.ErrTooLong, or another error `e`, and then `e` was raised
by the loop over the lines the scanner delivered, which are lines BEFORE the first long one (`scanLines` is a
`takeWhile`; see also `scanLines_long_line`) -/
theorem long_line_reported (text : Bytes) (h : ∃ l ∈ splitLinesAux text [], maxToken ≤ l.length) :
    readGFF text = .error .tooLong ∨
      ∃ e, e ≠ .tooLong ∧ readGFF text = .error e ∧ loop {} (scanLines text) = .error e := by
  rw [long_line_result text h]
  cases loop {} (scanLines text) with
  | ok s => exact Or.inl rfl
  | error e =>
    -- should `e` be the scanner's error itself, the first case holds
    by_cases he : e = .tooLong
    · exact Or.inl (he ▸ rfl)
    · exact Or.inr ⟨e, he, rfl, rfl⟩

theorem long_line_never_ok (text : Bytes) (h : ∃ l ∈ splitLinesAux text [], maxToken ≤ l.length) :
    ∃ e, readGFF text = .error e := by
  rcases long_line_reported text h with h | ⟨e, _, h, _⟩
  · exact ⟨_, h⟩
  · exact ⟨e, h⟩

/-- with a long line `l` after the text `a`: never the result of `a` alone when that was a success -/
theorem long_line_reported_after (a l rest : Bytes) (hl : ∀ b ∈ l, b ≠ 10) (hlen : maxToken ≤ l.length) :
    readGFF (a ++ 10 :: (l ++ 10 :: rest)) = match loop {} (scanLines (a ++ [10])) with
      | .error e => .error e
      | .ok _ => .error .tooLong := by
  rw [long_line_result _ ⟨l, long_line_mem a l rest hl, hlen⟩, scanLines_long_line a l rest hl hlen]

/-! ### concrete texts: GFF3 that the reader rejects or changes (each is reproduced on the Go code by stream C14gff) -/

/-- `Name=a%3Bb` comes back as the five bytes a%3Bb, not as a;b -/
theorem finding_escape_not_decoded :
    readGFF [35, 35, 103, 102, 102, 45, 118, 101, 114, 115, 105, 111, 110, 32, 51, 10, 99, 104, 114, 49, 9, 46, 9, 103, 101,
      110, 101, 9, 49, 9, 57, 9, 46, 9, 43, 9, 46, 9, 78, 97, 109, 101, 61, 97, 37, 51, 66, 98, 10] =
    .ok { version := [51], headers := [[103, 102, 102, 45, 118, 101, 114, 115, 105, 111, 110, 32, 51]], comments := [],
          regions := [], idmap := [], fasta := [],
          features := [{ seqid := [99, 104, 114, 49], source := [46], type := [103, 101, 110, 101], start := 1, stop := 9,
                         score := [46], strand := [43], phase := 0,
                         attrs := [([78, 97, 109, 101], [[97, 37, 51, 66, 98]])] }] } := by decide +kernel

/-- a trailing ';' in column nine (`ID=g1;`) is an attributes error -/
theorem finding_trailing_semicolon :
    readGFF [35, 35, 103, 102, 102, 45, 118, 101, 114, 115, 105, 111, 110, 32, 51, 10, 99, 104, 114, 49, 9, 46, 9, 103, 101,
      110, 101, 9, 49, 9, 57, 9, 46, 9, 43, 9, 46, 9, 73, 68, 61, 103, 49, 59, 10] = .error .attrs := by decide +kernel

/-- column nine "." (no attributes) is an attributes error -/
theorem finding_no_attributes :
    readGFF [35, 35, 103, 102, 102, 45, 118, 101, 114, 115, 105, 111, 110, 32, 51, 10, 99, 104, 114, 49, 9, 46, 9, 103, 101,
      110, 101, 9, 49, 9, 57, 9, 46, 9, 43, 9, 46, 9, 46, 10] = .error .attrs := by decide +kernel

/-- an empty line is taken for a feature line: wrong number of fields -/
theorem finding_blank_line :
    readGFF [35, 35, 103, 102, 102, 45, 118, 101, 114, 115, 105, 111, 110, 32, 51, 10, 10, 99, 104, 114, 49, 9, 46, 9, 103,
      101, 110, 101, 9, 49, 9, 57, 9, 46, 9, 43, 9, 46, 9, 73, 68, 61, 103, 49, 10] = .error .nfields := by decide +kernel

/-- the seqid `chr-1` is rejected: in the pattern, `?-|` is a range, so '-' itself is not in the accepted set -/
theorem finding_hyphen_in_seqid :
    readGFF [35, 35, 103, 102, 102, 45, 118, 101, 114, 115, 105, 111, 110, 32, 51, 10, 99, 104, 114, 45, 49, 9, 46, 9, 103,
      101, 110, 101, 9, 49, 9, 57, 9, 46, 9, 43, 9, 46, 9, 73, 68, 61, 103, 49, 10] = .error .seqid := by decide +kernel

/-- without a feature line nothing of the header is looked at: a malformed version directive passes, and neither the
header lines nor the comments are returned -/
theorem finding_header_unchecked_without_features :
    readGFF [35, 35, 103, 102, 102, 45, 118, 101, 114, 115, 105, 111, 110, 10, 35, 32, 110, 111, 116, 104, 105, 110, 103, 32,
      101, 108, 115, 101, 10] =
    .ok { version := [], headers := [], comments := [], regions := [], features := [], idmap := [], fasta := [] } := by
  decide +kernel

/-- a FASTA section with two sequences of different length (two contigs) is rejected: the section is read with the
ALIGNMENT reader -/
theorem finding_fasta_contigs :
    readGFF [35, 35, 103, 102, 102, 45, 118, 101, 114, 115, 105, 111, 110, 32, 51, 10, 99, 104, 114, 49, 9, 46, 9, 103, 101,
      110, 101, 9, 49, 9, 57, 9, 46, 9, 43, 9, 46, 9, 73, 68, 61, 103, 49, 10, 35, 35, 70, 65, 83, 84, 65, 10, 62, 99, 104,
      114, 49, 10, 65, 67, 71, 84, 10, 62, 99, 104, 114, 50, 10, 65, 67, 71, 84, 65, 10] = .error .faDiffLen := by
  decide +kernel

/-! ### the hypotheses can be met (and checked by evaluation) -/

/-- chr1 / RefSeq / CDS / 266..21555 / . / + / 0 / ID=cds-1;Parent=g1,g2;Note=a;b -/
def sampleRow : Row :=
  { seqid := [99, 104, 114, 49], source := [82, 101, 102, 83, 101, 113], type := [67, 68, 83], start := 266, stop := 21555,
    score := [46], strand := [43], phase := some 0,
    attrs := [([73, 68], [[99, 100, 115, 45, 49]]), ([80, 97, 114, 101, 110, 116], [[103, 49], [103, 50]]),
              ([78, 111, 116, 101], [[97, 59, 98]])] }

theorem sampleRow_ok : RowOk sampleRow := by decide +kernel

theorem sampleVer_ok : VerOk [51] := by decide +kernel

/-- the sample row needs escaping (Note=a;b is written Note=a%3Bb), so it is read back in escaped form -/
theorem sampleRow_not_plain : ¬ AttrsPlain sampleRow := by decide +kernel

theorem sample_roundtrip : readGFF (render [51] [sampleRow]) = .ok (expected [51] [sampleRow]) :=
  gff_roundtrip_canonical [51] [sampleRow] sampleVer_ok (List.cons_ne_nil _ _) (List.forall_mem_singleton.2 sampleRow_ok)

end Gofasta.Lemmas.GffRT
