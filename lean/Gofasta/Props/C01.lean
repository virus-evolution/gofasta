import Gofasta.Lemmas.Reorder
import Gofasta.Model.Sam
import Gofasta.Spec.Sam
/-
C01 — sam toMultiAlign projects every query onto reference coordinates exactly.
Here: the operator table against the generated one, the spans of a CIGAR, and the per-column rule. The theorems about the
row of one record are in Lemmas/SamWalk, those about any number of records and the command in Lemmas/SamFlatten.
-/
namespace Gofasta.Props.C01
open Gofasta Base Model Spec

/-- the no-insertion operator table as the SAM specification defines it, for M I D N S H P = X:
    (operator, consumes query, consumes reference, query-row kind, reference-row kind) where the query row gets the
    aligned bases (1) for M = X, '-' (2) for D, no-coverage (3) for N and nothing (0) for I S H P; the
    reference-row kind of `Model.opEntry` is 0 throughout, since toMultiAlign writes no reference row -/
def samNoIns : List (Nat × Bool × Bool × Nat × Nat) :=
  [(0, true, true, 1, 0), (1, true, false, 0, 0), (2, false, true, 2, 0), (3, false, true, 3, 0), (4, true, false, 0, 0),
   (5, false, false, 0, 0), (6, false, false, 0, 0), (7, true, true, 1, 0), (8, true, true, 1, 0)]

/-- its consumption flags are those of SAMv1 §1.4.6 -/
theorem samNoIns_consumes : samNoIns.all (fun e => (e.2.1, e.2.2.1) == opConsumes e.1) = true := by decide

/-- **C01.op_table_is_sam** — the operator table regenerated from the Go source is the SAM semantics -/
theorem op_table_is_sam : Gen.cigarTab0 = samNoIns := by decide

theorem opEntry_mem {tab : List (Nat × Bool × Bool × Nat × Nat)} {op : Nat} {x : Bool × Bool × Nat × Nat}
    (h : opEntry tab op = some x) : (op, x) ∈ tab := by
  obtain ⟨e, hf, rfl⟩ := Option.map_eq_some_iff.1 h
  have hop : e.1 = op := by simpa using List.find?_some hf
  exact hop ▸ List.mem_of_find?_eq_some hf

theorem opEntry_eq_none {tab : List (Nat × Bool × Bool × Nat × Nat)} {op : Nat} (h : ∀ e ∈ tab, e.1 ≠ op) :
    opEntry tab op = none := by
  unfold opEntry
  rw [List.find?_eq_none.2 fun e he => by simpa using h e he]
  rfl

/-- reference bases spanned by a CIGAR under a table -/
def refSpan (tab : List (Nat × Bool × Bool × Nat × Nat)) : List (Nat × Nat) → Nat
  | [] => 0
  | (op, len) :: rest => (match opEntry tab op with | some (_, true, _, _) => len | _ => 0) + refSpan tab rest

/-- query bases consumed by a CIGAR under a table -/
def qSpan (tab : List (Nat × Bool × Bool × Nat × Nat)) : List (Nat × Nat) → Nat
  | [] => 0
  | (op, len) :: rest => (match opEntry tab op with | some (true, _, _, _) => len | _ => 0) + qSpan tab rest

theorem refSpan_cons (tab : List (Nat × Bool × Bool × Nat × Nat)) (c : Nat × Nat) (t : List (Nat × Nat)) :
    refSpan tab (c :: t) = refSpan tab [c] + refSpan tab t := by
  simp only [refSpan, Nat.add_zero]

theorem qSpan_cons (tab : List (Nat × Bool × Bool × Nat × Nat)) (c : Nat × Nat) (t : List (Nat × Nat)) :
    qSpan tab (c :: t) = qSpan tab [c] + qSpan tab t := by
  simp only [qSpan, Nat.add_zero]

/-- **C01.skip_flags** — records flagged unmapped (0x4) or secondary (0x100) never contribute: removing
them from the input, wherever they sit, changes nothing -/
theorem skip_flags (recs : List SamRec) : samBlocks (recs.filter fun r => !isSkipped r) = samBlocks recs := by
  unfold samBlocks
  rw [List.filter_filter]
  simp

/-- **C01.flatten_conflict** — per-column rule over a query's records: two different letters give 'N' -/
theorem flatten_conflict (site : List Nat) (h : ((site.eraseDups).filter isLetter).length > 1) :
    flattenSite site = letN := by
  simp [flattenSite, h]

/-- otherwise the largest byte present wins -/
theorem flatten_max (site : List Nat) (h : ¬ ((site.eraseDups).filter isLetter).length > 1) :
    flattenSite site = (site.eraseDups).foldl max 0 := by
  simp [flattenSite, h]

/-- letters (≥ 65) beat '-' (45), which beats '*' (42) -/
theorem letter_beats_gap (b : Nat) (h : isLetter b = true) : dash < b ∧ star < dash := by
  unfold isLetter at h
  simp only [Bool.or_eq_true, Bool.and_eq_true, decide_eq_true_eq] at h
  unfold dash star
  omega

/-- **C01.rows_in_input_order** — fastaio.WriteAlignment / WriteWrapAlignment (L-reorder instance) -/
theorem rows_in_input_order (rows : Nat → String) (n : Nat) (arrival : List Nat)
    (h : arrival.Perm (List.range n)) :
    Reorder.run (arrival.map fun i => (i, rows i)) = (List.range n).map rows :=
  Reorder.run_perm rows n arrival h

/-- non-vacuity: POS 3, 2S3M1I2D2N1M on a 12-base reference -/
def exRec : SamRec := ⟨"q", 0, 2, [(4, 2), (0, 3), (1, 1), (2, 2), (3, 2), (0, 1)], [78, 78, 65, 67, 71, 84, 84]⟩

example : walkNoIns exRec 12 = [42, 42, 65, 67, 71, 45, 45, 42, 42, 84, 42, 42] ∧
    qSpan samNoIns exRec.cigar ≤ exRec.seq.length ∧ exRec.pos + refSpan samNoIns exRec.cigar ≤ 12 := by decide

end Gofasta.Props.C01
