import Gofasta.Model.Sam
import Gofasta.Spec.Sam
import Gofasta.Props.C02
import Gofasta.Lemmas.ListFacts
/-
C01 for one record. The CIGAR walk of the model writes, at every reference position it spans, exactly what the SAM
alignment relation (Spec.covList) says about that position (`walk_cov`, `walk_row`); then, for the row of a block
written with '*' for no coverage (`starRow`), the --pad rule and the flank rule of the model are the specification's
(`swapNs_starRow`, `swapGaps_starRow`), which closes the case of a query with a single record (`single_record_row`).
-/
namespace Gofasta.Lemmas
open Gofasta Model Spec Gofasta.Props.C01 Gofasta.Props.C02

/-- `op_cases` for the toMultiAlign table alone, with I and S taken together: both consume the query and write nothing -/
theorem opEntry_noins_cases (op : Nat) :
    (op = 0 ∨ op = 7 ∨ op = 8) ∧ opEntry samNoIns op = some (true, true, 1, 0) ∨
    op = 2 ∧ opEntry samNoIns op = some (false, true, 2, 0) ∨
    op = 3 ∧ opEntry samNoIns op = some (false, true, 3, 0) ∨
    (op = 1 ∨ op = 4) ∧ opEntry samNoIns op = some (true, false, 0, 0) ∨
    (op = 5 ∨ op = 6) ∧ opEntry samNoIns op = some (false, false, 0, 0) ∨
    9 ≤ op ∧ opEntry samNoIns op = none := by
  rcases op_cases op with ⟨h, e, _⟩ | ⟨h, e, _⟩ | ⟨h, e, _⟩ | ⟨h, e, _⟩ | ⟨h, e, _⟩ | ⟨h, e, _⟩ | ⟨h, e, _⟩
  · exact .inl ⟨h, e⟩
  · exact .inr (.inr (.inr (.inl ⟨.inl h, e⟩)))
  · exact .inr (.inl ⟨h, e⟩)
  · exact .inr (.inr (.inl ⟨h, e⟩))
  · exact .inr (.inr (.inr (.inl ⟨.inr h, e⟩)))
  · exact .inr (.inr (.inr (.inr (.inl ⟨h, e⟩))))
  · exact .inr (.inr (.inr (.inr (.inr ⟨h, e⟩))))

theorem opEntry_big (op : Nat) (h : 9 ≤ op) : opEntry samNoIns op = none := by
  rcases opEntry_noins_cases op with ⟨_, _⟩ | ⟨_, _⟩ | ⟨_, _⟩ | ⟨_, _⟩ | ⟨_, _⟩ | ⟨_, e⟩
  all_goals first | exact e | omega

theorem spans_cons : ∀ (op len : Nat) (rest : List (Nat × Nat)),
    qSpan samNoIns ((op, len) :: rest) =
      (if op = 0 ∨ op = 1 ∨ op = 4 ∨ op = 7 ∨ op = 8 then len else 0) + qSpan samNoIns rest ∧
    refSpan samNoIns ((op, len) :: rest) =
      (if op = 0 ∨ op = 2 ∨ op = 3 ∨ op = 7 ∨ op = 8 then len else 0) + refSpan samNoIns rest
  | 0, _, _ | 1, _, _ | 2, _, _ | 3, _, _ | 4, _, _ | 5, _, _ | 6, _, _ | 7, _, _ | 8, _, _ => ⟨rfl, rfl⟩
  | op + 9, len, rest => by
    simp only [qSpan, refSpan, opEntry_big (op + 9) (Nat.le_add_left 9 op)]
    rw [if_neg (by omega), if_neg (by omega)]
    exact ⟨rfl, rfl⟩

theorem covList_M (seq : List Nat) (op len : Nat) (rest : List (Nat × Nat)) (q r : Nat) (h : op = 0 ∨ op = 7 ∨ op = 8) :
    covList seq ((op, len) :: rest) q r =
      ((List.range len).map fun k => (r + k, Cov.base (seq.getD (q + k) 0))) ++ covList seq rest (q + len) (r + len) := by
  rcases h with rfl | rfl | rfl <;> rfl

theorem covList_D (seq : List Nat) (len : Nat) (rest : List (Nat × Nat)) (q r : Nat) :
    covList seq ((2, len) :: rest) q r = ((List.range len).map fun k => (r + k, Cov.del)) ++ covList seq rest q (r + len) := rfl

theorem covList_N (seq : List Nat) (len : Nat) (rest : List (Nat × Nat)) (q r : Nat) :
    covList seq ((3, len) :: rest) q r = covList seq rest q (r + len) := rfl

theorem covList_IS (seq : List Nat) (op len : Nat) (rest : List (Nat × Nat)) (q r : Nat) (h : op = 1 ∨ op = 4) :
    covList seq ((op, len) :: rest) q r = covList seq rest (q + len) r := by
  rcases h with rfl | rfl <;> rfl

theorem covList_other (seq : List Nat) (op len : Nat) (rest : List (Nat × Nat)) (q r : Nat) (h : (op = 5 ∨ op = 6) ∨ 9 ≤ op) :
    covList seq ((op, len) :: rest) q r = covList seq rest q r := by
  rcases h with (rfl | rfl) | h
  · rfl
  · rfl
  · obtain ⟨n, rfl⟩ := Nat.exists_eq_add_of_le' h
    rfl

theorem mem_run {f : Nat → Cov} {r len : Nat} {e : Nat × Cov} (h : e ∈ (List.range len).map fun k => (r + k, f k)) :
    ∃ k, k < len ∧ e = (r + k, f k) := by
  obtain ⟨k, hk, rfl⟩ := List.mem_map.1 h
  exact ⟨k, List.mem_range.1 hk, rfl⟩

theorem mem_covList (seq : List Nat) : ∀ (cigar : List (Nat × Nat)) (q r : Nat), ∀ e ∈ covList seq cigar q r,
    r ≤ e.1 ∧ e.1 < r + refSpan samNoIns cigar ∧
      (q + qSpan samNoIns cigar ≤ seq.length → ∀ b, e.2 = .base b → b ∈ seq) := by
  intro cigar
  induction cigar with
  | nil => intro q r e he; cases he
  | cons c rest ih =>
    intro q r e he
    obtain ⟨op, len⟩ := c
    have later : ∀ dq dr, qSpan samNoIns ((op, len) :: rest) = dq + qSpan samNoIns rest →
        refSpan samNoIns ((op, len) :: rest) = dr + refSpan samNoIns rest → e ∈ covList seq rest (q + dq) (r + dr) →
        r ≤ e.1 ∧ e.1 < r + refSpan samNoIns ((op, len) :: rest) ∧
          (q + qSpan samNoIns ((op, len) :: rest) ≤ seq.length → ∀ b, e.2 = .base b → b ∈ seq) := by
      intro dq dr hq hr h
      obtain ⟨h1, h2, h3⟩ := ih _ _ e h
      rw [hq, hr]
      exact ⟨by omega, by omega, fun hq' => h3 (by omega)⟩
    rcases opEntry_noins_cases op with ⟨ho, hen⟩ | ⟨rfl, hen⟩ | ⟨rfl, hen⟩ | ⟨ho, hen⟩ | ⟨ho, hen⟩ | ⟨ho, hen⟩
    · rw [covList_M _ _ _ _ _ _ ho] at he
      rcases List.mem_append.1 he with h | h
      · obtain ⟨k, hk, rfl⟩ := mem_run h
        simp only [refSpan, qSpan, hen]
        refine ⟨by omega, by omega, fun hq b hb => ?_⟩
        cases hb
        have hlt : q + k < seq.length := by omega
        rw [List.getD_eq_getElem?_getD, List.getElem?_eq_getElem hlt]
        exact List.getElem_mem hlt
      · exact later len len (by simp only [qSpan, hen]) (by simp only [refSpan, hen]) h
    · rw [covList_D] at he
      rcases List.mem_append.1 he with h | h
      · obtain ⟨k, hk, rfl⟩ := mem_run h
        simp only [refSpan, hen]
        exact ⟨by omega, by omega, fun _ b hb => by cases hb⟩
      · exact later 0 len (by simp only [qSpan, hen]) (by simp only [refSpan, hen]) h
    · exact later 0 len (by simp only [qSpan, hen]) (by simp only [refSpan, hen]) he
    · rw [covList_IS _ _ _ _ _ _ ho] at he
      exact later len 0 (by simp only [qSpan, hen]) (by simp only [refSpan, hen]) he
    · rw [covList_other _ _ _ _ _ _ (.inl ho)] at he
      exact later 0 0 (by simp only [qSpan, hen]) (by simp only [refSpan, hen]) he
    · rw [covList_other _ _ _ _ _ _ (.inr ho)] at he
      exact later 0 0 (by simp only [qSpan, hen]) (by simp only [refSpan, hen]) he

theorem covList_ge (seq : List Nat) : ∀ (cigar : List (Nat × Nat)) (q r : Nat), ∀ e ∈ covList seq cigar q r, r ≤ e.1 :=
  fun cigar q r e he => (mem_covList seq cigar q r e he).1

theorem covList_lt (seq : List Nat) : ∀ (cigar : List (Nat × Nat)) (q r : Nat), ∀ e ∈ covList seq cigar q r,
    e.1 < r + refSpan samNoIns cigar :=
  fun cigar q r e he => (mem_covList seq cigar q r e he).2.1

def covByte : Option Cov → Nat
  | some (.base b) => b
  | some .del => dash
  | none => star

/-- `covAt` on a bare list of entries (`covAt_eq_lookup`), so that the induction over the CIGAR can speak of `covList` -/
def covLookup (l : List (Nat × Cov)) (i : Nat) : Option Cov := (l.find? fun e => e.1 == i).map (·.2)

theorem covAt_eq_lookup (rec : SamRec) (i : Nat) : covAt rec i = covLookup (covOf rec) i := rfl

theorem mem_covOf {rec : SamRec} {i : Nat} {c : Cov} (h : covAt rec i = some c) : (i, c) ∈ covOf rec := by
  obtain ⟨e, hf, rfl⟩ := Option.map_eq_some_iff.1 h
  obtain rfl : e.1 = i := beq_iff_eq.1 (List.find?_some (p := fun e : Nat × Cov => e.1 == i) hf)
  exact List.mem_of_find?_eq_some hf

theorem covAt_base_mem (rec : SamRec) (hq : qSpan samNoIns rec.cigar ≤ rec.seq.length) (i b : Nat)
    (hc : covAt rec i = some (.base b)) : b ∈ rec.seq :=
  (mem_covList rec.seq rec.cigar 0 rec.pos _ (mem_covOf hc)).2.2 (by omega) b rfl

theorem covLookup_none (l : List (Nat × Cov)) (i : Nat) (h : ∀ e ∈ l, e.1 ≠ i) : covLookup l i = none := by
  unfold covLookup
  rw [List.find?_eq_none.2 fun e he => by simpa using h e he]
  rfl

theorem covLookup_none_of_gt (l : List (Nat × Cov)) (i : Nat) (h : ∀ e ∈ l, i < e.1) : covLookup l i = none :=
  covLookup_none l i fun e he => Nat.ne_of_gt (h e he)

theorem covLookup_append_left (a b : List (Nat × Cov)) (i : Nat) (h : ∃ e ∈ a, e.1 = i) :
    covLookup (a ++ b) i = covLookup a i := by
  unfold covLookup
  rw [List.find?_append]
  obtain ⟨e, he, hi⟩ := h
  cases hf : a.find? (fun e => e.1 == i) with
  | none => exact absurd hi (by simpa using List.find?_eq_none.1 hf e he)
  | some x => rfl

theorem covLookup_append_right (a b : List (Nat × Cov)) (i : Nat) (h : ∀ e ∈ a, e.1 ≠ i) :
    covLookup (a ++ b) i = covLookup b i := by
  unfold covLookup
  rw [List.find?_append, List.find?_eq_none.2 fun e he => by simpa using h e he]
  rfl

theorem covLookup_block (f : Nat → Cov) (r len j : Nat) (hj : j < len) :
    covLookup ((List.range len).map fun k => (r + k, f k)) (r + j) = some (f j) := by
  induction len with
  | zero => omega
  | succ n ih =>
    rw [List.range_succ, List.map_append]
    by_cases hjn : j < n
    · rw [covLookup_append_left _ _ _ ⟨(r + j, f j), List.mem_map.2 ⟨j, List.mem_range.2 hjn, rfl⟩, rfl⟩, ih hjn]
    · have hjn' : j = n := by omega
      subst hjn'
      rw [covLookup_append_right]
      · simp [covLookup]
      · intro e he
        obtain ⟨k, hk, rfl⟩ := mem_run he
        simp only [ne_eq]
        omega

theorem row_run (f : Nat → Cov) (r len span : Nat) (l : List (Nat × Cov)) :
    (List.range len).map (fun j => covByte (some (f j))) ++ (List.range span).map (fun j => covByte (covLookup l (r + len + j))) =
      (List.range (len + span)).map fun j => covByte (covLookup (((List.range len).map fun k => (r + k, f k)) ++ l) (r + j)) := by
  rw [range_add_map]
  congr 1 <;> apply List.map_congr_left <;> intro j hj
  · have hj' := List.mem_range.1 hj
    rw [covLookup_append_left _ _ _ ⟨(r + j, f j), List.mem_map.2 ⟨j, hj, rfl⟩, rfl⟩, covLookup_block f r len j hj']
  · rw [covLookup_append_right, Nat.add_assoc]
    intro e he
    obtain ⟨k, hk, rfl⟩ := mem_run he
    simp only [ne_eq]
    omega

/-- **the walk writes the alignment relation**: at offset j of the stretch of reference the CIGAR spans, the row
    holds the base the relation aligns to that position, '-' if it deletes it, no-coverage otherwise -/
theorem walk_cov : ∀ (cigar : List (Nat × Nat)) (seq : List Nat) (q r : Nat), q + qSpan samNoIns cigar ≤ seq.length →
    (walkOps samNoIns seq [] cigar q r).1 =
      (List.range (refSpan samNoIns cigar)).map fun j => covByte (covLookup (covList seq cigar q r) (r + j)) := by
  intro cigar
  induction cigar with
  | nil => intro seq q r _; rfl
  | cons c rest ih =>
    intro seq q r hq
    obtain ⟨op, len⟩ := c
    rcases opEntry_noins_cases op with ⟨ho, he⟩ | ⟨rfl, he⟩ | ⟨rfl, he⟩ | ⟨ho, he⟩ | ⟨ho, he⟩ | ⟨ho, he⟩ <;>
      simp only [walkOps, refSpan, qSpan, he, emit, if_true, Bool.false_eq_true, if_false, List.nil_append, Nat.zero_add] at hq ⊢
    · -- M = X
      rw [covList_M _ _ _ _ _ _ ho, ih seq _ _ (by omega), slice_eq_map seq 0 q len (by omega)]
      exact row_run (fun k => Cov.base (seq.getD (q + k) 0)) r len _ _
    · -- D
      rw [covList_D, ih seq _ _ (by omega), ← map_range_const len dash (fun _ => dash) (fun _ _ => rfl)]
      exact row_run (fun _ => Cov.del) r len _ _
    · -- N : the skipped reference bases are not in the relation
      rw [covList_N, ih seq _ _ (by omega), range_add_map, ← map_range_const len star _ fun j hj =>
        congrArg covByte (covLookup_none_of_gt (covList seq rest q (r + len)) (r + j) fun e he => by
          have := covList_ge seq rest q (r + len) e he
          omega)]
      simp only [Nat.add_assoc]
    · rw [covList_IS _ _ _ _ _ _ ho]
      exact ih seq _ _ (by omega)
    · rw [covList_other _ _ _ _ _ _ (.inl ho)]
      exact ih seq _ _ (by omega)
    · rw [covList_other _ _ _ _ _ _ (.inr ho)]
      exact ih seq _ _ (by omega)

end Gofasta.Lemmas

-- three facts about the toMultiAlign row that follow from `walk_cov`, under the names C01 states them with
namespace Gofasta.Props.C01
open Gofasta Model Spec Gofasta.Lemmas

theorem walkOps_length : ∀ (cigar : List (Nat × Nat)) (seq : List Nat) (q r : Nat),
    q + qSpan samNoIns cigar ≤ seq.length →
    (walkOps samNoIns seq [] cigar q r).1.length = refSpan samNoIns cigar := fun cigar seq q r hq => by
  rw [walk_cov cigar seq q r hq, List.length_map, List.length_range]

theorem walkNoIns_eq (rec : SamRec) (L : Nat) (hq : qSpan samNoIns rec.cigar ≤ rec.seq.length) :
    walkNoIns rec L = List.replicate rec.pos star ++ ((walkOps samNoIns rec.seq [] rec.cigar 0 rec.pos).1 ++
      List.replicate (L - (rec.pos + refSpan samNoIns rec.cigar)) star) := by
  unfold walkNoIns
  rw [op_table_is_sam]
  simp only [List.length_append, List.length_replicate, walkOps_length rec.cigar rec.seq 0 rec.pos (by omega),
    List.append_assoc]

/-- **C01.walk_length** — for a record inside the reference (`pos + refSpan ≤ L`) whose SEQ matches its CIGAR
the row has length L -/
theorem walk_length (rec : SamRec) (L : Nat) (hq : qSpan samNoIns rec.cigar ≤ rec.seq.length)
    (hr : rec.pos + refSpan samNoIns rec.cigar ≤ L) : (walkNoIns rec L).length = L := by
  rw [walkNoIns_eq rec L hq]
  simp only [List.length_append, List.length_replicate, walkOps_length rec.cigar rec.seq 0 rec.pos (by omega)]
  omega

end Gofasta.Props.C01

namespace Gofasta.Lemmas
open Gofasta Model Spec Gofasta.Props.C01 Gofasta.Props.C02

theorem covAt_none_of_lt (rec : SamRec) (i : Nat) (h : i < rec.pos) : covAt rec i = none :=
  covLookup_none_of_gt _ i fun e he => Nat.lt_of_lt_of_le h (covList_ge rec.seq rec.cigar 0 rec.pos e he)

theorem covAt_none_of_ge (rec : SamRec) (i : Nat) (h : rec.pos + refSpan samNoIns rec.cigar ≤ i) : covAt rec i = none :=
  covLookup_none _ i fun e he => Nat.ne_of_lt (Nat.lt_of_lt_of_le (covList_lt rec.seq rec.cigar 0 rec.pos e he) h)

/-- **C01** — the whole reference-length row of one record, position by position -/
theorem walk_row (rec : SamRec) (L : Nat) (hq : qSpan samNoIns rec.cigar ≤ rec.seq.length)
    (hr : rec.pos + refSpan samNoIns rec.cigar ≤ L) :
    walkNoIns rec L = (List.range L).map fun i => covByte (covAt rec i) := by
  have hL : L = rec.pos + (refSpan samNoIns rec.cigar + (L - (rec.pos + refSpan samNoIns rec.cigar))) := by omega
  rw [walkNoIns_eq rec L hq]
  conv => rhs; rw [hL, range_add_map, range_add_map]
  rw [walk_cov rec.cigar rec.seq 0 rec.pos (by omega),
    map_range_const rec.pos star _ fun i hi => congrArg covByte (covAt_none_of_lt rec i hi),
    map_range_const (L - _) star _ fun i _ => congrArg covByte (covAt_none_of_ge rec _ (by omega))]
  rfl

theorem flatCol_single (rec : SamRec) (i : Nat) :
    flatCol [rec] i = match covAt rec i with
      | some (.base b) => some b
      | some .del => some dash
      | none => none := by
  unfold flatCol
  cases h : covAt rec i with
  | none => simp [h]
  | some c =>
    cases c with
    | base b => simp [h, List.eraseDups_cons]
    | del => simp [h]

/-- what the specification writes for a column before the flank rule, as a byte ('*' = not covered) -/
def colByte (c : Option Nat) : Nat := match c with | some b => b | none => star

/-- the record never writes a no-coverage mark for an aligned base -/
def NoStarBases (rec : SamRec) : Prop := ∀ b ∈ rec.seq, b ≠ star

theorem covByte_eq_colByte (rec : SamRec) (i : Nat) : covByte (covAt rec i) = colByte (flatCol [rec] i) := by
  rw [flatCol_single]
  cases h : covAt rec i with
  | none => rfl
  | some c => cases c <;> rfl

def starRow (block : List SamRec) (L : Nat) : List Nat := (List.range L).map fun i => colByte (flatCol block i)

theorem starRow_getD (block : List SamRec) (L i : Nat) (hi : i < L) : (starRow block L).getD i 0 = colByte (flatCol block i) :=
  getD_map_range _ L i 0 hi

theorem walkNoIns_starRow (rec : SamRec) (L : Nat) (hq : qSpan samNoIns rec.cigar ≤ rec.seq.length)
    (hr : rec.pos + refSpan samNoIns rec.cigar ≤ L) : walkNoIns rec L = starRow [rec] L := by
  rw [walk_row rec L hq hr]
  exact List.map_congr_left fun i _ => covByte_eq_colByte rec i

/-- `idx` = the positions in ascending order for the first letter, in descending order for the last -/
theorem find_letter_starRow (block : List SamRec) (L : Nat) (idx : List Nat) (h : ∀ i ∈ idx, i < L) :
    (idx.find? fun i => isLetter ((starRow block L).getD i 0)) =
      idx.find? fun i => match ((List.range L).map (flatCol block)).getD i none with | some b => isLetter b | none => false := by
  induction idx with
  | nil => rfl
  | cons i t ih =>
    have hi := h i List.mem_cons_self
    rw [List.find?_cons, List.find?_cons, ih fun j hj => h j (List.mem_cons_of_mem _ hj), starRow_getD _ _ _ hi,
      getD_map_range _ _ _ _ hi]
    cases flatCol block i <;> rfl

/-- **C01** — under --pad every position nothing covers is 'N' -/
theorem swapNs_starRow (block : List SamRec) (L : Nat) (hstar : ∀ i b, flatCol block i = some b → b ≠ star) :
    swapInNs (starRow block L) = specTomaRow block L true := by
  unfold swapInNs starRow specTomaRow
  rw [List.map_map, zip_map_range]
  apply List.map_congr_left
  intro i _
  simp only [Function.comp_apply]
  cases hc : flatCol block i with
  | none => rfl
  | some b => exact if_neg (hstar i b hc)

/-- both arms of the `match` in `swapInGapsNs` as one map over the numbered row, the shape `specTomaRow` has -/
theorem swapInGapsNs_eq (s : List Nat) : swapInGapsNs s = (s.zip (List.range s.length)).map fun (b, i) =>
    if b = star then
      match firstLetterIdx s, lastLetterIdx s with
      | some f, some l => if i < f then dash else if i > l then dash else if f < i ∧ i < l then letN else b
      | _, _ => dash
    else b := by
  have hmap : ∀ f : Nat → Nat, s.map f = (s.zip (List.range s.length)).map fun (b, _) => f b := by
    intro f
    conv => lhs; rw [← List.map_fst_zip (l₁ := s) (l₂ := List.range s.length) (by simp), List.map_map]
    rfl
  unfold swapInGapsNs
  cases firstLetterIdx s <;> cases lastLetterIdx s <;> first | rfl | exact hmap _

/-- **C01** — without --pad a position nothing covers is '-' outside the query's first and last aligned
base and 'N' strictly between them -/
theorem swapGaps_starRow (block : List SamRec) (L : Nat) (hstar : ∀ i b, flatCol block i = some b → b ≠ star) :
    swapInGapsNs (starRow block L) = specTomaRow block L false := by
  have hlen : (starRow block L).length = L := by simp [starRow]
  rw [swapInGapsNs_eq]
  unfold firstLetterIdx lastLetterIdx specTomaRow
  rw [hlen, find_letter_starRow block L _ fun i hi => List.mem_range.1 hi,
    find_letter_starRow block L _ fun i hi => List.mem_range.1 (List.mem_reverse.1 hi)]
  simp only [Bool.false_eq_true, if_false]
  generalize hF : ((List.range L).find? _) = F
  generalize hLs : ((List.range L).reverse.find? _) = Ls
  unfold starRow
  rw [zip_map_range, zip_map_range]
  apply List.map_congr_left
  intro n _
  cases hc : flatCol block n with
  | some b => exact if_neg (hstar n b hc)
  | none =>
    simp only [colByte, if_true]
    cases F with
    | none => rfl
    | some f =>
      cases Ls with
      | none => rfl
      | some l =>
        -- the first and the last letter are covered positions, so n is neither
        have hf := List.find?_some hF
        have hl := List.find?_some hLs
        rw [getD_map_range _ _ _ _ (List.mem_range.1 (List.mem_of_find?_eq_some hF))] at hf
        rw [getD_map_range _ _ _ _ (List.mem_range.1 (List.mem_reverse.1 (List.mem_of_find?_eq_some hLs)))] at hl
        have hnf : n ≠ f := by intro e; subst e; rw [hc] at hf; cases hf
        have hnl : n ≠ l := by intro e; subst e; rw [hc] at hl; cases hl
        show (if n < f then dash else if n > l then dash else if f < n ∧ n < l then letN else star) =
          if f < n ∧ n < l then letN else dash
        by_cases h : f < n ∧ n < l
        · simp only [if_pos h, if_neg (show ¬ n < f by omega), if_neg (show ¬ n > l by omega)]
        · by_cases h1 : n < f
          · simp only [if_neg h, if_pos h1]
          · simp only [if_neg h, if_neg h1, if_pos (show n > l by omega)]

/-- **C01** — a query aligned by one record: the row written (before windowing) is the
specification's row, every column of it, for either setting of --pad -/
theorem single_record_row (rec : SamRec) (L : Nat) (pad : Bool)
    (hq : qSpan samNoIns rec.cigar ≤ rec.seq.length) (hr : rec.pos + refSpan samNoIns rec.cigar ≤ L)
    (hns : NoStarBases rec) (s e : Nat) :
    fastaRecordSeq (walkNoIns rec L) false pad s e = specTomaRow [rec] L pad := by
  have hstar : ∀ i b, flatCol [rec] i = some b → b ≠ star := by
    intro i b hb
    rw [flatCol_single] at hb
    cases hc : covAt rec i with
    | none => rw [hc] at hb; cases hb
    | some c =>
      rw [hc] at hb
      cases c with
      | del => cases hb; decide
      | base b' =>
        cases hb
        exact hns b (covAt_base_mem rec hq i b hc)
  unfold fastaRecordSeq
  rw [walkNoIns_starRow rec L hq hr]
  cases pad with
  | true => exact swapNs_starRow [rec] L hstar
  | false => exact swapGaps_starRow [rec] L hstar

end Gofasta.Lemmas
