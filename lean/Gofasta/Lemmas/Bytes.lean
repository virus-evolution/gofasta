import Gofasta.Model.Util
/-
`stringToBytes` / `bytesToString`: inverse to each other (on ASCII), on `++` and `String.join`, and on string literals.
The kernel evaluates `"lit".toList`, `s ++ t` and `String.ofList l = "lit"` by decoding UTF-8 byte by byte, which is
quadratic in the length of the literal.  A literal *is* `String.ofList chars` by definition, so test vectors that mention
long literals are first rewritten with `stringToBytes_ofList` (`rw` unifies through the literal, `simp` does not) and
only then handed to `decide +kernel`.
-/
namespace Gofasta.Lemmas
open Gofasta.Model

theorem stringToBytes_ofList (l : List Char) : stringToBytes (String.ofList l) = l.map Char.toNat := by
  rw [stringToBytes, String.toList_ofList]

theorem stringToBytes_append (s t : String) : stringToBytes (s ++ t) = stringToBytes s ++ stringToBytes t := by
  simp only [stringToBytes, String.toList_append, List.map_append]

theorem bytesToString_stringToBytes (s : String) : bytesToString (stringToBytes s) = s := by
  simp [bytesToString, stringToBytes, List.map_map, Function.comp_def]

theorem bytesToString_eq_of {bs : List Nat} {s : String} (h : bs = stringToBytes s) : bytesToString bs = s := by
  rw [h, bytesToString_stringToBytes]

theorem toNat_ofNat_valid (n : Nat) (h : n.isValidChar) : (Char.ofNat n).toNat = n := by
  simp [Char.ofNat, h, Char.ofNatAux, Char.toNat]

theorem stringToBytes_bytesToString_valid (bs : List Nat) (h : ∀ b ∈ bs, b.isValidChar) :
    stringToBytes (bytesToString bs) = bs := by
  rw [bytesToString, stringToBytes_ofList, List.map_map]
  exact (List.map_congr_left fun b hb => toNat_ofNat_valid b (h b hb)).trans (List.map_id _)

theorem stringToBytes_bytesToString (bs : List Nat) (h : ∀ b ∈ bs, b < 128) : stringToBytes (bytesToString bs) = bs :=
  stringToBytes_bytesToString_valid bs fun b hb => Or.inl (Nat.lt_trans (h b hb) (by decide))

theorem stringToBytes_join : ∀ (l : List String), stringToBytes (String.join l) = (l.map stringToBytes).flatten
  | [] => rfl
  | a :: t => by
    rw [String.join_cons, stringToBytes_append, stringToBytes_join t]
    rfl

end Gofasta.Lemmas
