import Gofasta.Spec.Updown
import Gofasta.Lemmas.Enc
/-
An `updown list` row is a lossless summary — from the row and the (A/C/G/T) reference every column of the
sequence is recovered, up to the identity of its non-A/C/G/T symbols.
-/
namespace Gofasta.Lemmas
open Gofasta Base Model Spec

theorem inTracts_specRuns_cons (b : Nat) (t : List Nat) (i p : Nat) :
    inTracts p (specRuns i (b :: t)) = ((p == i + 1 && !isACGT b) || inTracts p (specRuns (i + 1) t)) := by
  rw [specRuns]
  cases hb : isACGT b
  · -- `b` opens a tract: the first tract of the rest made one column longer at the left, if the rest starts with one
    have h1 : (decide (i + 1 ≤ p) && decide (p ≤ i + 1)) = (p == i + 1) := by
      rw [Bool.eq_iff_iff]; simp; omega
    cases t with
    | nil => simp [specRuns, inTracts, h1]
    | cons c t' =>
      cases hc : isACGT c
      · conv => rhs; rw [specRuns]
        have e : i + 1 + ((t'.takeWhile fun x => !isACGT x).length + 1) =
            i + 1 + 1 + (t'.takeWhile fun x => !isACGT x).length := by omega
        simp only [inTracts, hc, e, Bool.false_eq_true, if_false, Bool.not_false, Bool.and_true, List.any_cons,
          List.takeWhile_cons, List.dropWhile_cons, if_true, List.length_cons, ← Bool.or_assoc]
        congr 1
        rw [Bool.eq_iff_iff]; simp; omega
      · simp [inTracts, hc, h1]
  · simp

/-- the default 65 ('A') makes a column beyond the end count as A/C/G/T, outside every tract; with a default that is
not A/C/G/T the statement is false there. `n` and `q.length ≤ n` are not used. -/
theorem inTracts_specRuns : ∀ (n : Nat) (q : List Nat) (i p : Nat), q.length ≤ n →
    inTracts p (specRuns i q) = (decide (i < p) && !isACGT (q.getD (p - 1 - i) 65)) := by
  intro n q
  induction q generalizing n with
  | nil =>
    intro i p _
    have : isACGT 65 = true := by decide
    simp [specRuns, inTracts, this]
  | cons b t ih =>
    intro i p _
    rw [inTracts_specRuns_cons, ih _ (i + 1) p (Nat.le_refl _)]
    rcases Nat.lt_trichotomy p (i + 1) with h | h | h
    · have h1 : ¬ i < p := by omega
      have h2 : ¬ i + 1 < p := by omega
      have h3 : p ≠ i + 1 := by omega
      simp [h1, h2, h3]
    · subst h; simp
    · have e : p - 1 - i = (p - 1 - (i + 1)) + 1 := by omega
      have h1 : i < p := by omega
      have h3 : p ≠ i + 1 := by omega
      rw [e, List.getD_cons_succ]; simp [h, h1, h3]

/-- the tracts `ambs` (of a whole row) are, on the columns after `i`, those of `xs` placed after column `i` -/
def TractsFrom (i : Nat) (xs : List Nat) (ambs : List (Nat × Nat)) : Prop :=
  ∀ p, i < p → inTracts p ambs = inTracts p (specRuns i xs)

theorem TractsFrom.head {i x : Nat} {xs : List Nat} {ambs : List (Nat × Nat)} (h : TractsFrom i (x :: xs) ambs) :
    inTracts (i + 1) ambs = !isACGT x := by
  rw [h (i + 1) (by omega), inTracts_specRuns_cons, inTracts_specRuns _ xs (i + 1) (i + 1) (Nat.le_refl _)]
  simp

theorem TractsFrom.tail {i x : Nat} {xs : List Nat} {ambs : List (Nat × Nat)} (h : TractsFrom i (x :: xs) ambs) :
    TractsFrom (i + 1) xs ambs := by
  intro p hp
  have : (p == i + 1) = false := by rw [beq_eq_false_iff_ne]; omega
  rw [h p (by omega), inTracts_specRuns_cons, this, Bool.false_and, Bool.false_or]

def snpCol (r x : Nat) : Bool := isACGT x && disjointSyms false r x

theorem specUdSnps_cons (i r x : Nat) (rs xs : List Nat) :
    specUdSnps i (r :: rs) (x :: xs) =
      if snpCol r x then (i + 1, upper r, upper x) :: specUdSnps (i + 1) rs xs else specUdSnps (i + 1) rs xs := by
  rw [specUdSnps]; rfl

theorem specUdSnps_pos : ∀ (ref q : List Nat) (i : Nat), ∀ s ∈ specUdSnps i ref q, i < s.1 := by
  intro ref
  induction ref with
  | nil => intro q i s hs; simp [specUdSnps] at hs
  | cons r rs ih =>
    intro q i s hs
    cases q with
    | nil => simp [specUdSnps] at hs
    | cons b qs =>
      rw [specUdSnps_cons] at hs
      split at hs
      · rcases List.mem_cons.1 hs with rfl | h
        · exact Nat.lt_succ_self i
        · exact Nat.lt_of_succ_lt (ih qs (i + 1) s h)
      · exact Nat.lt_of_succ_lt (ih qs (i + 1) s hs)

theorem snpAt_none_of_gt (p : Nat) (l : List Snp) (h : ∀ s ∈ l, p < s.1) : snpAt p l = none := by
  unfold snpAt
  have : l.find? (fun s => s.1 == p) = none := by
    rw [List.find?_eq_none]
    intro s hs
    have := h s hs
    simp; omega
  rw [this]; rfl

theorem snpCol_acgt (r x : Nat) (hr : isACGT r = true) : snpCol r x = (isACGT x && upper x != upper r) := by
  unfold snpCol
  cases hx : isACGT x
  · rfl
  · rw [Bool.true_and, Bool.true_and, Bool.eq_iff_iff, disjoint_acgt r x hr hx, bne_iff_ne]
    exact ⟨fun h e => h e.symm, fun h e => h e.symm⟩

theorem reconstruct_gen : ∀ (ref q : List Nat) (i : Nat), ref.length = q.length → (∀ r ∈ ref, isACGT r = true) →
    ∀ (snps : List Snp) (ambs : List (Nat × Nat)),
    (∀ p, i < p → snpAt p snps = snpAt p (specUdSnps i ref q)) → TractsFrom i q ambs →
    reconstructFrom snps ambs i ref = q.map mask := by
  intro ref
  induction ref with
  | nil =>
    intro q i hl _ snps ambs _ _
    rw [List.length_eq_zero_iff.1 hl.symm]; rfl
  | cons r rs ih =>
    intro q i hl hacgt snps ambs hs ha
    cases q with
    | nil => simp at hl
    | cons b qs =>
      have hr : isACGT r = true := hacgt r List.mem_cons_self
      have htl := snpAt_none_of_gt (i + 1) _ (specUdSnps_pos rs qs (i + 1))
      rw [reconstructFrom, List.map_cons, ha.head, hs (i + 1) (by omega), specUdSnps_cons, snpCol_acgt r b hr]
      congr 1
      · -- the head column: '?' for a symbol that is not A/C/G/T, else the listed base or the reference's
        unfold mask
        cases hb : isACGT b
        · rfl
        · by_cases hd : upper b = upper r
          · simp [hd, htl]
          · simp [hd, snpAt]
      · apply ih qs (i + 1) (by simpa using hl) (fun x hx => hacgt x (List.mem_cons_of_mem _ hx)) snps ambs _ ha.tail
        intro p hp
        rw [hs p (by omega), specUdSnps_cons]
        split
        · unfold snpAt
          have : ((i + 1 : Nat) == p) = false := by rw [beq_eq_false_iff_ne]; omega
          rw [List.find?_cons, this]
        · rfl

/-- from the row `updown list` writes and an A/C/G/T reference, every column of the sequence is
recovered: the listed base at a SNP, the reference base at every other A/C/G/T column, and '?' (identity not
recorded) exactly at the columns inside the ambiguity ranges -/
theorem reconstruct_row (id : String) (ref q : List Nat) (hl : ref.length = q.length) (hacgt : ∀ r ∈ ref, isACGT r = true) :
    reconstruct ref (specUdLine id ref q) = q.map mask :=
  reconstruct_gen ref q 0 hl hacgt _ _ (fun _ _ => rfl) (fun _ _ => rfl)

end Gofasta.Lemmas
