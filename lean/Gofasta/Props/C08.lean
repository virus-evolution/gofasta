import Gofasta.Lemmas.SortSpec
import Gofasta.Lemmas.Reorder
import Gofasta.Lemmas.Balance
import Gofasta.Model.Updown
import Gofasta.Spec.Updown
/-
C08 — updown topranking bins, ranks and limits neighbours exactly as specified.
Here: the pieces stated on their own (the per-bin catchment, the direction table, the threshold, `balance` in its
two simple cases, the argument split). The closing theorem, that the bins the model computes from real sequences pass
the declarative checker `Spec.checkBins`, is `model_passes_checker` in Lemmas/TopRankingSpec, on top of
Lemmas/WhichWaySpec (candidates), Lemmas/PushBins (push mode) and Lemmas/Balance (sizes).
-/
namespace Gofasta.Props.C08
open Gofasta Base Model Spec

theorem udLt_swo : SWO udLt := by
  constructor
  · intro a b h
    simp [udLt] at h ⊢
    omega
  · intro a b c h
    simp [udLt] at h ⊢
    omega

/-- **C08.bin_is_prefix** — each bounded per-bin catchment is exactly the first `cap` candidates of the stable
sort by (distance, fewer ambiguities), i.e. by (distance, ambiguities, file order): nothing that belongs in the
prefix is lost at the capacity boundary, whatever the order and tie pattern of the targets -/
theorem bin_is_prefix (cap : Nat) (hc : 0 < cap) (hits : List UDHit) :
    topKG udLt cap hits = (sortStable udLt hits).take cap :=
  have _ := hc
  topK_spec udLt_swo cap hits

/-- the ranking is unique: any permutation of the candidates sorted by (distance, ambiguities) that keeps tied
candidates in file order is the stable sort, so each bin is a prefix of *the* ranking by (distance, ambiguities, file order) -/
theorem bin_is_prefix_of_ranking (cap : Nat) (hc : 0 < cap) (hits ranked : List UDHit)
    (hp : ranked.Perm hits) (hs : Sorted udLt ranked) (hst : ∀ z, ranked.filter (tied udLt z) = hits.filter (tied udLt z)) :
    topKG udLt cap hits = ranked.take cap := by
  rw [bin_is_prefix cap hc hits, sortStable_unique udLt_swo hits ranked hp hs hst]

/-- the direction switch of whichWay: which of the two sequences carries private differences -/
theorem direction_table (q t : UDLine) (n d : Nat) (dir dist : Nat) (h : whichWay q t n d = some (dir, dist)) :
    let w := whichWayTable q t
    (dir = 0 ↔ (w.qOnly = 0 ∧ w.tOnly = 0)) ∧ (dir = 1 ↔ (w.qOnly > 0 ∧ w.tOnly = 0)) ∧
    (dir = 2 ↔ (w.qOnly = 0 ∧ w.tOnly > 0)) ∧ (dir = 3 ↔ (w.qOnly > 0 ∧ w.tOnly > 0)) ∧
    dist = w.d.length + w.dPlus := by
  simp only [whichWay, Option.ite_none_left_eq_some, Option.some.injEq, Prod.mk.injEq] at h
  obtain ⟨-, rfl, rfl⟩ := h
  dsimp only
  split
  · omega
  · split
    · omega
    · split <;> omega

/-- **C08.threshold_pair** — a pair is dropped exactly when the share of consequential ambiguous sites exceeds
the threshold (compared over naturals: amb/sum > num/den, and never when there is no consequential site) -/
theorem threshold_pair (q t : UDLine) (n d : Nat) :
    whichWay q t n d = none ↔
      (let w := whichWayTable q t
       w.qOnly + w.shared + w.tOnly + w.amb > 0 ∧ w.amb * d > n * (w.qOnly + w.shared + w.tOnly + w.amb)) := by
  simp only [whichWay]
  split
  · rename_i h; exact ⟨fun _ => h, fun _ => rfl⟩
  · rename_i h; exact ⟨fun hn => (nomatch hn), fun hc => absurd hc h⟩

/-- C08 — with --no-fill every bin gets min(requested, available), for all sizes -/
theorem balance_nofill (total : Nat) (i0 i1 i2 i3 o0 o1 o2 o3 : Nat) :
    balance total [i0, i1, i2, i3] [o0, o1, o2, o3] true = [min o0 i0, min o1 i1, min o2 i2, min o3 i3] := by
  obtain ⟨a, b, c, d, h⟩ := Lemmas.list4 _ (Lemmas.balance_length total [i0, i1, i2, i3] [o0, o1, o2, o3] true rfl)
  obtain ⟨h0, h1, h2, h3⟩ :=
    Lemmas.forall_lt4.1 (Lemmas.TopRankingSpec.balance_nofill total [i0, i1, i2, i3] [o0, o1, o2, o3])
  rw [h] at h0 h1 h2 h3 ⊢
  simp only [List.getD_cons_zero, List.getD_cons_succ] at h0 h1 h2 h3
  rw [h0, h1, h2, h3]

theorem balance_enough (total : Nat) (i0 i1 i2 i3 o0 o1 o2 o3 : Nat) (nofill : Bool)
    (h : i0 ≤ o0 ∧ i1 ≤ o1 ∧ i2 ≤ o2 ∧ i3 ≤ o3) :
    balance total [i0, i1, i2, i3] [o0, o1, o2, o3] nofill = [i0, i1, i2, i3] :=
  Lemmas.balance_enough total _ _ nofill (Lemmas.forall_lt4.2 h)

/-- C08 — --size-total n is split as n - 3⌊n/4⌋, ⌊n/4⌋, ⌊n/4⌋, ⌊n/4⌋, which sums to n -/
theorem size_total_split (n : Nat) (hn : 0 < n) :
    ∃ sz ds, udCheckArgs n 0 0 0 0 0 0 0 0 0 = some (sz, ds) ∧ sz.sum = n ∧ sz = [n - 3 * (n / 4), n / 4, n / 4, n / 4] := by
  have hne : ¬ ((n : Int) = 0) := by omega
  have hdiv : ((n : Int) / 4).toNat = n / 4 := by omega
  refine ⟨[n - 3 * (n / 4), n / 4, n / 4, n / 4], [bigN, bigN, bigN, bigN], ?_, ?_, rfl⟩
  · -- size-total is not 0 and the other sizes are: neither refusal applies, the sizes come from size-total, and
    -- no distance is given
    rw [udCheckArgs]
    dsimp only
    rw [if_neg (fun h => hne h.1), if_neg (fun h => h.1.2 ⟨rfl, rfl, rfl, rfl⟩), if_pos (by omega : (n : Int) > 0),
      if_neg (by omega), if_neg (fun h => h ⟨rfl, rfl, rfl⟩), hdiv, Int.toNat_natCast]
  · simp only [List.sum_cons, List.sum_nil]; omega

/-- **C08.rows_in_query_order** — results are stored by query index -/
theorem rows_in_query_order (rows : Nat → String) (n : Nat) (arrival : List Nat)
    (h : arrival.Perm (List.range n)) :
    Reorder.run (arrival.map fun i => (i, rows i)) = (List.range n).map rows :=
  Reorder.run_perm rows n arrival h

/-- non-vacuity: fill of requested (1,1,1,1) total 4 with supplies (0,3,0,2): extras go to `up` and `side` evenly -/
example : balance 4 [1, 1, 1, 1] [0, 3, 0, 2] false = [0, 2, 0, 2] ∧ balance 4 [1, 1, 1, 1] [0, 3, 0, 2] true = [0, 1, 0, 1] := by
  decide

end Gofasta.Props.C08
