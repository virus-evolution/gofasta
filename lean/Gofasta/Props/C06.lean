import Gofasta.Lemmas.SortSpec
import Gofasta.Lemmas.Reorder
import Gofasta.Model.Closest
import Gofasta.Spec.Closest
/-
C06 — closest returns exactly the nearest targets under the documented total order.
Here: the catchment for any strict weak order (`topK`), and the model's two searches as catchments
(`findClosestN_eq`, `findClosest_eq`). The comparator of the command is a strict weak order only among distances of
one kind, so the statements about `findClosestN`, `findClosest` on the hits of real sequences, with no hypothesis on
the order, are in Lemmas/ClosestOrder, which builds on this file: `closestN_exact`, `closest_exact`,
`closestN_exact_characterised`, and against the declarative ranking `closestN_exact_eq_spec`, `closest_exact_eq_spec`.
-/
namespace Gofasta.Props.C06
open Gofasta Model Spec

/-- **C06.topK** — for every strict weak order on hits, every K > 0 and every target file (any order, ties,
duplicates), the streaming bounded catchment of `closest -n K` returns exactly the first K entries of the stable sort
of the whole file: nothing that belongs in the top K is ever lost at the capacity boundary, and ties keep file order.
The command's comparator `hitLt` (distance, then completeness) is NOT an instance (`ClosestOrder.hitLt_not_swo`): for
it see `ClosestOrder.closestN_exact`. -/
theorem topK (lt : Hit → Hit → Bool) (hS : SWO lt) (K : Nat) (hK : 0 < K) (hits : List Hit) :
    topKG lt K hits = (sortStable lt hits).take K :=
  have _ := hK
  topK_spec hS K hits

/-- **C06.topK_characterised** — "the stable sort" is not a choice of algorithm: any list that is a permutation of
the target file, ordered by the strict weak order, and keeps tied targets in file order is that sort; so the
catchment is the first K entries of *the* ranking by (order, file position) -/
theorem topK_characterised (lt : Hit → Hit → Bool) (hS : SWO lt) (K : Nat) (hK : 0 < K) (hits ranked : List Hit)
    (hp : ranked.Perm hits) (hs : Sorted lt ranked) (hst : ∀ z, ranked.filter (tied lt z) = hits.filter (tied lt z)) :
    topKG lt K hits = ranked.take K := by
  rw [topK lt hS K hK hits, sortStable_unique hS hits ranked hp hs hst]

theorem findClosestN_eq (K : Nat) (maxd : Option (Nat × Nat)) (hits : List Hit) :
    findClosestN K maxd hits = topKG hitLt K (match maxd with
      | none => hits
      | some (n, d) => hits.filter fun h => !h.dist.beyond n d) := by
  unfold findClosestN topKG catchFinish catchStep
  cases maxd <;> rfl

/-- whatever the comparator does: the catchment returns members of its input, which has passed the filter -/
theorem not_beyond (K n d : Nat) (hits : List Hit) :
    ∀ h ∈ findClosestN K (some (n, d)) hits, h.dist.beyond n d = false := by
  intro h hh
  rw [findClosestN_eq] at hh
  simpa using (List.mem_filter.1 (mem_topKG hh)).2

/-- **C06.withinD** — with `-d`, no returned target lies beyond D, and an undefined distance is
never returned (it is "within" no D: `beyond_of_undef`). Neither hypothesis is used, and `hS` cannot be met
(`ClosestOrder.hitLt_not_swo`): the statement to use is `not_beyond`. -/
theorem withinD (K : Nat) (n d : Nat) (hits : List Hit) (hS : SWO hitLt) (hK : 0 < K) :
    ∀ h ∈ findClosestN K (some (n, d)) hits, h.dist.beyond n d = false :=
  have _ := hS
  have _ := hK
  not_beyond K n d hits

theorem beyond_of_undef (v : DVal) (n d : Nat) (h : v.undef = true) : v.beyond n d = true := by
  simp [DVal.beyond, h]

/-- **C06.undefined_never_displaces** — an undefined distance is never strictly closer than
anything, and every defined distance is strictly closer than an undefined one -/
theorem undefined_never_displaces (a b : DVal) (ha : a.undef = true) :
    a.lt b = false ∧ (b.undef = false → b.lt a = true) := by
  constructor
  · simp [DVal.lt, ha]
  · intro hb; simp [DVal.lt, ha, hb]

/-- **C06.plain_is_n1** — the running best of plain `closest` is the `-n 1` catchment. The left side is the fold of
`Model.findClosest` (its step is not named there), started from any state `acc`. -/
theorem plain_is_n1 : ∀ (hits : List Hit) (acc : Option Hit),
    hits.foldl (fun best h => match best with
      | none => some h
      | some b => if h.dist.lt b.dist then some h
                  else if h.dist.eq b.dist && h.score > b.score then some h else some b) acc
    = (hits.foldl (catchStepG hitLt 1) (match acc with | none => [] | some b => [b])).head? := by
  intro hits
  induction hits with
  | nil => intro acc; cases acc <;> rfl
  | cons h t ih =>
    intro acc
    rw [List.foldl_cons, List.foldl_cons]
    cases acc with
    | none => exact ih (some h)
    | some b =>
      -- one step on either side: the newcomer replaces the best iff it is before it under `hitLt`
      have hstep : (if h.dist.lt b.dist = true then some h
          else if (h.dist.eq b.dist && decide (h.score > b.score)) = true then some h else some b) =
          if hitLt h b = true then some h else some b := by
        unfold hitLt
        cases h.dist.lt b.dist <;> cases (h.dist.eq b.dist && decide (h.score > b.score)) <;> rfl
      show List.foldl _ (if _ then _ else _) t = (List.foldl _ (catchStepG hitLt 1 [b] h) t).head?
      rw [hstep, catchStepG_one]
      split
      · exact ih (some h)
      · exact ih (some b)

theorem findClosest_eq (hits : List Hit) : findClosest hits = (hits.foldl (catchStepG hitLt 1) []).head? :=
  plain_is_n1 hits none

/-- (distance, completeness) pairs of naturals: nearer first, then higher completeness. The shape of `hitLt` when the
distance is a natural number (the `snp` measure). A strict weak order on `Nat × Nat`, not on `Hit`: it is an instance
of `Model.topK_spec`, of which `topK` is the case `α := Hit`, not of `topK` itself. -/
def natLt (a b : Nat × Nat) : Bool := a.1 < b.1 || (a.1 == b.1 && a.2 > b.2)

theorem natLt_swo : SWO natLt := by
  constructor
  · intro a b h
    simp [natLt] at h ⊢
    omega
  · intro a b c h
    simp [natLt] at h ⊢
    omega

/-- **C06.rows_in_query_order** — results are placed by query index, whatever order the per-query
workers finish in (the result array `QResultsArray[result.qidx] = result`) -/
theorem rows_in_query_order (rows : Nat → String) (n : Nat) (arrival : List Nat)
    (h : arrival.Perm (List.range n)) :
    Reorder.run (arrival.map fun i => (i, rows i)) = (List.range n).map rows :=
  Reorder.run_perm rows n arrival h

/-- the catchment under `natLt`: four targets, a tie on distance broken by completeness, K = 2 -/
example : (topKG natLt 2 [(3, 10), (1, 5), (1, 9), (0, 1)]) = [(0, 1), (1, 9)] := by decide

end Gofasta.Props.C06
