import Gofasta.Lemmas.SchedFaultsAgg
/-
The aggregating writers AS THE GO CODE HAS THEM: snps.aggregateWriteOutput (and the aggregating writers of variants and
sam variants) write the header BEFORE the receive loop and the rows after it.  In the terms of Lemmas/SchedFaultsAgg that
is `hs = [header]`, `pre = []` (its command-level statements are given for `hs = []`, `pre = [header]`: header and rows
after the loop).  The general theorems are parametric in `hs` and `pre`; this file instantiates them for the placement
the code has, for `snps --aggregate`, `variants --aggregate` and `sam variants --aggregate`.  The namespace is that of
Lemmas/SchedFaultsAgg: `snps_agg_code_*` stand beside `snps_agg_*` and are referred to from outside by these full names.
-/
set_option autoImplicit false

namespace Gofasta.Lemmas.SchedFaultsAgg
open Gofasta Gofasta.Model
open Gofasta.Lemmas.SchedCommands
open Gofasta.Lemmas.SchedFaults

section snpsAggregateCode
open Gofasta.Model.Sched Gofasta.Lemmas.Sched

theorem snps_agg_code_fault_reported (d : Dest) (hard : Bool) (thrNum thrDen : Nat) (ref : List Nat)
    (recs : List (String × List Nat)) (N capIn capOut : Nat) (rf : Option (Nat × RunErr)) (hN : 1 ≤ N) (k : Nat)
    (hd : d = .failFrom k ∨ d = .failOnce k) (hk1 : 1 ≤ k)
    (hkW : k ≤ 1 + (snpsAggLines hard thrNum thrDen ref recs).length) {s : State _ _ _ _}
    (hr : Reach (snpsAggFCfg d [snpsAggHeader] [] hard thrNum thrDen ref recs N capIn capOut rf) s) :
    s.main ≠ .ret none :=
  agg_fault_reported (snpsAggF_isAW [snpsAggHeader] []) hN (snps_rowsAre hard thrNum thrDen ref recs) k hd hk1 hkW hr

theorem snps_agg_code_fault_beyond_run_harmless (d : Dest) (hard : Bool) (thrNum thrDen : Nat) (ref : List Nat)
    (recs : List (String × List Nat)) (N capIn capOut : Nat) (rf : Option (Nat × RunErr)) (hN : 1 ≤ N)
    {s : State _ _ _ _}
    (hr : Reach (snpsAggFCfg d [snpsAggHeader] [] hard thrNum thrDen ref recs N capIn capOut rf) s)
    (hm : s.main = .ret none) :
    s.wst.sink.text = snpsAggregate hard thrNum thrDen ref recs ∧
      s.wst.sink.calls = 1 + (snpsAggLines hard thrNum thrDen ref recs).length ∧
      ∀ i, 1 ≤ i → i ≤ 1 + (snpsAggLines hard thrNum thrDen ref recs).length → d.fails i = false := by
  obtain ⟨h1, _, h3, h4⟩ := agg_fault_beyond_run_harmless (snpsAggF_isAW [snpsAggHeader] []) hN
    (snps_rowsAre hard thrNum thrDen ref recs) hr hm
  exact ⟨h1.trans (snpsAggregate_eq_join hard thrNum thrDen ref recs).symm, h3, h4⟩

theorem snps_agg_code_written_is_prefix (d : Dest) (hard : Bool) (thrNum thrDen : Nat) (ref : List Nat)
    (recs : List (String × List Nat)) (N capIn capOut : Nat) (rf : Option (Nat × RunErr)) (hN : 1 ≤ N)
    {s : State _ _ _ _}
    (hr : Reach (snpsAggFCfg d [snpsAggHeader] [] hard thrNum thrDen ref recs N capIn capOut rf) s) :
    ∃ j, aggAccepted d [snpsAggHeader] [] ([], 0) snpsAccum (snpsAggRowsOf thrNum thrDen) s =
      String.join ((snpsAggHeader :: snpsAggLines hard thrNum thrDen ref recs).take j) :=
  agg_written_is_prefix (snpsAggF_isAW [snpsAggHeader] []) hN (snps_rowsAre hard thrNum thrDen ref recs) hr

/-- while some record has not been absorbed the destination has been offered the header and nothing else (one call);
the (A) twin is `snps_agg_sink_empty_before_all_arrived` -/
theorem snps_agg_code_only_header_before_all_arrived (d : Dest) (hard : Bool) (thrNum thrDen : Nat) (ref : List Nat)
    (recs : List (String × List Nat)) (N capIn capOut : Nat) (rf : Option (Nat × RunErr)) (hN : 1 ≤ N)
    {s : State _ _ _ _}
    (hr : Reach (snpsAggFCfg d [snpsAggHeader] [] hard thrNum thrDen ref recs N capIn capOut rf) s)
    {i : Nat} (hi : i < recs.length) (hni : i ∉ s.arrival.map Prod.fst) :
    s.writer = .recv ∧ s.wst.sink = Sink.putAll d Sink.empty [snpsAggHeader] :=
  let h := agg_nothing_before_all_arrived (snpsAggF_isAW [snpsAggHeader] []) hN hr
    (Nat.lt_of_lt_of_eq hi (encItems_length hard recs).symm) hni
  ⟨h.1, h.2.1⟩

end snpsAggregateCode

section variantsAggregateCode
open Gofasta.Model.Sched Gofasta.Lemmas.Sched Gofasta.Driver Gofasta.Lemmas.SamVarPipeline
open Gofasta.Lemmas.AggVariants

theorem variants_agg_code_fault_reported (d : Dest) (vi : VarIn)
    (pairFn : List Nat → List Nat → List Region → List Nat → List Variant)
    (refRow : List Nat) (rows : List (String × List Nat)) (refID : String) (regions : List Region) (inter : List Nat)
    (hsep : Separated (aggKeys vi.append vi.start vi.stop refID
      (rows.map fun r => (r.1, pairFn refRow r.2 regions inter))))
    (N capIn capOut : Nat) (rf : Option (Nat × RunErr)) (hN : 1 ≤ N) (k : Nat)
    (hd : d = .failFrom k ∨ d = .failOnce k) (hk1 : 1 ≤ k)
    (hkW : k ≤ 1 + (varAggLines vi refID (rows.map fun r => (r.1, pairFn refRow r.2 regions inter))).length)
    {s : State _ _ _ _}
    (hr : Reach (varAggFCfg d [varAggHeader] [] vi pairFn refRow rows refID regions inter N capIn capOut rf) s) :
    s.main ≠ .ret none :=
  agg_fault_reported (varAggF_isAW [varAggHeader] []) hN (var_rowsAre hsep) k hd hk1 hkW hr

theorem variants_agg_code_fault_beyond_run_harmless (d : Dest) (vi : VarIn)
    (pairFn : List Nat → List Nat → List Region → List Nat → List Variant)
    (refRow : List Nat) (rows : List (String × List Nat)) (refID : String) (regions : List Region) (inter : List Nat)
    (hra : refAndRows vi = some (refRow, rows, refID)) (hregs : varRegions vi refRow = some (regions, inter))
    (hagg : vi.agg = true)
    (hsep : Separated (aggKeys vi.append vi.start vi.stop refID
      (rows.map fun r => (r.1, pairFn refRow r.2 regions inter))))
    (N capIn capOut : Nat) (rf : Option (Nat × RunErr)) (hN : 1 ≤ N) {s : State _ _ _ _}
    (hr : Reach (varAggFCfg d [varAggHeader] [] vi pairFn refRow rows refID regions inter N capIn capOut rf) s)
    (hm : s.main = .ret none) :
    s.wst.sink.text = varCommand vi pairFn ∧
      s.wst.sink.calls =
        1 + (varAggLines vi refID (rows.map fun r => (r.1, pairFn refRow r.2 regions inter))).length ∧
      ∀ i, 1 ≤ i →
        i ≤ 1 + (varAggLines vi refID (rows.map fun r => (r.1, pairFn refRow r.2 regions inter))).length →
        d.fails i = false := by
  obtain ⟨h1, _, h3, h4⟩ :=
    agg_fault_beyond_run_harmless (varAggF_isAW [varAggHeader] []) hN (var_rowsAre hsep) hr hm
  exact ⟨h1.trans (varAgg_text_of_nil hra hregs hagg hN hr hm), h3, h4⟩

theorem variants_agg_code_written_is_prefix (d : Dest) (vi : VarIn)
    (pairFn : List Nat → List Nat → List Region → List Nat → List Variant)
    (refRow : List Nat) (rows : List (String × List Nat)) (refID : String) (regions : List Region) (inter : List Nat)
    (hsep : Separated (aggKeys vi.append vi.start vi.stop refID
      (rows.map fun r => (r.1, pairFn refRow r.2 regions inter))))
    (N capIn capOut : Nat) (rf : Option (Nat × RunErr)) (hN : 1 ≤ N) {s : State _ _ _ _}
    (hr : Reach (varAggFCfg d [varAggHeader] [] vi pairFn refRow rows refID regions inter N capIn capOut rf) s) :
    ∃ j, aggAccepted d [varAggHeader] [] ([], 0) (varAccum vi refID) (varAggRowsOf vi) s =
      String.join ((varAggHeader ::
        varAggLines vi refID (rows.map fun r => (r.1, pairFn refRow r.2 regions inter))).take j) :=
  agg_written_is_prefix (varAggF_isAW [varAggHeader] []) hN (var_rowsAre hsep) hr

end variantsAggregateCode

section samVariantsAggregateCode
open Gofasta.Model.SchedChain Gofasta.Lemmas.SchedChain Gofasta.Driver Gofasta.Lemmas.SamVarPipeline Gofasta.Base
open Gofasta.Lemmas.AggVariants

theorem sam_variants_agg_code_fault_reported (d : Dest) (vi : VarIn) (refID : String) (refRaw : List Nat)
    (blocks : List (List SamRec)) (pairOf : List SamRec → List Nat → List Nat × List Nat)
    (caller : List Nat → List Nat → List Region → List Nat → List Variant)
    (regions : List Region) (inter : List Nat)
    (hsep : Separated (aggKeys vi.append vi.start vi.stop refID (samLists refRaw blocks pairOf caller regions inter)))
    (N1 N2 cap0 cap1 cap2 : Nat) (rf : Option (Nat × RunErr)) (hN1 : 1 ≤ N1) (hN2 : 1 ≤ N2) (k : Nat)
    (hd : d = .failFrom k ∨ d = .failOnce k) (hk1 : 1 ≤ k)
    (hkW : k ≤ 1 + (varAggLines vi refID (samLists refRaw blocks pairOf caller regions inter)).length)
    {s : State _ _ _}
    (hr : Reach (samVarAggFCfg d [varAggHeader] [] vi refID refRaw blocks pairOf caller regions inter
      N1 N2 cap0 cap1 cap2 rf) s) : s.main ≠ .ret none :=
  chain_agg_fault_reported (samVarAggF_isAW [varAggHeader] []) (two_pools_pos hN1 hN2) (samVar_rowsAre hsep)
    k hd hk1 hkW hr

theorem sam_variants_agg_code_fault_beyond_run_harmless (d : Dest) (vi : VarIn) (refID : String) (refRaw : List Nat)
    (blocks : List (List SamRec)) (pairOf : List SamRec → List Nat → List Nat × List Nat)
    (caller : List Nat → List Nat → List Region → List Nat → List Variant)
    (regions : List Region) (inter : List Nat) (hregs : samRegions vi refRaw = some (regions, inter))
    (hagg : vi.agg = true)
    (hsep : Separated (aggKeys vi.append vi.start vi.stop refID (samLists refRaw blocks pairOf caller regions inter)))
    (N1 N2 cap0 cap1 cap2 : Nat) (rf : Option (Nat × RunErr)) (hN1 : 1 ≤ N1) (hN2 : 1 ≤ N2) {s : State _ _ _}
    (hr : Reach (samVarAggFCfg d [varAggHeader] [] vi refID refRaw blocks pairOf caller regions inter
      N1 N2 cap0 cap1 cap2 rf) s) (hm : s.main = .ret none) :
    s.wst.sink.text = samVarOn vi refID refRaw blocks pairOf caller ∧
      s.wst.sink.calls = 1 + (varAggLines vi refID (samLists refRaw blocks pairOf caller regions inter)).length ∧
      ∀ i, 1 ≤ i → i ≤ 1 + (varAggLines vi refID (samLists refRaw blocks pairOf caller regions inter)).length →
        d.fails i = false := by
  obtain ⟨h1, _, h3, h4⟩ := chain_agg_fault_beyond_run_harmless (samVarAggF_isAW [varAggHeader] [])
    (two_pools_pos hN1 hN2) (samVar_rowsAre hsep) hr hm
  exact ⟨h1.trans (samVarAgg_text_eq refID blocks pairOf caller hregs hagg), h3, h4⟩

theorem sam_variants_agg_code_written_is_prefix (d : Dest) (vi : VarIn) (refID : String) (refRaw : List Nat)
    (blocks : List (List SamRec)) (pairOf : List SamRec → List Nat → List Nat × List Nat)
    (caller : List Nat → List Nat → List Region → List Nat → List Variant)
    (regions : List Region) (inter : List Nat)
    (hsep : Separated (aggKeys vi.append vi.start vi.stop refID (samLists refRaw blocks pairOf caller regions inter)))
    (N1 N2 cap0 cap1 cap2 : Nat) (rf : Option (Nat × RunErr)) (hN1 : 1 ≤ N1) (hN2 : 1 ≤ N2) {s : State _ _ _}
    (hr : Reach (samVarAggFCfg d [varAggHeader] [] vi refID refRaw blocks pairOf caller regions inter
      N1 N2 cap0 cap1 cap2 rf) s) :
    ∃ j, chainAggAccepted d [varAggHeader] [] ([], 0) (svAccum vi refID) (varAggRowsOf vi) s =
      String.join ((varAggHeader ::
        varAggLines vi refID (samLists refRaw blocks pairOf caller regions inter)).take j) :=
  chain_agg_written_is_prefix (samVarAggF_isAW [varAggHeader] []) (two_pools_pos hN1 hN2)
    (samVar_rowsAre hsep) hr

end samVariantsAggregateCode

end Gofasta.Lemmas.SchedFaultsAgg
