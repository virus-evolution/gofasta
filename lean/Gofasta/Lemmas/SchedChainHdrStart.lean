import Gofasta.Lemmas.SchedAggWriter
/-
Lemmas/SchedHdrStart over the chain model (Model/SchedChain: any number of worker pools; `sam variants` has two): the start
states as there (`ChainReachFrom`, `chainErrStart`, `chainHdrStart`, `chain_hdr_sound`; what is said there of `errStart` and
`inv_errStart` holds of the chain forms), then (B) for the streaming writer and for the aggregating writer of the chain.  The commands are in Lemmas/SchedFaultsChainHdr, whose
namespace this module keeps: the full names of these statements are referred to from outside the Lean sources.
-/
set_option autoImplicit false

namespace Gofasta.Lemmas.SchedFaultsChainHdr
open Gofasta Gofasta.Model
open Gofasta.Model.Sched (absorbAll)
open Gofasta.Lemmas.SchedCommands
open Gofasta.Lemmas.SchedFaults
open Gofasta.Lemmas.SchedFaultsAgg Gofasta.Lemmas.SchedRun

variable {ε κ : Type}

section startStates
open Gofasta.Model.SchedChain Gofasta.Lemmas.SchedChain
open Gofasta.Model.Sched (RPc WPc TPc OPc Chan)
variable {γ σ : Type}

inductive ChainReachFrom (cfg : Cfg γ ε σ) (s0 : State γ ε σ) : State γ ε σ → Prop where
  | start : ChainReachFrom cfg s0 s0
  | step {s s' : State γ ε σ} (l : Label) : ChainReachFrom cfg s0 s → step? cfg s l = some s' →
      ChainReachFrom cfg s0 s'

theorem chainReachFrom_init {cfg : Cfg γ ε σ} {s : State γ ε σ} :
    ChainReachFrom cfg (init cfg) s ↔ Reach cfg s := by
  constructor
  · intro h
    induction h with
    | start => exact Reach.init
    | step l _ hs ih => exact Reach.step l ih hs
  · intro h
    induction h with
    | init => exact ChainReachFrom.start
    | step l _ hs ih => exact ChainReachFrom.step l ih hs

def chainErrStart (cfg : Cfg γ ε σ) (e : ε) : State γ ε σ := { init cfg with writer := .errS e }

def chainHdrStart (cfg : Cfg γ ε σ) (e : ε) (failed : Bool) : State γ ε σ :=
  if failed then chainErrStart cfg e else init cfg

theorem chainHdrStart_false (cfg : Cfg γ ε σ) (e : ε) : chainHdrStart cfg e false = init cfg := rfl
theorem chainHdrStart_true (cfg : Cfg γ ε σ) (e : ε) : chainHdrStart cfg e true = chainErrStart cfg e := rfl

theorem inv_chainErrStart (cfg : Cfg γ ε σ) (e : ε) (he : ∃ st, cfg.finish st = .error e) :
    Inv cfg (chainErrStart cfg e) :=
  { inv_init cfg with
    oRecv := fun hw => nomatch hw
    oDone := fun hw => hw.elim (fun hw => nomatch hw) (fun hw => nomatch hw)
    oFold := fun hw => hw.elim (fun hw => nomatch hw) (fun hw => nomatch hw)
    oErr := fun e' hw => by cases hw; exact Or.inr he
    mOk := ⟨fun hm => (nomatch hm), fun hw => (nomatch hw)⟩ }

theorem chainReachFrom_inv {cfg : Cfg γ ε σ} {s0 s : State γ ε σ} (h0 : Inv cfg s0)
    (hr : ChainReachFrom cfg s0 s) : Inv cfg s := by
  induction hr with
  | start => exact h0
  | step l _ hs ih => exact inv_step ih hs

theorem chainErrStart_reportable (cfg : Cfg γ ε σ) (e : ε) :
    step? cfg (chainErrStart cfg e) (.mainErr .writer) = some { chainErrStart cfg e with main := .ret (some e) } := rfl

theorem chainHdrStart_inv {cfg : Cfg γ ε σ} {e : ε} {b : Bool} (he : b = true → cfg.finish cfg.init = .error e) :
    Inv cfg (chainHdrStart cfg e b) := by
  cases b with
  | false => exact inv_init cfg
  | true => exact inv_chainErrStart cfg e ⟨_, he rfl⟩

theorem chainErrStart_frozen {cfg : Cfg γ ε σ} {s : State γ ε σ} {e : ε} (he : ∃ st, cfg.finish st = .error e)
    (hr : ChainReachFrom cfg (chainErrStart cfg e) s) : Frozen (chainJob cfg) e (chainObs s) := by
  induction hr with
  | start => exact ⟨rfl, rfl, rfl, nofun, nofun⟩
  | step l hr hs ih =>
    have hi := chainReachFrom_inv (inv_chainErrStart cfg e he) hr
    exact ih.step (chain_step_frame hs).1 (inv_step hi hs).mOk.mp (chain_step_retErr hi hs)

theorem chain_hdr_sound {cfg : Cfg γ ε σ} {s : State γ ε σ} {e : ε} {b : Bool}
    (he : b = true → cfg.finish cfg.init = .error e) (hr : ChainReachFrom cfg (chainHdrStart cfg e b) s) :
    HdrSound (chainJob cfg) e b (chainObs s) := by
  cases b with
  | false => exact .inl ⟨rfl, chain_sound (chainReachFrom_init.mp hr)⟩
  | true => exact .inr ⟨rfl, chainErrStart_frozen ⟨_, he rfl⟩ hr⟩

theorem chainReachFrom_maximal_returned {cfg : Cfg γ ε σ} {s0 s : State γ ε σ} (hN : ∀ P ∈ cfg.pools, 1 ≤ P.N)
    (h0 : Inv cfg s0) (hr : ChainReachFrom cfg s0 s) (hstuck : enabled cfg s = []) : ∃ r, s.main = .ret r :=
  (chainReachFrom_inv h0 hr).returned_of_stuck hN hstuck

def chainRunHdr (cfg : Cfg γ ε σ) (e : ε) (failed : Bool) (sched : List Nat) : State γ ε σ :=
  runWith (step? cfg) (allLabels cfg) (chainHdrStart cfg e failed) sched

theorem chainRunHdr_reachFrom (cfg : Cfg γ ε σ) (e : ε) (failed : Bool) (sched : List Nat) :
    ChainReachFrom cfg (chainHdrStart cfg e failed) (chainRunHdr cfg e failed sched) :=
  runWith_preserves ChainReachFrom.step sched ChainReachFrom.start

end startStates

section hdrFW
open Gofasta.Model.SchedChain Gofasta.Lemmas.SchedChain

variable {γ : Type} {cfg : Cfg γ ε (FW γ)} {s : State γ ε (FW γ)} {d : Dest} {chunks : γ → List String}
  {header : String} {k0 : Nat} {e : ε}

theorem chain_hdr_fault_reported (h : IsFWc cfg d chunks header k0 e) (hN : ∀ P ∈ cfg.pools, 1 ≤ P.N) (k : Nat)
    (hd : d = .failFrom k ∨ d = .failOnce k) (hk1 : 1 ≤ k)
    (hkW : ∀ ys, cfg.items.map (pass cfg.pools) = ys.map Except.ok → k ≤ nCalls chunks ys)
    (hr : ChainReachFrom cfg (chainHdrStart cfg e (d.fails 1)) s) : s.main ≠ .ret none :=
  (chain_hdr_sound h.spec.finish_init hr).not_nil fun so => h.spec.reported so hN k hk1 (Dest.fails_of_at hd) hkW

theorem chain_hdr_fault_beyond_run_harmless (h : IsFWc cfg d chunks header k0 e) (hN : ∀ P ∈ cfg.pools, 1 ≤ P.N)
    (hr : ChainReachFrom cfg (chainHdrStart cfg e (d.fails 1)) s) (hm : s.main = .ret none) :
    ∃ ys : List γ, cfg.items.map (pass cfg.pools) = ys.map Except.ok ∧
      s.wst.sink.text = header ++ String.join (ys.map fun y => String.join (chunks y)) ∧
      s.wst.sink.failed = false ∧ s.wst.sink.calls = nCalls chunks ys ∧
      ∀ i, 1 ≤ i → i ≤ nCalls chunks ys → d.fails i = false :=
  h.spec.harmless ((chain_hdr_sound h.spec.finish_init hr).of_nil hm) hN hm

theorem chain_hdr_written_is_prefix (h : IsFWc cfg d chunks header k0 e)
    (hr : ChainReachFrom cfg (chainHdrStart cfg e (d.fails 1)) s) :
    ∃ j, chainAccepted d chunks header k0 s =
      String.join ((callSeq header chunks (goodPrefix (pass cfg.pools) cfg.items)).take j) :=
  have ha := (chain_hdr_sound h.spec.finish_init hr).arrivals
  fwAfter_text_prefix d chunks header k0 ha.1 ha.2

theorem chain_header_fault_immediate (h : IsFWc cfg d chunks header k0 e) (hd : d.fails 1 = true)
    (hr : ChainReachFrom cfg (chainHdrStart cfg e (d.fails 1)) s) :
    s.arrival = [] ∧ s.writer = .errS e ∧ s.wst.sink = ⟨"", 1, true⟩ ∧ chainAccepted d chunks header k0 s = "" ∧
      s.main ≠ .ret none :=
  chainAccepted_eq d chunks header k0 s ▸ h.spec.header_fault_immediate (chain_hdr_sound h.spec.finish_init hr) hd

theorem chain_header_fault_reportable_at_once (cfg : Cfg γ ε (FW γ)) (e : ε) :
    step? cfg (chainHdrStart cfg e true) (.mainErr .writer) =
      some { chainErrStart cfg e with main := .ret (some e) } :=
  chainErrStart_reportable cfg e

theorem chain_hdr_fault_maximal_run (h : IsFWc cfg d chunks header k0 e) (hN : ∀ P ∈ cfg.pools, 1 ≤ P.N) (k : Nat)
    (hd : d = .failFrom k ∨ d = .failOnce k) (hk1 : 1 ≤ k)
    (hkW : ∀ ys, cfg.items.map (pass cfg.pools) = ys.map Except.ok → k ≤ nCalls chunks ys)
    (hr : ChainReachFrom cfg (chainHdrStart cfg e (d.fails 1)) s) (hstuck : enabled cfg s = []) :
    ∃ e', s.main = .ret (some e') :=
  (chainObs s).returned_error
    (chainReachFrom_maximal_returned hN (chainHdrStart_inv h.spec.finish_init) hr hstuck)
    (chain_hdr_fault_reported h hN k hd hk1 hkW hr)

theorem chain_hdr_fault_maximal_run_write_error (h : IsFWc cfg d chunks header k0 e) (hN : ∀ P ∈ cfg.pools, 1 ≤ P.N)
    (hrf : cfg.readFail = none) {ys : List γ} (hys : cfg.items.map (pass cfg.pools) = ys.map Except.ok) (k : Nat)
    (hd : d = .failFrom k ∨ d = .failOnce k) (hk1 : 1 ≤ k) (hkW : k ≤ nCalls chunks ys)
    (hr : ChainReachFrom cfg (chainHdrStart cfg e (d.fails 1)) s) (hstuck : enabled cfg s = []) :
    s.main = .ret (some e) :=
  have hret := (chainReachFrom_maximal_returned hN (chainHdrStart_inv h.spec.finish_init) hr hstuck)
  (chain_hdr_sound h.spec.finish_init hr).returned hrf (all_ok_of_map hys) hret fun so =>
    (h.spec.outcome so hN hrf hys hret).2 k hk1 hkW (Dest.fails_of_at hd)

end hdrFW

section hdrAW
open Gofasta.Model.SchedChain Gofasta.Lemmas.SchedChain

variable {γ : Type} {cfg : Cfg γ ε (AW κ)} {s : State γ ε (AW κ)} {d : Dest} {hs pre : List String} {acc0 : κ}
  {accum : κ → Nat × γ → κ} {rows : κ → List String} {e : ε} {R : List String}

theorem chain_agg_hdr_fault_reported (h : IsAWc cfg d hs pre acc0 accum rows e) (hN : ∀ P ∈ cfg.pools, 1 ≤ P.N)
    (hR : RowsAre cfg.items (pass cfg.pools) acc0 accum rows R) (k : Nat) (hd : d = .failFrom k ∨ d = .failOnce k)
    (hk1 : 1 ≤ k) (hkW : k ≤ aggW hs pre R)
    (hr : ChainReachFrom cfg (chainHdrStart cfg e (Sink.putAll d Sink.empty hs).failed) s) : s.main ≠ .ret none :=
  (chain_hdr_sound h.spec.finish_init hr).not_nil fun so => h.spec.reported so hN hR k hk1 (Dest.fails_of_at hd) hkW

theorem chain_agg_hdr_fault_beyond_run_harmless (h : IsAWc cfg d hs pre acc0 accum rows e)
    (hN : ∀ P ∈ cfg.pools, 1 ≤ P.N) (hR : RowsAre cfg.items (pass cfg.pools) acc0 accum rows R)
    (hr : ChainReachFrom cfg (chainHdrStart cfg e (Sink.putAll d Sink.empty hs).failed) s)
    (hm : s.main = .ret none) :
    s.wst.sink.text = String.join (aggCalls hs pre R) ∧ s.wst.sink.failed = false ∧
      s.wst.sink.calls = aggW hs pre R ∧ ∀ i, 1 ≤ i → i ≤ aggW hs pre R → d.fails i = false :=
  h.spec.harmless ((chain_hdr_sound h.spec.finish_init hr).of_nil hm) hN hR hm

theorem chain_agg_hdr_written_is_prefix (h : IsAWc cfg d hs pre acc0 accum rows e) (hN : ∀ P ∈ cfg.pools, 1 ≤ P.N)
    (hR : RowsAre cfg.items (pass cfg.pools) acc0 accum rows R)
    (hr : ChainReachFrom cfg (chainHdrStart cfg e (Sink.putAll d Sink.empty hs).failed) s) :
    ∃ j, chainAggAccepted d hs pre acc0 accum rows s = String.join ((aggCalls hs pre R).take j) :=
  chainAggAccepted_eq s ▸ h.spec.hdr_written_is_prefix (chain_hdr_sound h.spec.finish_init hr) hN hR

theorem chain_agg_header_fault_immediate {header : String} (h : IsAWc cfg d [header] [] acc0 accum rows e)
    (hd : d.fails 1 = true)
    (hr : ChainReachFrom cfg (chainHdrStart cfg e (Sink.putAll d Sink.empty [header]).failed) s) :
    s.arrival = [] ∧ s.writer = .errS e ∧ s.wst.sink = ⟨"", 1, true⟩ ∧
      chainAggAccepted d [header] [] acc0 accum rows s = "" ∧ s.main ≠ .ret none :=
  chainAggAccepted_eq s ▸ h.spec.header_fault_immediate (chain_hdr_sound h.spec.finish_init hr) hd

theorem chain_agg_hdr_fault_maximal_run (h : IsAWc cfg d hs pre acc0 accum rows e) (hN : ∀ P ∈ cfg.pools, 1 ≤ P.N)
    (hR : RowsAre cfg.items (pass cfg.pools) acc0 accum rows R) (k : Nat) (hd : d = .failFrom k ∨ d = .failOnce k)
    (hk1 : 1 ≤ k) (hkW : k ≤ aggW hs pre R)
    (hr : ChainReachFrom cfg (chainHdrStart cfg e (Sink.putAll d Sink.empty hs).failed) s)
    (hstuck : enabled cfg s = []) : ∃ e', s.main = .ret (some e') :=
  (chainObs s).returned_error
    (chainReachFrom_maximal_returned hN (chainHdrStart_inv h.spec.finish_init) hr hstuck)
    (chain_agg_hdr_fault_reported h hN hR k hd hk1 hkW hr)

theorem chain_agg_hdr_fault_maximal_run_write_error (h : IsAWc cfg d hs pre acc0 accum rows e)
    (hN : ∀ P ∈ cfg.pools, 1 ≤ P.N) (hrf : cfg.readFail = none)
    (hall : ∀ x ∈ cfg.items, ∃ y, pass cfg.pools x = .ok y)
    (hR : RowsAre cfg.items (pass cfg.pools) acc0 accum rows R) (k : Nat) (hd : d = .failFrom k ∨ d = .failOnce k)
    (hk1 : 1 ≤ k) (hkW : k ≤ aggW hs pre R)
    (hr : ChainReachFrom cfg (chainHdrStart cfg e (Sink.putAll d Sink.empty hs).failed) s)
    (hstuck : enabled cfg s = []) : s.main = .ret (some e) :=
  have hret := (chainReachFrom_maximal_returned hN (chainHdrStart_inv h.spec.finish_init) hr hstuck)
  (chain_hdr_sound h.spec.finish_init hr).returned hrf hall hret fun so =>
    (h.spec.outcome so hN hrf hall hR hret).2 k hk1 hkW (Dest.fails_of_at hd)

end hdrAW

end Gofasta.Lemmas.SchedFaultsChainHdr
