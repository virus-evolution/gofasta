import Gofasta.Lemmas.GffFasta
import Gofasta.Lemmas.RegionEquiv
import Gofasta.Model.SamText
/-
Glue between the GFF3 text layer (Model/GffText: the reader on BYTES) and the region builder that starts from
structured rows (Model/Regions: `GffRow`): the theorems of C14 restated for what is read from the bytes of a GFF3 file,
with or without a FASTA section.
-/
namespace Gofasta.Lemmas.FromBytes
open Gofasta Model Spec
-- `Bytes` is SamText's abbreviation, as in `FromBytesSam`: the statements below are written with it
open Gofasta.Model.SamText (Bytes)
open Gofasta.Model.GffText (Feature Row lookupKV idKey escAttr cdsB readGFF)
open Gofasta.Lemmas.GffRT (RowOk VerOk PlainText escAttr_plain escPair)

-- Model/Regions derives no equality test for `GffRow`; `exRows_cds` below decides an equation of rows by evaluation
deriving instance DecidableEq for GffRow

/-- "Name" -/
def nameKey : Bytes := [78, 97, 109, 101]

/-- `feature.Attributes[k][0]` when the tag is there: the FIRST value of the tag, else absent -/
def firstVal (k : Bytes) (attrs : List (Bytes × List Bytes)) : Option String :=
  match lookupKV k attrs with
  | some (v :: _) => some (bytesToString v)
  | _ => none

/-- a feature of the text reader as the row the region builder consumes: type, start, end, strand, phase, the first
value of the ID tag and of the Name tag (absent when the tag is absent ; the driver's proto format writes absent as
"."). The structured model counts coordinates in naturals: a negative start or end (which Atoi accepts) has no
counterpart, `none`. The phase of a parsed feature is 0, 1 or 2. -/
def featToRow (f : Feature) : Option GffRow :=
  if f.start < 0 ∨ f.stop < 0 then none
  else some ⟨bytesToString f.type, f.start.toNat, f.stop.toNat, bytesToString f.strand, f.phase.toNat,
    firstVal idKey f.attrs, firstVal nameKey f.attrs⟩

/-- What RegionsFromGFF gets from a GFF3 text: the rows, and the records of the ##FASTA section when there is one.
`none` = ReadGFF returns an error (the command stops), or a feature has a negative coordinate. -/
def gffRowsOfText (text : List Nat) : Option (List GffRow × Option (List (Bytes × GffText.FaRecord))) :=
  match readGFF text with
  | .ok g => (g.features.mapM featToRow).map fun rows => (rows, if g.fasta.isEmpty then none else some g.fasta)
  | .error _ => none

def optAttr (k : Bytes) : Option String → List (Bytes × List Bytes)
  | none => []
  | some v => [(k, [stringToBytes v])]

/-- a `GffRow` as a writer's row: seqid and source are those of the file, the score is ".", the phase is written as a
number (with `dot`: as "." when it is 0 and the type is not CDS, the way annotation files write gene or mRNA lines),
column nine is `ID=<id>;Name=<name>` (each only when present) followed by the other tags `extra` of the file -/
def rowToText (seqid source : Bytes) (dot : Bool) (extra : List (Bytes × List Bytes)) (r : GffRow) : Row :=
  { seqid := seqid, source := source, type := stringToBytes r.type, start := r.start, stop := r.stop, score := [46],
    strand := stringToBytes r.strand,
    phase := if dot = true ∧ r.phase = 0 ∧ stringToBytes r.type ≠ cdsB then none else some r.phase,
    attrs := optAttr idKey r.id ++ optAttr nameKey r.name ++ extra }

def rowsToText (seqid source : Bytes) (dot : Bool) (extra : List (Bytes × List Bytes)) (rows : List GffRow) : List Row :=
  rows.map (rowToText seqid source dot extra)

/-- a value the escaping rule leaves alone (no control character, '%', ';', '=', '&', ','): the reader does not decode
percent-escapes, so only such values come back as they were -/
def PlainOpt (o : Option String) : Prop := ∀ s, o = some s → PlainText (stringToBytes s)

instance (o : Option String) : Decidable (PlainOpt o) := by
  unfold PlainOpt
  cases o with
  | none => exact isTrue (fun s h => by cases h)
  | some v =>
    by_cases h : PlainText (stringToBytes v)
    · exact isTrue (fun s e => by cases e; exact h)
    · exact isFalse (fun hh => h (hh v rfl))

/-- a `GffRow` that can be written and read back: the written row meets the hypotheses of the round-trip theorem of the
text layer (`RowOk`: columns without TAB / LF / CR, coordinates within int64, a strand among + - . ?, a phase of at most
2, at least one tag in column nine, no tag twice, a line that fits the scanner's buffer), ID and Name need no escaping,
and no other tag of the file is written as ID or Name -/
def GffRowOk (seqid source : Bytes) (dot : Bool) (extra : List (Bytes × List Bytes)) (r : GffRow) : Prop :=
  RowOk (rowToText seqid source dot extra r) ∧ PlainOpt r.id ∧ PlainOpt r.name ∧
  ∀ a ∈ extra, escAttr a.1 ≠ idKey ∧ escAttr a.1 ≠ nameKey

instance (seqid source : Bytes) (dot : Bool) (extra : List (Bytes × List Bytes)) (r : GffRow) :
    Decidable (GffRowOk seqid source dot extra r) := by unfold GffRowOk; infer_instance

theorem escAttr_idKey : escAttr idKey = idKey := by decide
theorem escAttr_nameKey : escAttr nameKey = nameKey := by decide

theorem firstVal_absent (k : Bytes) : ∀ (l : List (Bytes × List Bytes)), (∀ a ∈ l, escAttr a.1 ≠ k) →
    firstVal k (l.map escPair) = none
  | [], _ => rfl
  | a :: t, h => by
    obtain ⟨ha, ht⟩ := List.forall_mem_cons.1 h
    have ih := firstVal_absent k t ht
    simp only [firstVal, List.map_cons, escPair, lookupKV, if_neg ha] at ih ⊢
    exact ih

theorem firstVal_optAttr_other (k k' : Bytes) (o : Option String) (rest : List (Bytes × List Bytes))
    (hne : escAttr k' ≠ k) : firstVal k ((optAttr k' o ++ rest).map escPair) = firstVal k (rest.map escPair) := by
  cases o with
  | none => rfl
  | some v => simp only [firstVal, optAttr, List.cons_append, List.nil_append, List.map_cons, escPair, lookupKV, if_neg hne]

theorem firstVal_optAttr_self (k : Bytes) (o : Option String) (rest : List (Bytes × List Bytes)) (hk : escAttr k = k)
    (hp : PlainOpt o) (hr : firstVal k (rest.map escPair) = none) :
    firstVal k ((optAttr k o ++ rest).map escPair) = o := by
  cases o with
  | none => exact hr
  | some v =>
    simp only [firstVal, optAttr, List.cons_append, List.nil_append, List.map_cons, escPair, hk, lookupKV, if_true,
      List.map_nil, escAttr_plain _ (hp v rfl), bytesToString_stringToBytes]

theorem firstVal_id (id name : Option String) (extra : List (Bytes × List Bytes)) (hp : PlainOpt id)
    (hx : ∀ a ∈ extra, escAttr a.1 ≠ idKey ∧ escAttr a.1 ≠ nameKey) :
    firstVal idKey ((optAttr idKey id ++ optAttr nameKey name ++ extra).map escPair) = id := by
  rw [List.append_assoc]
  apply firstVal_optAttr_self idKey id _ escAttr_idKey hp
  rw [firstVal_optAttr_other idKey nameKey name extra (by rw [escAttr_nameKey]; decide)]
  exact firstVal_absent idKey extra fun a ha => (hx a ha).1

theorem firstVal_name (id name : Option String) (extra : List (Bytes × List Bytes)) (hp : PlainOpt name)
    (hx : ∀ a ∈ extra, escAttr a.1 ≠ idKey ∧ escAttr a.1 ≠ nameKey) :
    firstVal nameKey ((optAttr idKey id ++ optAttr nameKey name ++ extra).map escPair) = name := by
  rw [List.append_assoc, firstVal_optAttr_other nameKey idKey id _ (by rw [escAttr_idKey]; decide)]
  exact firstVal_optAttr_self nameKey name extra escAttr_nameKey hp (firstVal_absent nameKey extra fun a ha => (hx a ha).2)

theorem featToRow_toFeature (seqid source : Bytes) (dot : Bool) (extra : List (Bytes × List Bytes)) (r : GffRow)
    (h : GffRowOk seqid source dot extra r) :
    featToRow (rowToText seqid source dot extra r).toFeature = some r := by
  obtain ⟨_, hid, hname, hx⟩ := h
  have hph : ((rowToText seqid source dot extra r).phase.getD 0) = r.phase := by
    simp only [rowToText]
    split
    · rename_i hc
      simp only [Option.getD_none]
      exact hc.2.1.symm
    · rfl
  have hattrs : (rowToText seqid source dot extra r).toFeature.attrs =
      (optAttr idKey r.id ++ optAttr nameKey r.name ++ extra).map escPair := rfl
  unfold featToRow
  have hs : ¬ ((rowToText seqid source dot extra r).toFeature.start < 0 ∨ (rowToText seqid source dot extra r).toFeature.stop < 0) := by
    simp only [Row.toFeature, rowToText]
    omega
  rw [if_neg hs, hattrs, firstVal_id r.id r.name extra hid hx, firstVal_name r.id r.name extra hname hx]
  simp only [Row.toFeature, hph]
  cases r with
  | mk t a b st ph i n =>
    simp [rowToText, bytesToString_stringToBytes]

section Rows
variable {seqid source : Bytes} {dot : Bool} {extra : List (Bytes × List Bytes)} {rows : List GffRow}

theorem rowsToText_ok (h : ∀ r ∈ rows, GffRowOk seqid source dot extra r) :
    ∀ x ∈ rowsToText seqid source dot extra rows, RowOk x :=
  List.forall_mem_map.2 fun r hr => (h r hr).1

theorem rowsToText_ne_nil (hne : rows ≠ []) : rowsToText seqid source dot extra rows ≠ [] := by
  simpa [rowsToText] using hne

theorem features_back (h : ∀ r ∈ rows, GffRowOk seqid source dot extra r) :
    ((rowsToText seqid source dot extra rows).map Row.toFeature).mapM featToRow = some rows := by
  rw [rowsToText, List.map_map]
  exact mapM_map_some featToRow _ rows fun r hr => featToRow_toFeature seqid source dot extra r (h r hr)

end Rows

/-- the text written for a non-empty list of well-formed rows (any version word, any line ends,
final line end or not) is read back as exactly those rows, and no FASTA section -/
theorem gffRowsOfText_renderText (crlf finalEol : Bool) (ver seqid source : Bytes) (dot : Bool)
    (extra : List (Bytes × List Bytes)) (rows : List GffRow) (hv : VerOk ver) (hne : rows ≠ [])
    (h : ∀ r ∈ rows, GffRowOk seqid source dot extra r) :
    gffRowsOfText (renderText crlf finalEol (GffText.renderLines ver (rowsToText seqid source dot extra rows))) =
      some (rows, none) := by
  unfold gffRowsOfText
  rw [GffRT.gff_roundtrip crlf finalEol ver _ hv (rowsToText_ne_nil hne) (rowsToText_ok h)]
  simp only [GffRT.expected, features_back h]
  rfl

theorem gffRowsOfText_render (ver seqid source : Bytes) (dot : Bool) (extra : List (Bytes × List Bytes))
    (rows : List GffRow) (hv : VerOk ver) (hne : rows ≠ []) (h : ∀ r ∈ rows, GffRowOk seqid source dot extra r) :
    gffRowsOfText (GffText.render ver (rowsToText seqid source dot extra rows)) = some (rows, none) := by
  rw [GffRT.render_eq_renderText]
  exact gffRowsOfText_renderText false true ver seqid source dot extra rows hv hne h

theorem optAttr_values (k : Bytes) (o : Option String) : ∀ a ∈ optAttr k o, a.2 ≠ [] := by
  cases o <;> simp [optAttr]

/-- `GffRowOk` in elementary terms, for a file without other tags: conditions on the row itself -/
theorem gffRowOk_of (seqid source : Bytes) (dot : Bool) (r : GffRow)
    (hsid : GffText.seqidOk seqid = true) (hsrc : GffRT.FieldOk source) (htype : GffRT.FieldOk (stringToBytes r.type))
    (hst : r.start ≤ Csv.maxInt64) (hen : r.stop ≤ Csv.maxInt64)
    (hstrand : GffText.strandOk (stringToBytes r.strand) = true) (hph : r.phase ≤ 2)
    (hattr : r.id ≠ none ∨ r.name ≠ none) (hid : PlainOpt r.id) (hname : PlainOpt r.name)
    (hlen : (GffText.renderRow (rowToText seqid source dot [] r)).length + 1 < GffText.maxToken) :
    GffRowOk seqid source dot [] r := by
  refine ⟨⟨hsid, hsrc, htype, hst, hen, ?_, hstrand, ?_, ?_, ?_, ?_, hlen⟩, hid, hname, fun a ha => by cases ha⟩
  · intro b hb
    simp only [rowToText, List.mem_cons, List.not_mem_nil, or_false] at hb
    omega
  · constructor
    · intro hnone
      simp only [rowToText] at hnone ⊢
      split at hnone
      · rename_i hc; exact hc.2.2
      · cases hnone
    · simp only [rowToText]
      split
      · simp
      · simpa using hph
  · simp only [rowToText, List.append_nil]
    cases hi : r.id <;> cases hn : r.name <;> simp_all [optAttr]
  · simp only [rowToText, List.append_nil]
    exact List.forall_mem_append.2 ⟨optAttr_values idKey r.id, optAttr_values nameKey r.name⟩
  · simp only [rowToText, List.append_nil]
    cases r.id <;> cases r.name <;> simp [optAttr, escAttr_idKey, escAttr_nameKey] <;> decide

open Gofasta.Lemmas.RegionEquiv (Gene cdsRows AllDescribe)

/-- RegionsFromGFF on the bytes of a GFF3 file and the degapped reference ; none = error -/
def regionsFromGffText (text : List Nat) (ref : List Nat) : Option (List Region × List Nat) :=
  match gffRowsOfText text with
  | some (rows, _) => regionsFromGFF rows ref
  | none => none

theorem regionsFromGffText_of_rows (text : List Nat) (rows : List GffRow) (fa : Option (List (Bytes × GffText.FaRecord)))
    (ref : List Nat) (h : gffRowsOfText text = some (rows, fa)) : regionsFromGffText text ref = regionsFromGFF rows ref := by
  unfold regionsFromGffText
  rw [h]

theorem regionsFromGffText_render (ver seqid source : Bytes) (dot : Bool) (extra : List (Bytes × List Bytes))
    (rows : List GffRow) (ref : List Nat) (hv : VerOk ver) (hne0 : rows ≠ [])
    (hok : ∀ r ∈ rows, GffRowOk seqid source dot extra r) :
    regionsFromGffText (GffText.render ver (rowsToText seqid source dot extra rows)) ref = regionsFromGFF rows ref :=
  regionsFromGffText_of_rows _ rows none ref (gffRowsOfText_render ver seqid source dot extra rows hv hne0 hok)

/-- `RegionEquiv.gff_annotation` for the bytes of a GFF3 file: the file written (any
line ends) for well-formed rows whose CDS rows are the conformant rows of `genes` (other rows - gene, mRNA, exon -
may be interleaved) yields the regions of the genes, stably sorted by smallest position, and their intergenic list -/
theorem gff_annotation_from_bytes_layout (crlf finalEol : Bool) (ver seqid source : Bytes) (dot : Bool)
    (extra : List (Bytes × List Bytes)) (rows : List GffRow) (genes : List Gene) (ref : List Nat)
    (hv : VerOk ver) (hne0 : rows ≠ []) (hok : ∀ r ∈ rows, GffRowOk seqid source dot extra r)
    (hrows : cdsRows rows = genes.flatMap Gene.rows)
    (hoff : ∀ g ∈ genes, g.Offset) (hst : ∀ g ∈ genes, g.AscStarts) (hf : ∀ g ∈ genes, g.Faithful ref)
    (hnd : (genes.map Gene.name).Nodup) (hne : ∀ g ∈ genes, g.name ≠ "") :
    regionsFromGffText (renderText crlf finalEol (GffText.renderLines ver (rowsToText seqid source dot extra rows))) ref =
      some (sortStable regionStartLt (genes.map Gene.region),
        codes (sortStable regionStartLt (genes.map Gene.region)) ref.length) := by
  rw [regionsFromGffText_of_rows _ rows none ref
    (gffRowsOfText_renderText crlf finalEol ver seqid source dot extra rows hv hne0 hok)]
  exact RegionEquiv.gff_annotation rows genes ref hrows hoff hst hf hnd hne

theorem gff_annotation_from_bytes (ver seqid source : Bytes) (dot : Bool)
    (extra : List (Bytes × List Bytes)) (rows : List GffRow) (genes : List Gene) (ref : List Nat)
    (hv : VerOk ver) (hne0 : rows ≠ []) (hok : ∀ r ∈ rows, GffRowOk seqid source dot extra r)
    (hrows : cdsRows rows = genes.flatMap Gene.rows)
    (hoff : ∀ g ∈ genes, g.Offset) (hst : ∀ g ∈ genes, g.AscStarts) (hf : ∀ g ∈ genes, g.Faithful ref)
    (hnd : (genes.map Gene.name).Nodup) (hne : ∀ g ∈ genes, g.name ≠ "") :
    regionsFromGffText (GffText.render ver (rowsToText seqid source dot extra rows)) ref =
      some (sortStable regionStartLt (genes.map Gene.region),
        codes (sortStable regionStartLt (genes.map Gene.region)) ref.length) := by
  rw [GffRT.render_eq_renderText]
  exact gff_annotation_from_bytes_layout false true ver seqid source dot extra rows genes ref hv hne0 hok hrows hoff hst hf hnd hne

/-- `RegionEquiv.annotation_equiv` with the GFF rows replaced by what is read from
the written file: the GFF route on the BYTES returns the region list of the GenBank route, stably sorted by smallest
position, and the same intergenic list -/
theorem annotation_equiv_from_bytes (ver seqid source : Bytes) (dot : Bool) (extra : List (Bytes × List Bytes))
    (fs : List GbFeature) (rows : List GffRow) (genes : List Gene) (ref : List Nat)
    (hv : VerOk ver) (hne0 : rows ≠ []) (hok : ∀ r ∈ rows, GffRowOk seqid source dot extra r)
    (hfs : AllDescribe fs genes) (hrows : cdsRows rows = genes.flatMap Gene.rows)
    (hoff : ∀ g ∈ genes, g.Offset) (hst : ∀ g ∈ genes, g.AscStarts) (hor : ∀ g ∈ genes, g.Oriented) (hf : ∀ g ∈ genes, g.Faithful ref)
    (hnd : (genes.map Gene.name).Nodup) (hne : ∀ g ∈ genes, g.name ≠ "")
    (rsB interB : _) (hB : regionsFromGenbank fs ref.length = some (rsB, interB))
    (rsF interF : _)
    (hF : regionsFromGffText (GffText.render ver (rowsToText seqid source dot extra rows)) ref = some (rsF, interF)) :
    rsB = genes.map Gene.region ∧ rsF = sortStable regionStartLt rsB ∧ rsF.Perm rsB ∧ interF = interB := by
  rw [regionsFromGffText_render ver seqid source dot extra rows ref hv hne0 hok] at hF
  exact RegionEquiv.annotation_equiv fs rows genes ref hfs hrows hoff hst hor hf hnd hne rsB interB hB rsF interF hF

/-- hence the mutation records reported with the annotation read from the GFF3 bytes
are those reported with the GenBank annotation, for every (reference row, query row) pair -/
theorem variants_equiv_from_bytes (ver seqid source : Bytes) (dot : Bool) (extra : List (Bytes × List Bytes))
    (fs : List GbFeature) (rows : List GffRow) (genes : List Gene) (ref : List Nat)
    (hv : VerOk ver) (hne0 : rows ≠ []) (hok : ∀ r ∈ rows, GffRowOk seqid source dot extra r)
    (hfs : AllDescribe fs genes) (hrows : cdsRows rows = genes.flatMap Gene.rows)
    (hoff : ∀ g ∈ genes, g.Offset) (hst : ∀ g ∈ genes, g.AscStarts) (hor : ∀ g ∈ genes, g.Oriented) (hf : ∀ g ∈ genes, g.Faithful ref)
    (hnd : (genes.map Gene.name).Nodup) (hne : ∀ g ∈ genes, g.name ≠ "")
    (rsB : List Region) (interB : List Nat) (hB : regionsFromGenbank fs ref.length = some (rsB, interB))
    (rsF : List Region) (interF : List Nat)
    (hF : regionsFromGffText (GffText.render ver (rowsToText seqid source dot extra rows)) ref = some (rsF, interF))
    (refRow qRow : List Nat) (v : Variant) :
    v ∈ getVariantsPair refRow qRow rsF interF ↔ v ∈ getVariantsPair refRow qRow rsB interB := by
  rw [regionsFromGffText_render ver seqid source dot extra rows ref hv hne0 hok] at hF
  exact RegionEquiv.variants_equiv fs rows genes ref hfs hrows hoff hst hor hf hnd hne rsB interB hB rsF interF hF refRow qRow v

/-- both routes succeed on the bytes (the hypotheses hB, hF above are not vacuous) -/
theorem both_succeed_from_bytes (ver seqid source : Bytes) (dot : Bool) (extra : List (Bytes × List Bytes))
    (fs : List GbFeature) (rows : List GffRow) (genes : List Gene) (ref : List Nat)
    (hv : VerOk ver) (hne0 : rows ≠ []) (hok : ∀ r ∈ rows, GffRowOk seqid source dot extra r)
    (hfs : AllDescribe fs genes) (hrows : cdsRows rows = genes.flatMap Gene.rows)
    (hoff : ∀ g ∈ genes, g.Offset) (hst : ∀ g ∈ genes, g.AscStarts) (hor : ∀ g ∈ genes, g.Oriented) (hf : ∀ g ∈ genes, g.Faithful ref)
    (hnd : (genes.map Gene.name).Nodup) (hne : ∀ g ∈ genes, g.name ≠ "") :
    (regionsFromGenbank fs ref.length).isSome = true ∧
    (regionsFromGffText (GffText.render ver (rowsToText seqid source dot extra rows)) ref).isSome = true := by
  rw [regionsFromGffText_render ver seqid source dot extra rows ref hv hne0 hok]
  exact RegionEquiv.both_succeed fs rows genes ref hfs hrows hoff hst hor hf hnd hne

/-! ### non-vacuity: a concrete GFF3 file (a gene line, then the three CDS lines of the two genes of `RegionEquiv`) -/

def exSeqid : Bytes := [114, 101, 102]
def exSource : Bytes := [118]
def exGeneRow : GffRow := ⟨"gene", 2, 14, "+", 0, some "gene-A", some "A"⟩
def exRows : List GffRow := exGeneRow :: [RegionEquiv.nvA, RegionEquiv.nvB].flatMap Gene.rows

example : bytesToString (GffText.render [51] (rowsToText exSeqid exSource true [] exRows)) =
    "##gff-version 3\n" ++
    "ref\tv\tgene\t2\t14\t.\t+\t.\tID=gene-A;Name=A\n" ++
    "ref\tv\tCDS\t2\t8\t.\t+\t1\tID=cds-A;Name=A\n" ++
    "ref\tv\tCDS\t12\t14\t.\t+\t0\tID=cds-A;Name=A\n" ++
    "ref\tv\tCDS\t18\t26\t.\t-\t0\tID=cds-B;Name=B\n" := by
  apply bytesToString_eq_of
  simp only [stringToBytes_append]
  repeat rw [stringToBytes_ofList]
  decide +kernel

theorem exRows_ok : ∀ r ∈ exRows, GffRowOk exSeqid exSource true [] r := by decide +kernel

theorem exRows_cds : cdsRows exRows = [RegionEquiv.nvA, RegionEquiv.nvB].flatMap Gene.rows := by decide +kernel

example : gffRowsOfText (GffText.render [51] (rowsToText exSeqid exSource true [] exRows)) = some (exRows, none) :=
  gffRowsOfText_render [51] exSeqid exSource true [] exRows GffRT.sampleVer_ok (by decide) exRows_ok

/-- the theorem applies: the regions built from the BYTES of the GFF3 file are those built from the GenBank features -/
example : regionsFromGffText (GffText.render [51] (rowsToText exSeqid exSource true [] exRows)) RegionEquiv.nvRef =
    regionsFromGenbank RegionEquiv.nvFs RegionEquiv.nvRef.length := by
  obtain ⟨h1, h2, h3, h4, h5, h6, h7⟩ := RegionEquiv.nv_hyps
  rw [regionsFromGffText_render [51] exSeqid exSource true [] exRows _ GffRT.sampleVer_ok (by decide) exRows_ok]
  exact RegionEquiv.annotation_equal_of_sorted RegionEquiv.nvFs exRows [RegionEquiv.nvA, RegionEquiv.nvB] RegionEquiv.nvRef h1
    exRows_cds h2 RegionEquiv.nv_ascStarts (fun g hg => RegionEquiv.oriented_of_asc_faithful g RegionEquiv.nvRef (h3 g hg) (h4 g hg)) h4 h5 h6 h7

/-- and by plain evaluation of the text reader and the region builder -/
example : (regionsFromGffText (GffText.render [51] (rowsToText exSeqid exSource true [] exRows)) RegionEquiv.nvRef).map
      (fun x => (x.1.map (fun r => (r.name, r.strand, r.positions)), x.2)) =
    some ([("A", 1, [3, 4, 5, 6, 7, 8, 12, 13, 14]), ("B", -1, [26, 25, 24, 23, 22, 21, 20, 19, 18])],
      [1, 2, 9, 10, 11, 15, 16, 17, 27, 28]) := by decide +kernel

/-- `gff_fasta_from_bytes` for structured rows: what the region builder gets from the bytes of a GFF3 file with a FASTA section -/
theorem gffRowsOfText_withFasta (ver seqid source : Bytes) (dot : Bool) (extra : List (Bytes × List Bytes))
    (rows : List GffRow) (ft : List Nat) (recs : List FaRec) (hv : GffRT.VerOk ver) (hne : rows ≠ [])
    (h : ∀ r ∈ rows, GffRowOk seqid source dot extra r)
    (hshort : ∀ l ∈ splitLinesAux ft [], l.length < GffText.maxToken) (hne' : splitLines ft ≠ [])
    (hcr : ∀ l ∈ splitLines ft, dropCR l = l) (hh : ∀ l ∈ splitLines ft, HeaderOk l)
    (hm : readFastaList false ft = .ok recs) :
    gffRowsOfText (renderWithFasta ver (rowsToText seqid source dot extra rows) ft) =
      some (rows, if (GffText.faMap (recs.map conv) []).isEmpty then none else some (GffText.faMap (recs.map conv) [])) := by
  have hg := gff_fasta_from_bytes ver (rowsToText seqid source dot extra rows) ft hv (rowsToText_ne_nil hne)
    (rowsToText_ok h) hshort hne' hcr hh
  rw [hm] at hg
  simp only [gffRowsOfText, hg, GffRT.expected, features_back h]
  rfl

/-! ### non-vacuity: the GFF3 file above followed by its reference as a FASTA section of two lines -/

def exFasta : List Nat :=
  stringToBytes ">ref the reference\nCCATGAAAGGGTAA\nCCCTTATTTCATCC\n"

theorem exFasta_hyps : (∀ l ∈ splitLinesAux exFasta [], l.length < GffText.maxToken) ∧ splitLines exFasta ≠ [] ∧
    (∀ l ∈ splitLines exFasta, dropCR l = l) ∧ (∀ l ∈ splitLines exFasta, HeaderOk l) := by
  unfold exFasta
  rw [stringToBytes_ofList]
  decide +kernel

theorem exFasta_model : (readFastaList false exFasta).toOption.map (·.map conv) =
    some [⟨stringToBytes "ref", stringToBytes "ref the reference", RegionEquiv.nvRef, 0⟩] := by
  unfold exFasta
  repeat rw [stringToBytes_ofList]
  decide +kernel

/-- the theorem applies: the rows and the reference are read from the bytes of the one file -/
example : ∃ recs, readFastaList false exFasta = .ok recs ∧
    gffRowsOfText (renderWithFasta [51] (rowsToText exSeqid exSource true [] exRows) exFasta) =
      some (exRows, some [(stringToBytes "ref", ⟨stringToBytes "ref", stringToBytes "ref the reference", RegionEquiv.nvRef, 0⟩)]) := by
  cases hm : readFastaList false exFasta with
  | error e =>
    have := exFasta_model
    rw [hm] at this
    simp [Except.toOption] at this
  | ok recs =>
    refine ⟨recs, rfl, ?_⟩
    have hc : recs.map conv = [⟨stringToBytes "ref", stringToBytes "ref the reference", RegionEquiv.nvRef, 0⟩] := by
      have := exFasta_model
      rw [hm] at this
      simpa [Except.toOption] using this
    obtain ⟨h1, h2, h3, h4⟩ := exFasta_hyps
    rw [gffRowsOfText_withFasta [51] exSeqid exSource true [] exRows exFasta recs GffRT.sampleVer_ok (by decide) exRows_ok
      h1 h2 h3 h4 hm, hc]
    rfl

end Gofasta.Lemmas.FromBytes
