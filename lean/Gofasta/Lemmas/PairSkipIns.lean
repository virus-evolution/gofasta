import Gofasta.Lemmas.PairMulti
/-
C02, the skip-insertions branch of `sam toPairAlign` for every block: the query row of the paired no-insertion walk is
the toMultiAlign walk (no hypothesis at all), hence `pairOfBlock block ref true = specPairNoIns block ref` for every
non-empty block of well-formed records; then the whole command, and the statement over both values of `omitIns`.
-/
namespace Gofasta.Lemmas.PairSkipIns
open Gofasta Model Spec Gofasta.Props.C01 Gofasta.Props.C02 Gofasta.Lemmas

/-- the columns of an operator entry that decide the query row: operator, the two consumption flags, query-row kind -/
def qPart (e : Nat × Bool × Bool × Nat × Nat) : Nat × Bool × Bool × Nat := (e.1, e.2.1, e.2.2.1, e.2.2.2.1)

/-- the same for a looked-up entry (the operator itself is the key) -/
def qPart' (x : Bool × Bool × Nat × Nat) : Bool × Bool × Nat := (x.1, x.2.1, x.2.2.1)

theorem opEntry_qPart (t : List (Nat × Bool × Bool × Nat × Nat)) (op : Nat) :
    (opEntry t op).map qPart' = ((t.map qPart).find? fun e => e.1 == op).map (·.2) := by
  unfold opEntry
  rw [List.find?_map, Option.map_map, Option.map_map]
  rfl

/-- the query-row kinds (0 nothing, 1 query bases, 2 '-', 3 '*') never read the reference -/
theorem emit_ref_indep (k len q r : Nat) (seq ref1 ref2 : List Nat) (hk : k ≠ 4) :
    emit k len q r seq ref1 = emit k len q r seq ref2 := by
  unfold emit
  split <;> first | rfl | exact absurd rfl hk

/-- **the query row depends only on the query columns of the table**: whatever the reference rows given to the
two walks, whatever the reference-row kinds -/
theorem walkOps_query_row (t1 t2 : List (Nat × Bool × Bool × Nat × Nat)) (h : t1.map qPart = t2.map qPart)
    (hk : ∀ e ∈ t1, e.2.2.2.1 ≠ 4) (seq ref1 ref2 : List Nat) : ∀ (cigar : List (Nat × Nat)) (q r : Nat),
    (walkOps t1 seq ref1 cigar q r).1 = (walkOps t2 seq ref2 cigar q r).1 := by
  intro cigar
  induction cigar with
  | nil => intro q r; rfl
  | cons c rest ih =>
    intro q r
    obtain ⟨op, len⟩ := c
    have hp : (opEntry t1 op).map qPart' = (opEntry t2 op).map qPart' := by rw [opEntry_qPart, opEntry_qPart, h]
    simp only [walkOps]
    cases h1 : opEntry t1 op with
    | none =>
      cases h2 : opEntry t2 op with
      | none => exact ih q r
      | some y => rw [h1, h2] at hp; cases hp
    | some x =>
      cases h2 : opEntry t2 op with
      | none => rw [h1, h2] at hp; cases hp
      | some y =>
        obtain ⟨cq, cr, ek, rk⟩ := x
        obtain ⟨cq', cr', ek', rk'⟩ := y
        rw [h1, h2] at hp
        simp only [Option.map_some, Option.some.injEq, qPart', Prod.mk.injEq] at hp
        obtain ⟨rfl, rfl, rfl⟩ := hp
        dsimp only
        rw [ih, emit_ref_indep ek len q r seq ref1 ref2 (hk _ (opEntry_mem h1))]

/-- **C02** — for EVERY record and EVERY reference (no well-formedness, no condition on the
reference bytes): the query row of the paired no-insertion walk, right-padded with no-coverage marks to the reference
length, is the row `toMultiAlign` walks for the same record -/
theorem walkWithRef_noIns_query (r : SamRec) (ref : List Nat) : (walkWithRef r ref false).1 = walkNoIns r ref.length := by
  -- the two generated no-insertion tables (paired: `cigarTab2`, toMultiAlign: `cigarTab0`) have the same query columns
  have htabs : Gen.cigarTab2.map qPart = Gen.cigarTab0.map qPart := by
    rw [op_table_noins_is_sam, op_table_is_sam]
    exact query_rows_agree  -- which writes `qPart` out as a lambda
  unfold walkWithRef walkNoIns
  simp only [Bool.false_eq_true, if_false]
  rw [walkOps_query_row Gen.cigarTab2 Gen.cigarTab0 htabs (by decide) r.seq ref [] r.cigar 0 r.pos]

/-- `walkWithRef_noIns_query` under the hypothesis of the block theorems, which it does not need -/
theorem walkWithRef_noIns_query_wf (r : SamRec) (ref : List Nat) (_h : WFSamRec r ref.length) :
    (walkWithRef r ref false).1 = walkNoIns r ref.length := walkWithRef_noIns_query r ref

/-- `seqFromBlock` special-cases a single record, but flattening a single row changes nothing: the special case is
not observable, for any block (the empty one included); so the model's skip-insertions pair is the reference next to
the padded toMultiAlign row of the model -/
theorem pairOfBlock_skipIns_model (block : List SamRec) (ref : List Nat) :
    pairOfBlock block ref true = (ref, swapInNs (seqFromBlock block ref.length)) := by
  have hflat : flattenRows (block.map fun r => walkNoIns r ref.length) = seqFromBlock block ref.length := by
    unfold seqFromBlock
    split
    · exact flattenRows_single _
    · rfl
  unfold pairOfBlock
  rw [if_pos rfl, show (fun r => (walkWithRef r ref false).1) = fun r => walkNoIns r ref.length from
    funext fun r => walkWithRef_noIns_query r ref, hflat]

/-- **C02** — every non-empty block of well-formed records, any reference bytes:
the pair written with skip-insertions is the specification's pair -/
theorem pairOfBlock_skipIns (block : List SamRec) (ref : List Nat) (hne : block ≠ [])
    (hwf : ∀ r ∈ block, WFSamRec r ref.length) : pairOfBlock block ref true = specPairNoIns block ref := by
  rw [pairOfBlock_skipIns_model, seqFromBlock_starRow block ref.length hne hwf,
    swapNs_starRow block ref.length (flatCol_ne_star block ref.length hwf)]
  rfl

/-- the link to C01 in one line: the query row of the skip-insertions pair is what `toMultiAlign --pad` writes for
the same block (no window) -/
theorem pairOfBlock_skipIns_is_toma_pad (block : List SamRec) (ref : List Nat) (s e : Nat) :
    (pairOfBlock block ref true).2 = fastaRecordSeq (seqFromBlock block ref.length) false true s e := by
  rw [pairOfBlock_skipIns_model]
  rfl

theorem pairOfBlock_skipIns_lengths (block : List SamRec) (ref : List Nat) (hne : block ≠ [])
    (hwf : ∀ r ∈ block, WFSamRec r ref.length) :
    (pairOfBlock block ref true).1 = ref ∧ (pairOfBlock block ref true).2.length = ref.length := by
  rw [pairOfBlock_skipIns block ref hne hwf]
  simp [specPairNoIns, specTomaRow]

/-- **C02, toPairAlign (skip-insertions)** — for every SAM file whose retained records fit the reference and carry
letters, every accepted window: one text per query, in input order, holding the specified pair cut from the column of
reference base s to that of base e. The only condition on the reference: when a window is given, the reference holds
at least e bytes other than '-' (true in particular when it holds no '-') -/
theorem toPairAlign_skipIns_spec (ref : List Nat) (refName : String) (start stop wrap : Int) (omitRef : Bool)
    (recs : List SamRec) (s e : Nat) (trim : Bool) (hargs : checkArgs ref.length start stop = some (s, e, trim))
    (hwin : trim = true → e ≤ (degap ref).length)
    (hwf : ∀ r ∈ recs, isSkipped r = false → WFSamRec r ref.length) :
    toPairAlign ref refName start stop wrap omitRef true recs =
      some ((samBlocks recs).map fun b =>
        ((b.headD default).name, pairText wrap refName (b.headD default).name omitRef
          (if trim then specTrimPair (specPairNoIns b ref) s e else specPairNoIns b ref))) := by
  refine PairMulti.toPairAlign_blocks ref refName start stop wrap omitRef true recs s e trim hargs _ fun b hb => ?_
  obtain ⟨hne, hbw⟩ := samBlocks_wf ref.length recs hwf b hb
  have hse := checkArgs_bounds ref.length start stop s e trim hargs
  rw [pairOfBlock_skipIns b ref hne hbw]
  cases trim with
  | false => rfl
  | true => exact PairMulti.trimPair_spec (specPairNoIns b ref) s e hse.1 hse.2.1 (hwin rfl)

def specPairOf (omitIns : Bool) (b : List SamRec) (ref : List Nat) : List Nat × List Nat :=
  if omitIns then specPairNoIns b ref else specPair b ref

/-- **C02, toPairAlign (both branches)** — for every SAM file whose retained records fit the reference and carry
letters, over a reference without '-' and without bytes below '*', every accepted window, with or without
skip-insertions: one text per query, in input order, holding the specified pair cut from the column of reference
base s to that of base e -/
theorem toPairAlign_spec (ref : List Nat) (refName : String) (start stop wrap : Int) (omitRef omitIns : Bool)
    (recs : List SamRec) (s e : Nat) (trim : Bool) (hargs : checkArgs ref.length start stop = some (s, e, trim))
    (hnd : NoDash ref) (hge : ∀ b ∈ ref, star ≤ b)
    (hwf : ∀ r ∈ recs, isSkipped r = false → WFSamRec r ref.length) :
    toPairAlign ref refName start stop wrap omitRef omitIns recs =
      some ((samBlocks recs).map fun b =>
        ((b.headD default).name, pairText wrap refName (b.headD default).name omitRef
          (if trim then specTrimPair (specPairOf omitIns b ref) s e else specPairOf omitIns b ref))) := by
  cases omitIns with
  | true =>
    exact toPairAlign_skipIns_spec ref refName start stop wrap omitRef recs s e trim hargs
      (fun _ => by rw [degap_noDash hnd]; exact (checkArgs_bounds ref.length start stop s e trim hargs).2.2) hwf
  | false => exact PairMulti.toPairAlign_keepIns_spec ref refName start stop wrap omitRef recs s e trim hargs hnd hge hwf

theorem toPairAlign_spec_letters (ref : List Nat) (refName : String) (start stop wrap : Int) (omitRef omitIns : Bool)
    (recs : List SamRec) (s e : Nat) (trim : Bool) (hargs : checkArgs ref.length start stop = some (s, e, trim))
    (hl : ∀ b ∈ ref, isLetter b = true)
    (hwf : ∀ r ∈ recs, isSkipped r = false → WFSamRec r ref.length) :
    toPairAlign ref refName start stop wrap omitRef omitIns recs =
      some ((samBlocks recs).map fun b =>
        ((b.headD default).name, pairText wrap refName (b.headD default).name omitRef
          (if trim then specTrimPair (specPairOf omitIns b ref) s e else specPairOf omitIns b ref))) :=
  toPairAlign_spec ref refName start stop wrap omitRef omitIns recs s e trim hargs
    (PairMulti.letters_ref ref hl).1 (PairMulti.letters_ref ref hl).2 hwf

/-- without '-' in the first row, column i holds reference base i + 1: the cut is the plain slice of both rows -/
theorem specTrimPair_noDash (p : List Nat × List Nat) (hnd : NoDash p.1) (s e : Nat) (hs : 1 ≤ s) (hse : s ≤ e)
    (he : e ≤ p.1.length) :
    specTrimPair p s e = ((p.1.drop (s - 1)).take (e + 1 - s), (p.2.drop (s - 1)).take (e + 1 - s)) := by
  have hidx : ((p.1.zip (List.range p.1.length)).filter fun (b, _) => b != dash) = p.1.zip (List.range p.1.length) :=
    List.filter_eq_self.2 fun x hx => by simpa using hnd x.1 (List.of_mem_zip hx).1
  have hget : ∀ i, i < p.1.length → (p.1.zip (List.range p.1.length))[i]? = some (p.1.getD i 0, i) := by
    intro i hi
    rw [List.getElem?_eq_getElem (by simpa using hi)]
    simp [List.getD_eq_getElem?_getD, hi]
  unfold specTrimPair
  dsimp only
  rw [hidx, hget (s - 1) (by omega), hget (e - 1) (by omega)]
  dsimp only
  rw [show e - 1 + 1 - (s - 1) = e + 1 - s by omega]

/-- **C02, toPairAlign (skip-insertions), closed form** — over a reference without '-': the reference text is the
reference from base s to base e, the query text is the `toMultiAlign --pad` row of the query from column s to column e -/
theorem toPairAlign_skipIns_closed (ref : List Nat) (refName : String) (start stop wrap : Int) (omitRef : Bool)
    (recs : List SamRec) (s e : Nat) (trim : Bool) (hargs : checkArgs ref.length start stop = some (s, e, trim))
    (hnd : NoDash ref)
    (hwf : ∀ r ∈ recs, isSkipped r = false → WFSamRec r ref.length) :
    toPairAlign ref refName start stop wrap omitRef true recs =
      some ((samBlocks recs).map fun b =>
        ((b.headD default).name, pairText wrap refName (b.headD default).name omitRef
          (if trim then ((ref.drop (s - 1)).take (e + 1 - s), ((specTomaRow b ref.length true).drop (s - 1)).take (e + 1 - s))
           else (ref, specTomaRow b ref.length true)))) := by
  have hse := checkArgs_bounds ref.length start stop s e trim hargs
  rw [toPairAlign_skipIns_spec ref refName start stop wrap omitRef recs s e trim hargs
    (fun _ => by rw [degap_noDash hnd]; exact hse.2.2) hwf]
  refine congrArg some (List.map_congr_left fun b _ => ?_)
  cases trim with
  | false => rfl
  | true =>
    simp only [if_true]
    rw [specTrimPair_noDash (specPairNoIns b ref) hnd s e hse.1 hse.2.1 hse.2.2]
    rfl

-- what fails without each hypothesis of the theorems above: model and specification side by side

/-- `block ≠ []` in `pairOfBlock_skipIns`: the empty block flattens to the empty row, the specification writes 'N' under
every reference base (`samBlocks` never produces an empty block, so `toPairAlign_skipIns_spec` does not need it) -/
example : pairOfBlock [] [65] true = ([65], []) ∧ specPairNoIns [] [65] = ([65], [78]) := by decide +kernel

/-- `WFSamRec.hq` (SEQ at least as long as the CIGAR consumes): 2M with one base; the walk writes the one base and
pads, the relation aligns a missing base (byte 0) to the second position -/
example : pairOfBlock [⟨"q", 0, 0, [(0, 2)], [65]⟩] [65, 67] true = ([65, 67], [65, 78]) ∧
    specPairNoIns [⟨"q", 0, 0, [(0, 2)], [65]⟩] [65, 67] = ([65, 67], [65, 0]) := by decide +kernel

/-- `WFSamRec.hr` (the record ends inside the reference): 2M on a reference of one base; the row written is longer
than the reference -/
example : pairOfBlock [⟨"q", 0, 0, [(0, 2)], [65, 67]⟩] [65] true = ([65], [65, 67]) ∧
    specPairNoIns [⟨"q", 0, 0, [(0, 2)], [65, 67]⟩] [65] = ([65], [65]) := by decide +kernel

/-- `WFSamRec.letters`, one record: an aligned '*' is taken for no coverage and becomes 'N' -/
example : pairOfBlock [⟨"q", 0, 0, [(0, 1)], [42]⟩] [65] true = ([65], [78]) ∧
    specPairNoIns [⟨"q", 0, 0, [(0, 1)], [42]⟩] [65] = ([65], [42]) := by decide +kernel

/-- `WFSamRec.letters`, two records: two different aligned bytes that are not letters do not give 'N', the larger wins -/
example : pairOfBlock [⟨"q", 0, 0, [(0, 1)], [48]⟩, ⟨"q", 0, 0, [(0, 1)], [49]⟩] [65] true = ([65], [49]) ∧
    specPairNoIns [⟨"q", 0, 0, [(0, 1)], [48]⟩, ⟨"q", 0, 0, [(0, 1)], [49]⟩] [65] = ([65], [78]) := by decide +kernel

/-- the window condition of `toPairAlign_skipIns_spec`: a reference "-A" has one base, the accepted window 2..2 (`checkArgs` counts bytes)
has no column; the model then cuts column 1, the specification leaves the pair whole -/
example : checkArgs [45, 65].length 2 2 = some (2, 2, true) ∧
    WFSamRec ⟨"q", 0, 1, [(0, 1)], [67]⟩ [45, 65].length ∧
    trimPair (specPairNoIns [⟨"q", 0, 1, [(0, 1)], [67]⟩] [45, 65]) 2 2 = ([45], [78]) ∧
    specTrimPair (specPairNoIns [⟨"q", 0, 1, [(0, 1)], [67]⟩] [45, 65]) 2 2 = ([45, 65], [78, 67]) := by
  refine ⟨by decide, ⟨by decide, by decide, by decide⟩, by decide +kernel, by decide +kernel⟩

/-- non-vacuity: the three records of `PairMulti` (overlap, a disagreement, insertions, a deletion) -/
example : pairOfBlock [PairMulti.exB1, PairMulti.exB2, PairMulti.exB3] PairMulti.exRef true =
    ([65, 67, 71, 84, 65, 67, 71, 84, 65, 67, 71, 84], [78, 65, 78, 78, 71, 71, 84, 84, 45, 65, 78, 78]) := by decide +kernel

/-- `walkWithRef_noIns_query` on a record that is NOT well-formed (SEQ too short, ends past the reference, unknown operator 11) -/
example : (walkWithRef ⟨"q", 0, 1, [(0, 2), (11, 3), (1, 2), (2, 3)], [65]⟩ [65, 67] false).1 =
    walkNoIns ⟨"q", 0, 1, [(0, 2), (11, 3), (1, 2), (2, 3)], [65]⟩ 2 := by decide +kernel

end Gofasta.Lemmas.PairSkipIns
