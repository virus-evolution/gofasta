import Gofasta.Lemmas.SortSpec
import Gofasta.Props.C06
/-
ClosestOrder: `C06.topK` for the command's own comparator `hitLt`, on the exact measures, with no hypothesis on the order.

`hitLt` is not a strict weak order on all hits (`hitLt_not_swo`), but it is one on the hits whose distance is
`.nat _` (snp) and on those whose distance is `.rat _ _` (raw; every numerator and denominator, the denominator 0
being "undefined"), and `hitsOf` builds hits of one kind. So the statements of Lemmas/TopK and Lemmas/SortSpec
for an order relative to a predicate apply: `findClosestN` is "stable sort, take K", `findClosest` its head, and
both equal the selection sort `specClosestN` under the total key.
-/
namespace Gofasta.Lemmas.ClosestOrder
open Gofasta Gofasta.Model

/-! ## `hitLt` on the exact measures -/

/-- what `hitLt` needs from the distance order on the values satisfying `Q` -/
structure DOrd (Q : DVal → Prop) : Prop where
  swo : SWOOn Q DVal.lt
  eq_tied : ∀ a b, Q a → Q b → a.eq b = tied DVal.lt a b

def distThen (sec : Hit → Hit → Bool) (a b : Hit) : Bool := a.dist.lt b.dist || (a.dist.eq b.dist && sec a b)

theorem distThen_swoOn {Q : DVal → Prop} (hQ : DOrd Q) {sec : Hit → Hit → Bool} (hsec : SWO sec) :
    SWOOn (fun h : Hit => Q h.dist) (distThen sec) := by
  have lex (a b : Hit) (ha : Q a.dist) (hb : Q b.dist) : distThen sec a b = true ↔
      a.dist.lt b.dist = true ∨ (tied DVal.lt a.dist b.dist = true ∧ sec a b = true) := by
    simp [distThen, hQ.eq_tied _ _ ha hb]
  constructor
  · intro a b ha hb h
    rw [Bool.eq_false_iff, Ne, lex b a hb ha]
    rcases (lex a b ha hb).1 h with h1 | ⟨h1, h2⟩
    · have h3 := hQ.swo.asymm _ _ ha hb h1
      simp [tied, h1, h3]
    · simp [((tied_iff _ _).1 h1).2, hsec.asymm _ _ h2]
  · intro a b c ha hb hc h
    rw [lex a c ha hc, lex c b hc hb]
    rcases (lex a b ha hb).1 h with h1 | ⟨h1, h2⟩
    · exact (hQ.swo.negtrans _ _ _ ha hb hc h1).imp Or.inl Or.inl
    · -- `a` and `b` are at the same distance: `c` is nearer than `b`, further than `a`, or tied with both
      cases hac : a.dist.lt c.dist with
      | true => exact Or.inl (Or.inl rfl)
      | false =>
        cases hcb : c.dist.lt b.dist with
        | true => exact Or.inr (Or.inl rfl)
        | false =>
          rw [tied_iff] at h1
          have hca := hQ.swo.not_lt_trans hc hb ha hcb h1.2
          have hbc := hQ.swo.not_lt_trans hb ha hc h1.2 hac
          simpa [tied, hac, hca, hcb, hbc] using hsec.negtrans a b c h2

def secScore (a b : Hit) : Bool := a.score > b.score

def secScoreIdx (a b : Hit) : Bool := a.score > b.score || (a.score == b.score && a.idx < b.idx)

theorem hitLt_eq_distThen : hitLt = distThen secScore := rfl

theorem keyLt_eq_distThen : Gofasta.Spec.keyLt = distThen secScoreIdx := rfl

theorem secScore_swo : SWO secScore := by
  constructor
  · intro a b h; simp [secScore] at h ⊢; omega
  · intro a b c h; simp [secScore] at h ⊢; omega

theorem secScoreIdx_swo : SWO secScoreIdx := by
  constructor
  · intro a b h; simp [secScoreIdx] at h ⊢; omega
  · intro a b c h; simp [secScoreIdx] at h ⊢; omega

theorem hitLt_swoOn {Q : DVal → Prop} (hQ : DOrd Q) : SWOOn (fun h : Hit => Q h.dist) hitLt :=
  hitLt_eq_distThen ▸ distThen_swoOn hQ secScore_swo

theorem keyLt_swoOn {Q : DVal → Prop} (hQ : DOrd Q) : SWOOn (fun h : Hit => Q h.dist) Gofasta.Spec.keyLt :=
  keyLt_eq_distThen ▸ distThen_swoOn hQ secScoreIdx_swo

/-- distance of the snp measure -/
def IsNat : DVal → Prop
  | .nat _ => True
  | _ => False

/-- distance of the raw measure: any numerator and denominator (denominator 0 = undefined) -/
def IsRat : DVal → Prop
  | .rat _ _ => True
  | _ => False

theorem dval_lt_nat (x y : Nat) : (DVal.nat x).lt (.nat y) = decide (x < y) := by
  simp [DVal.lt, DVal.undef]

theorem dval_eq_nat (x y : Nat) : (DVal.nat x).eq (.nat y) = (x == y) := by
  simp [DVal.eq, DVal.undef]

theorem IsNat.exists_nat : ∀ {a : DVal}, IsNat a → ∃ x, a = .nat x
  | .nat x, _ => ⟨x, rfl⟩

theorem dord_nat : DOrd IsNat := by
  refine ⟨⟨?_, ?_⟩, ?_⟩
  · intro a b ha hb
    obtain ⟨x, rfl⟩ := ha.exists_nat
    obtain ⟨y, rfl⟩ := hb.exists_nat
    simp only [dval_lt_nat]; simp; omega
  · intro a b c ha hb hc
    obtain ⟨x, rfl⟩ := ha.exists_nat
    obtain ⟨y, rfl⟩ := hb.exists_nat
    obtain ⟨z, rfl⟩ := hc.exists_nat
    simp only [dval_lt_nat]; simp; omega
  · intro a b ha hb
    obtain ⟨x, rfl⟩ := ha.exists_nat
    obtain ⟨y, rfl⟩ := hb.exists_nat
    simp only [tied, dval_lt_nat, dval_eq_nat]
    rw [Bool.eq_iff_iff]; simp; omega

theorem dval_undef_rat (n d : Nat) : (DVal.rat n d).undef = decide (d = 0) := by
  cases d <;> simp [DVal.undef]

theorem dval_lt_rat (n d n' d' : Nat) : (DVal.rat n d).lt (.rat n' d') =
    (if d = 0 then false else if d' = 0 then true else decide (n * d' < n' * d)) := by
  simp [DVal.lt, dval_undef_rat]

theorem dval_eq_rat (n d n' d' : Nat) : (DVal.rat n d).eq (.rat n' d') =
    (if d = 0 ∨ d' = 0 then decide (d = 0 ∧ d' = 0) else n * d' == n' * d) := by
  simp [DVal.eq, dval_undef_rat]

/-- only the middle denominator has to be positive -/
theorem cross_negtrans (na da nb db nc dc : Nat) (hc : 0 < dc) (h : na * db < nb * da) :
    na * dc < nc * da ∨ nc * db < nb * dc := by
  by_cases h1 : na * dc < nc * da
  · exact Or.inl h1
  by_cases h2 : nc * db < nb * dc
  · exact Or.inr h2
  exfalso
  -- otherwise `nb*da*dc = nb*dc*da ≤ nc*db*da = nc*da*db ≤ na*dc*db = na*db*dc`, and `dc` cancels: `nb*da ≤ na*db`
  have h1' : nc * da ≤ na * dc := by omega
  have h2' : nb * dc ≤ nc * db := by omega
  have e1 : (nb * da) * dc = (nb * dc) * da := by rw [Nat.mul_assoc, Nat.mul_comm da dc, Nat.mul_assoc]
  have e2 : (nc * db) * da = (nc * da) * db := by rw [Nat.mul_assoc, Nat.mul_comm db da, Nat.mul_assoc]
  have e3 : (na * dc) * db = (na * db) * dc := by rw [Nat.mul_assoc, Nat.mul_comm dc db, Nat.mul_assoc]
  have s1 : (nb * da) * dc ≤ (na * db) * dc := by
    rw [e1, ← e3]
    exact Nat.le_trans (Nat.mul_le_mul_right da h2') (by rw [e2]; exact Nat.mul_le_mul_right db h1')
  have := Nat.le_of_mul_le_mul_right s1 hc
  omega

theorem IsRat.exists_rat : ∀ {a : DVal}, IsRat a → ∃ n d, a = .rat n d
  | .rat n d, _ => ⟨n, d, rfl⟩

theorem dord_rat : DOrd IsRat := by
  refine ⟨⟨?_, ?_⟩, ?_⟩
  · intro a b ha hb
    obtain ⟨n, d, rfl⟩ := ha.exists_rat
    obtain ⟨n', d', rfl⟩ := hb.exists_rat
    simp only [dval_lt_rat]
    by_cases h0 : d = 0 <;> by_cases h0' : d' = 0 <;> simp [h0, h0']
    omega
  · intro a b c ha hb hc
    obtain ⟨n, d, rfl⟩ := ha.exists_rat
    obtain ⟨n', d', rfl⟩ := hb.exists_rat
    obtain ⟨n'', d'', rfl⟩ := hc.exists_rat
    simp only [dval_lt_rat]
    by_cases h0 : d = 0 <;> by_cases h0' : d' = 0 <;> by_cases h0'' : d'' = 0 <;> simp [h0, h0', h0'']
    intro h
    exact cross_negtrans n d n' d' n'' d'' (by omega) h
  · intro a b ha hb
    obtain ⟨n, d, rfl⟩ := ha.exists_rat
    obtain ⟨n', d', rfl⟩ := hb.exists_rat
    simp only [tied, dval_lt_rat, dval_eq_rat]
    by_cases h0 : d = 0 <;> by_cases h0' : d' = 0 <;> simp [h0, h0']
    rw [Bool.eq_iff_iff]; simp; omega

def NatHit (h : Hit) : Prop := IsNat h.dist
def RatHit (h : Hit) : Prop := IsRat h.dist

theorem hitLt_swoOn_nat : SWOOn NatHit hitLt := hitLt_swoOn dord_nat

theorem hitLt_swoOn_rat : SWOOn RatHit hitLt := hitLt_swoOn dord_rat

/-! ## `findClosestN` and `findClosest` without an order hypothesis -/

/-- the targets that pass the optional `-d` filter -/
def within (maxd : Option (Nat × Nat)) (hits : List Hit) : List Hit :=
  match maxd with
  | none => hits
  | some (n, d) => hits.filter fun h => !h.dist.beyond n d

theorem within_none (hits : List Hit) : within none hits = hits := rfl

theorem within_some (n d : Nat) (hits : List Hit) :
    within (some (n, d)) hits = hits.filter fun h => !h.dist.beyond n d := rfl

theorem findClosestN_within (K : Nat) (maxd : Option (Nat × Nat)) (hits : List Hit) :
    findClosestN K maxd hits = topKG hitLt K (within maxd hits) :=
  Gofasta.Props.C06.findClosestN_eq K maxd hits

theorem allP_within {P : Hit → Prop} (maxd : Option (Nat × Nat)) {hits : List Hit} (h : AllP P hits) :
    AllP P (within maxd hits) := by
  cases maxd with
  | none => exact h
  | some nd => obtain ⟨n, d⟩ := nd; exact AllP.filter _ h

theorem findClosestN_on_all {P : Hit → Prop} (hS : SWOOn P hitLt) (K : Nat) (maxd : Option (Nat × Nat))
    (hits : List Hit) (h : AllP P hits) :
    findClosestN K maxd hits = (sortStable hitLt (within maxd hits)).take K := by
  rw [findClosestN_within]
  exact topK_spec_on_all hS K _ (allP_within maxd h)

theorem findClosestN_nat (K : Nat) (hK : 0 < K) (hits : List Hit) (h : AllP NatHit hits) :
    findClosestN K none hits = (sortStable hitLt hits).take K :=
  have _ := hK
  findClosestN_on_all hitLt_swoOn_nat K none hits h

theorem findClosestN_rat (K : Nat) (hK : 0 < K) (hits : List Hit) (h : AllP RatHit hits) :
    findClosestN K none hits = (sortStable hitLt hits).take K :=
  have _ := hK
  findClosestN_on_all hitLt_swoOn_rat K none hits h

theorem findClosestN_nat_d (K : Nat) (hK : 0 < K) (n d : Nat) (hits : List Hit) (h : AllP NatHit hits) :
    findClosestN K (some (n, d)) hits = (sortStable hitLt (hits.filter fun h => !h.dist.beyond n d)).take K :=
  have _ := hK
  findClosestN_on_all hitLt_swoOn_nat K (some (n, d)) hits h

theorem findClosestN_rat_d (K : Nat) (hK : 0 < K) (n d : Nat) (hits : List Hit) (h : AllP RatHit hits) :
    findClosestN K (some (n, d)) hits = (sortStable hitLt (hits.filter fun h => !h.dist.beyond n d)).take K :=
  have _ := hK
  findClosestN_on_all hitLt_swoOn_rat K (some (n, d)) hits h

theorem findClosest_on {P : Hit → Prop} (hS : SWOOn P hitLt) (hits : List Hit) (h : AllP P hits) :
    findClosest hits = (sortStable hitLt hits).head? := by
  rw [Gofasta.Props.C06.findClosest_eq, foldl_catchStepG hS 1 hits h]
  cases hits with
  | nil => rfl
  | cons a t =>
    rw [if_neg (by simp)]
    cases sortStable hitLt (a :: t) <;> rfl

theorem findClosest_nat (hits : List Hit) (h : AllP NatHit hits) :
    findClosest hits = (sortStable hitLt hits).head? := findClosest_on hitLt_swoOn_nat hits h

theorem findClosest_rat (hits : List Hit) (h : AllP RatHit hits) :
    findClosest hits = (sortStable hitLt hits).head? := findClosest_on hitLt_swoOn_rat hits h

/-- plain `closest` is `closest -n 1` -/
theorem findClosest_eq_n1 {P : Hit → Prop} (hS : SWOOn P hitLt) (hits : List Hit) (h : AllP P hits) :
    findClosest hits = (findClosestN 1 none hits).head? := by
  rw [findClosest_on hS hits h, findClosestN_on_all hS 1 none hits h, within_none]
  cases sortStable hitLt hits <;> rfl

/-! ## the hits built from actual sequences -/

theorem hitsOf_dist (m : Measure) (q : List Nat) (ts : List Target) :
    ∀ h ∈ hitsOf m q ts, ∃ t ∈ ts, h.dist = distance m q t := by
  intro h hh
  simp only [hitsOf, List.mem_map] at hh
  obtain ⟨⟨t, i⟩, hmem, rfl⟩ := hh
  exact ⟨t, (List.of_mem_zip hmem).1, rfl⟩

theorem hitsOf_snp_nat (q : List Nat) (ts : List Target) : AllP NatHit (hitsOf .snp q ts) := by
  intro h hh
  obtain ⟨t, _, ht⟩ := hitsOf_dist .snp q ts h hh
  simp [NatHit, ht, distance, IsNat]

theorem hitsOf_raw_rat (q : List Nat) (ts : List Target) : AllP RatHit (hitsOf .raw q ts) := by
  intro h hh
  obtain ⟨t, _, ht⟩ := hitsOf_dist .raw q ts h hh
  simp [RatHit, ht, distance, IsRat]

/-- the measures computed in exact arithmetic (`tn93` is a `Float`) -/
def Exact (m : Measure) : Prop := m = .snp ∨ m = .raw

theorem exact_kind {m : Measure} (hm : Exact m) :
    ∃ P : Hit → Prop, SWOOn P hitLt ∧ SWOOn P Spec.keyLt ∧ ∀ q ts, AllP P (hitsOf m q ts) := by
  rcases hm with rfl | rfl
  · exact ⟨NatHit, hitLt_swoOn_nat, keyLt_swoOn dord_nat, hitsOf_snp_nat⟩
  · exact ⟨RatHit, hitLt_swoOn_rat, keyLt_swoOn dord_rat, hitsOf_raw_rat⟩

/-- `closestN_exact` below for every K, 0 included (the catchment of capacity 0 stays empty) -/
theorem closestN_exact_all (m : Measure) (hm : Exact m) (K : Nat) (maxd : Option (Nat × Nat))
    (q : List Nat) (ts : List Target) :
    findClosestN K maxd (hitsOf m q ts) = (sortStable hitLt (within maxd (hitsOf m q ts))).take K := by
  obtain ⟨P, hL, _, hP⟩ := exact_kind hm
  exact findClosestN_on_all hL K maxd _ (hP q ts)

/-- **closest -n K [-d D] on sequences, snp or raw** — for every query, every target file, every K > 0 and every
optional limit, the streaming catchment returns the first K entries of the stable sort (distance, then higher
completeness, ties in file order) of the targets within the limit. No hypothesis on the order. -/
theorem closestN_exact (m : Measure) (hm : Exact m) (K : Nat) (hK : 0 < K) (maxd : Option (Nat × Nat))
    (q : List Nat) (ts : List Target) :
    findClosestN K maxd (hitsOf m q ts) = (sortStable hitLt (within maxd (hitsOf m q ts))).take K :=
  have _ := hK
  closestN_exact_all m hm K maxd q ts

theorem closest_exact (m : Measure) (hm : Exact m) (q : List Nat) (ts : List Target) :
    findClosest (hitsOf m q ts) = (sortStable hitLt (hitsOf m q ts)).head? := by
  obtain ⟨P, hL, _, hP⟩ := exact_kind hm
  exact findClosest_on hL _ (hP q ts)

/-- **closest -n K on sequences, declarative** — any ranking of the targets within the limit that is a permutation
of them, ordered by (distance, then higher completeness) and that keeps tied targets in file order has the
catchment as its first K entries -/
theorem closestN_exact_characterised (m : Measure) (hm : Exact m) (K : Nat) (hK : 0 < K) (maxd : Option (Nat × Nat))
    (q : List Nat) (ts : List Target) (ranked : List Hit)
    (hp : ranked.Perm (within maxd (hitsOf m q ts))) (hs : Sorted hitLt ranked)
    (hst : ∀ z, ranked.filter (tied hitLt z) = (within maxd (hitsOf m q ts)).filter (tied hitLt z)) :
    findClosestN K maxd (hitsOf m q ts) = ranked.take K := by
  obtain ⟨P, hL, _, hP⟩ := exact_kind hm
  rw [closestN_exact m hm K hK maxd q ts,
    sortStable_of_classes_on hL _ ranked (allP_within maxd (hP q ts)) (AllP.perm hp (allP_within maxd (hP q ts))) hs
      fun z _ => hst z]

theorem closestN_exact_sorted (m : Measure) (hm : Exact m) (K : Nat) (hK : 0 < K) (maxd : Option (Nat × Nat))
    (q : List Nat) (ts : List Target) : Sorted hitLt (findClosestN K maxd (hitsOf m q ts)) := by
  obtain ⟨P, hL, _, hP⟩ := exact_kind hm
  rw [closestN_exact m hm K hK maxd q ts]
  exact (sorted_sortStable hL _ (allP_within maxd (hP q ts))).take K

/-! ## what is and is not needed -/

/-- the numerator of `rawCounts` is at most the denominator; the order facts above hold for every numerator and
denominator and make no use of this -/
theorem rawCounts_le : ∀ (q t : List Nat), (rawCounts q t).1 ≤ (rawCounts q t).2
  | [], _ => by simp [rawCounts]
  | _ :: _, [] => by simp [rawCounts]
  | a :: qs, b :: ts => by
    have := rawCounts_le qs ts
    simp only [rawCounts]
    omega

theorem raw_undef_iff (q : List Nat) (t : Target) :
    (distance .raw q t).undef = true ↔ rawCounts q t.seq = (0, 0) := by
  have hle := rawCounts_le q t.seq
  simp only [distance, dval_undef_rat]
  constructor
  · intro h
    have h2 : (rawCounts q t.seq).2 = 0 := by simpa using h
    have h1 : (rawCounts q t.seq).1 = 0 := by omega
    exact Prod.ext h1 h2
  · intro h; simp [h]

/-- a hit with a given distance and file position, for the counterexamples (name and completeness play no part) -/
def mkHit (v : DVal) (i : Nat) : Hit := ⟨"", 0, v, i⟩

/-- `hitLt` is NOT a strict weak order on all hits: distances of different kinds are incomparable with each
other but each can be comparable with a third one -/
theorem hitLt_not_swo : ¬ SWO hitLt := by
  intro h
  have := h.negtrans (mkHit (.nat 1) 0) (mkHit (.nat 2) 1) (mkHit (.rat 1 1) 2) (by decide)
  revert this
  decide

/-- and the conclusion of topK itself fails on such a mixed list: with K = 2 the catchment keeps the first two
targets and refuses the third, which the sort would put first (the hits are shown by their file index) -/
theorem topK_fails_mixed :
    (findClosestN 2 none [mkHit (.nat 2) 0, mkHit (.rat 1 1) 1, mkHit (.nat 1) 2]).map (·.idx) = [0, 1] ∧
    ((sortStable hitLt [mkHit (.nat 2) 0, mkHit (.rat 1 1) 1, mkHit (.nat 1) 2]).take 2).map (·.idx) = [2, 0] := by
  decide

/-! ## the model equals the specification `specClosestN` (selection sort under the total key) -/

open Gofasta.Spec in
theorem extractMin_spec {P : Hit → Prop} (hK : SWOOn P keyLt) : ∀ (l : List Hit) (x : Hit), AllP P (x :: l) →
    ∃ l1 l2, x :: l = l1 ++ (extractMin x l).1 :: l2 ∧ (extractMin x l).2 = l1 ++ l2 ∧
      (∀ y ∈ l1, keyLt (extractMin x l).1 y = true) ∧ (∀ y ∈ l2, keyLt y (extractMin x l).1 = false) := by
  intro l
  induction l with
  | nil => intro x _; exact ⟨[], [], by simp [extractMin]⟩
  | cons y t ih =>
    intro x hP
    have hPt : AllP P (y :: t) := fun w hw => hP w (List.mem_cons_of_mem _ hw)
    have hPx : P x := hP x (by simp)
    obtain ⟨l1, l2, e1, e2, m1, m2⟩ := ih y hPt
    simp only [extractMin]
    by_cases hrx : keyLt (extractMin y t).1 x = true
    · rw [if_pos hrx]
      refine ⟨x :: l1, l2, by simp [← e1], by simp [e2], ?_, m2⟩
      intro w hw
      rcases List.mem_cons.1 hw with rfl | hw
      · exact hrx
      · exact m1 w hw
    · rw [if_neg hrx]
      have hrx' : keyLt (extractMin y t).1 x = false := by simpa using hrx
      have hPr : P (extractMin y t).1 := hPt _ (by rw [e1]; simp)
      refine ⟨[], y :: t, rfl, rfl, by simp, ?_⟩
      intro w hw
      have hPw : P w := hPt w hw
      cases hwx : keyLt w x with
      | false => rfl
      | true =>
        exfalso
        have hw' : w ∈ l1 ++ (extractMin y t).1 :: l2 := e1 ▸ hw
        rcases hK.negtrans w x (extractMin y t).1 hPw hPx hPr hwx with h | h
        · rcases List.mem_append.1 hw' with h3 | h3
          · have := hK.asymm _ _ hPr hPw (m1 w h3)
            rw [this] at h; cases h
          · rcases List.mem_cons.1 h3 with rfl | h3
            · rw [hK.irrefl hPr] at h; cases h
            · rw [m2 w h3] at h; cases h
        · rw [hrx'] at h; cases h

def IdxInc (l : List Hit) : Prop := l.Pairwise (fun a b => a.idx < b.idx)

theorem keyLt_later {a b : Hit} (h : b.idx < a.idx) : Gofasta.Spec.keyLt a b = hitLt a b := by
  have : ¬ a.idx < b.idx := by omega
  simp only [Gofasta.Spec.keyLt, hitLt, this, decide_false, Bool.and_false, Bool.or_false]

theorem sortStable_keyLt (l : List Hit) (hI : IdxInc l) : sortStable Gofasta.Spec.keyLt l = sortStable hitLt l := by
  have := map_sortStable Gofasta.Spec.keyLt hitLt id l (hI.imp fun h => keyLt_later h)
  rwa [List.map_id, List.map_id] at this

open Gofasta.Spec in
/-- **selection sort = insertion sort**, under the total key: the minimum `extractMin` finds is the one the stable sort
puts in front -/
theorem selectK_eq_take_sort {P : Hit → Prop} (hK : SWOOn P keyLt) :
    ∀ (K : Nat) (l : List Hit), AllP P l → selectK K l = (sortStable keyLt l).take K := by
  intro K
  induction K with
  | zero => intro l _; simp [selectK]
  | succ k ih =>
    intro l hP
    cases l with
    | nil => simp [selectK, sortStable]
    | cons x t =>
      rw [selectK]
      obtain ⟨l1, l2, e1, e2, m1, m2⟩ := extractMin_spec hK t x hP
      have hsub : (l1 ++ l2).Sublist (x :: t) := e1 ▸ List.Sublist.append_left (List.sublist_cons_self _ _) _
      rw [e1, sortStable_min_out l1 l2 _ m1 m2, List.take_succ_cons, e2, ih _ (AllP.sublist hsub hP)]

open Gofasta.Spec in
theorem selectK_eq_sortStable {P : Hit → Prop} (hK : SWOOn P keyLt) (K : Nat) (l : List Hit) (hP : AllP P l)
    (hI : IdxInc l) : selectK K l = (sortStable hitLt l).take K := by
  rw [selectK_eq_take_sort hK K l hP, sortStable_keyLt l hI]

theorem hitsOf_idxInc (m : Measure) (q : List Nat) (ts : List Target) : IdxInc (hitsOf m q ts) :=
  List.pairwise_map.2 ((pairwise_snd_zip_range ts).imp fun h => h)

theorem idxInc_within (maxd : Option (Nat × Nat)) {hits : List Hit} (h : IdxInc hits) : IdxInc (within maxd hits) := by
  cases maxd with
  | none => exact h
  | some nd => obtain ⟨n, d⟩ := nd; exact List.Pairwise.sublist List.filter_sublist h

open Gofasta.Spec in
theorem findClosestN_eq_spec_on {P : Hit → Prop} (hL : SWOOn P hitLt) (hKy : SWOOn P keyLt) (K : Nat)
    (maxd : Option (Nat × Nat)) (hits : List Hit) (hP : AllP P hits) (hI : IdxInc hits) :
    findClosestN K maxd hits = specClosestN K maxd hits := by
  have hs : specClosestN K maxd hits = selectK K (within maxd hits) := by
    cases maxd with
    | none => rfl
    | some nd => obtain ⟨n, d⟩ := nd; rfl
  rw [hs, selectK_eq_sortStable hKy K _ (allP_within maxd hP) (idxInc_within maxd hI),
    findClosestN_on_all hL K maxd hits hP]

open Gofasta.Spec in
/-- **closest -n K [-d D] on sequences, snp or raw : the streaming catchment is the specification** (the first K
targets under the documented total key distance, completeness, file position, among those within the limit) -/
theorem closestN_exact_eq_spec (m : Measure) (hm : Exact m) (K : Nat) (maxd : Option (Nat × Nat))
    (q : List Nat) (ts : List Target) :
    findClosestN K maxd (hitsOf m q ts) = specClosestN K maxd (hitsOf m q ts) := by
  obtain ⟨P, hL, hKy, hP⟩ := exact_kind hm
  exact findClosestN_eq_spec_on hL hKy K maxd _ (hP q ts) (hitsOf_idxInc _ q ts)

open Gofasta.Spec in
/-- **plain closest on sequences, snp or raw : the running best is the specification's first choice** -/
theorem closest_exact_eq_spec (m : Measure) (hm : Exact m) (q : List Nat) (ts : List Target) :
    findClosest (hitsOf m q ts) = (selectK 1 (hitsOf m q ts)).head? := by
  obtain ⟨P, hL, hKy, hP⟩ := exact_kind hm
  rw [closest_exact m hm q ts, selectK_eq_sortStable hKy 1 _ (hP q ts) (hitsOf_idxInc _ q ts)]
  cases sortStable hitLt (hitsOf m q ts) <;> rfl

/-- the file-order hypothesis `IdxInc` of `selectK_eq_sortStable` is needed: the specification breaks ties by the
recorded index, the stable sort by the position in the list (they agree on `hitsOf`, always in file order) -/
theorem idxInc_needed :
    (Gofasta.Spec.selectK 1 [mkHit (.nat 1) 1, mkHit (.nat 1) 0]).map (·.idx) = [0] ∧
    ((sortStable hitLt [mkHit (.nat 1) 1, mkHit (.nat 1) 0]).take 1).map (·.idx) = [1] := by
  constructor
  · simp [Gofasta.Spec.selectK, Gofasta.Spec.extractMin, Gofasta.Spec.keyLt, mkHit, dval_lt_nat, dval_eq_nat]
  · decide

end Gofasta.Lemmas.ClosestOrder
