import Gofasta.Gen.ColsVariants
import Gofasta.Model.Variants
/-
Code of pkg/variants regenerated from the Go source on every run by the go/ast translator `cols.go` (harness) into
`Gen/ColsVariants.lean` (the method is described in Props/ColsClosest): the conditions under which `getNucsPair` and
`getAAsPair` record a column, and the window tests of the two writers. The theorems below say, for all arguments, that
the window tests are the model's `inWindow`, and that the two column conditions are `encDiffer r q` and, away from a
reference gap, `encDiffer q r`: the tests `getNucsPair` and `aaStep` of Model/Variants make, though no theorem here
mentions those two. A change of a condition in the source changes the generated definitions and breaks an obligation here.
-/
namespace Gofasta.Props.Cols
open Gofasta Gofasta.Model Gofasta.Gen.Cols

theorem nucs_append (r q : Nat) : pairwise_getNucsPair r q = [encDiffer r q] := by
  simp [pairwise_getNucsPair, encDiffer]

/-- getAAsPair skips a column whose reference code is the gap (244) - an insertion relative to the reference; the model
walks reference positions, whose columns never hold a reference gap -/
theorem aas_append (r q : Nat) : pairwise_getAAsPair r q = [!(r == 244) && encDiffer q r] := by
  simp [pairwise_getAAsPair, encDiffer]

/-- the window filter of `variants.WriteVariants` (which records of a row are printed under start / end), translated from
the source: the model's `inWindow` -/
theorem window_filter (start stop : Int) (v : Variant) :
    variants_WriteVariants start stop v.pos = [inWindow start stop v] := by
  simp [variants_WriteVariants, inWindow]

/-- the aggregating writer skips exactly the records outside the window -/
theorem agg_window_filter (start stop : Int) (v : Variant) :
    variants_AggregateWriteVariants start stop v.pos = [!inWindow start stop v] := by
  simp [variants_AggregateWriteVariants, inWindow]

end Gofasta.Props.Cols
