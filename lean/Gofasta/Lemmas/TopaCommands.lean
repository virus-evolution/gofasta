import Gofasta.Lemmas.SchedWriters
import Gofasta.Driver.Sam
/-
`gofasta sam toPairAlign` on the two-pool chain (Model/SchedChain: block to pair, pair to window), command level, for
every schedule: the output to stdout (the re-ordering text writer) and the output to a directory by a writer that
creates the file of a pair when the pair ARRIVES (schedule-dependent when two blocks share a name: finding F-C12d).
The directory writer of the Go code, which creates the file when the pair is flushed, is in Lemmas/TopaDirFixed.
All three writers are `topa_total` (the chain's `chain_total_writer` for the items and pools of the command) with
their own loop body, followed by a pure fact about the fold of that body over an arrival sequence.
-/
set_option autoImplicit false

-- the namespace is that of Lemmas/FanoutCommands: the full names of the definitions and theorems below are fixed
namespace Gofasta.Lemmas.FanoutCommands
open Gofasta Gofasta.Model Gofasta.Driver
open Gofasta.Model.SchedChain Gofasta.Lemmas.SchedChain Gofasta.Lemmas.SchedCommands

/-- what travels on the three channels of sam.ToPairAlign (the chain model has one value type for all channels) -/
inductive PA where
  | block (b : List SamRec)                          -- cSR: the records of one query
  | pair (name : String) (p : List Nat × List Nat)   -- cPairAlign, cPairAlignTrimmed: (reference row, query row)

/-- pool 1: block to pairwise alignment -/
def paPair (ref : List Nat) (omitIns : Bool) : PA → Except CmdErr PA
  | .block b => .ok (.pair (b.headD default).name (pairOfBlock b ref omitIns))
  | _ => .error .stage

/-- pool 2: trim to the window (s, e, trim) of checkArgs -/
def paTrim (w : Nat × Nat × Bool) : PA → Except CmdErr PA
  | .pair n p => .ok (.pair n (if w.2.2 then trimPair p w.1 w.2.1 else p))
  | _ => .error .stage

def paFile (wrap : Int) (refName : String) (omitRef : Bool) : PA → String × String
  | .pair n p => (n, pairText wrap refName n omitRef p)
  | _ => ("", "")

def paRender (wrap : Int) (refName : String) (omitRef : Bool) (x : PA) : String := (paFile wrap refName omitRef x).2

/-- a block through both pools -/
def paBoth (ref : List Nat) (omitIns : Bool) (w : Nat × Nat × Bool) (b : List SamRec) : PA :=
  .pair (b.headD default).name
    (if w.2.2 then trimPair (pairOfBlock b ref omitIns) w.1 w.2.1 else pairOfBlock b ref omitIns)

def paPools (ref : List Nat) (omitIns : Bool) (w : Nat × Nat × Bool) (N1 N2 cap1 cap2 : Nat) : List (Pool PA CmdErr) :=
  [⟨N1, paPair ref omitIns, cap1⟩, ⟨N2, paTrim w, cap2⟩]

section pools
variable {σ : Type} {cfg : Cfg PA CmdErr σ} {s : State PA CmdErr σ} {blocks : List (List SamRec)}
  {ref : List Nat} {omitIns : Bool} {w : Nat × Nat × Bool} {N1 N2 cap1 cap2 : Nat}

theorem pa_items_pass (ref : List Nat) (omitIns : Bool) (w : Nat × Nat × Bool) (N1 N2 cap1 cap2 : Nat)
    (blocks : List (List SamRec)) :
    (blocks.map PA.block).map (pass (paPools ref omitIns w N1 N2 cap1 cap2)) =
      (blocks.map (paBoth ref omitIns w)).map Except.ok := by
  simp only [List.map_map]
  rfl

/-- **the toPairAlign chain with any writer that cannot fail, every schedule**: `chain_total_writer` for the items and
pools of the command; each of the three writers (stdout, directory on arrival, directory re-ordered) is this with its
own loop body `g` -/
theorem topa_total (hitems : cfg.items = blocks.map .block) (hpools : cfg.pools = paPools ref omitIns w N1 N2 cap1 cap2)
    (g : σ → Nat × PA → σ) (habs : ∀ st r, cfg.absorb st r = .ok (g st r)) (hfin : ∀ st, cfg.finish st = .ok st)
    (hN1 : 1 ≤ N1) (hN2 : 1 ≤ N2) (hr : Reach cfg s) (hm : s.main = .ret none) :
    ∃ arr : List (Nat × PA), (arr.map Prod.fst).Perm (List.range blocks.length) ∧
      (∀ r ∈ arr, (blocks.map (paBoth ref omitIns w))[r.1]? = some r.2) ∧
      Reorder.run arr = blocks.map (paBoth ref omitIns w) ∧ s.wst = arr.foldl g cfg.init := by
  have := chain_total_writer (cfg := cfg) (ys := blocks.map (paBoth ref omitIns w))
    (by rw [hitems, hpools]; exact pa_items_pass ref omitIns w N1 N2 cap1 cap2 blocks) g id
    (hpools ▸ two_pools_pos hN1 hN2) habs hfin hr hm
  rwa [List.length_map] at this

theorem topa_returns_nil (hitems : cfg.items = blocks.map .block)
    (hpools : cfg.pools = paPools ref omitIns w N1 N2 cap1 cap2) (hrf : cfg.readFail = none)
    (ha : ∀ st r, ∃ st', cfg.absorb st r = .ok st') (hfin : ∀ st, ∃ st', cfg.finish st = .ok st')
    (hN1 : 1 ≤ N1) (hN2 : 1 ≤ N2) (sched : List Nat) (hlen : μ cfg (init cfg) ≤ sched.length) :
    (runSchedule cfg sched).main = .ret none :=
  chain_runSchedule_returns_nil (hpools ▸ two_pools_pos hN1 hN2) hrf
    (by rw [hitems, hpools]; exact all_ok_of_map (pa_items_pass ref omitIns w N1 N2 cap1 cap2 blocks)) ha hfin sched hlen

end pools

theorem toPairAlign_files (ref : List Nat) (refName : String) (start stop wrap : Int) (omitRef omitIns : Bool)
    (recs : List SamRec) (w : Nat × Nat × Bool) (hargs : checkArgs ref.length start stop = some w) :
    toPairAlign ref refName start stop wrap omitRef omitIns recs =
      some (((samBlocks recs).map (paBoth ref omitIns w)).map (paFile wrap refName omitRef)) := by
  obtain ⟨s, e, trim⟩ := w
  unfold toPairAlign
  rw [hargs]
  simp only [List.map_map]
  rfl

/-! ### output to stdout: the re-ordering text writer -/

/-- what the model prints on stdout: the texts of the pairs, in input order -/
def topaStdout (l : List (String × String)) : String := String.join (l.map Prod.snd)

/-- `sam toPairAlign -o stdout` as a run of the chain with two pools -/
def topaCfg (ref : List Nat) (refName : String) (wrap : Int) (omitRef omitIns : Bool) (w : Nat × Nat × Bool)
    (blocks : List (List SamRec)) (N1 N2 cap0 cap1 cap2 : Nat) (rf : Option (Nat × CmdErr)) :
    Cfg PA CmdErr (TextW PA) where
  items := blocks.map .block
  pools := paPools ref omitIns w N1 N2 cap1 cap2
  cap0 := cap0
  readFail := rf
  absorb := fun st r => .ok (TextW.absorb (paRender wrap refName omitRef) 0 st r)
  finish := fun st => .ok st
  init := TextW.start "" 0

/-- **sam toPairAlign to stdout, every schedule of the two-pool chain**: whenever the driver returns nil the bytes
written are the texts of the sequential model's pairs, in input order -/
theorem topa_stdout_every_schedule (ref : List Nat) (refName : String) (start stop wrap : Int) (omitRef omitIns : Bool)
    (recs : List SamRec) (w : Nat × Nat × Bool) (hargs : checkArgs ref.length start stop = some w)
    (N1 N2 cap0 cap1 cap2 : Nat) (rf : Option (Nat × CmdErr)) (hN1 : 1 ≤ N1) (hN2 : 1 ≤ N2) {s : State _ _ _}
    (hr : Reach (topaCfg ref refName wrap omitRef omitIns w (samBlocks recs) N1 N2 cap0 cap1 cap2 rf) s)
    (hm : s.main = .ret none) :
    some s.wst.text = (toPairAlign ref refName start stop wrap omitRef omitIns recs).map topaStdout := by
  obtain ⟨arr, _, _, hrun, hst⟩ := topa_total rfl rfl _ (fun _ _ => rfl) (fun _ => rfl) hN1 hN2 hr hm
  rw [toPairAlign_files ref refName start stop wrap omitRef omitIns recs w hargs, hst]
  simp only [topaCfg, TextW.run_text, hrun, Option.map_some, topaStdout, List.map_map, String.empty_append]
  rfl

theorem topa_stdout_runSchedule (ref : List Nat) (refName : String) (start stop wrap : Int) (omitRef omitIns : Bool)
    (recs : List SamRec) (w : Nat × Nat × Bool) (hargs : checkArgs ref.length start stop = some w)
    (N1 N2 cap0 cap1 cap2 : Nat) (hN1 : 1 ≤ N1) (hN2 : 1 ≤ N2) (sched : List Nat)
    (hlen : μ (topaCfg ref refName wrap omitRef omitIns w (samBlocks recs) N1 N2 cap0 cap1 cap2 none)
      (init (topaCfg ref refName wrap omitRef omitIns w (samBlocks recs) N1 N2 cap0 cap1 cap2 none)) ≤ sched.length) :
    (runSchedule (topaCfg ref refName wrap omitRef omitIns w (samBlocks recs) N1 N2 cap0 cap1 cap2 none) sched).main
      = .ret none ∧
    some (runSchedule (topaCfg ref refName wrap omitRef omitIns w (samBlocks recs) N1 N2 cap0 cap1 cap2 none) sched).wst.text
      = (toPairAlign ref refName start stop wrap omitRef omitIns recs).map topaStdout := by
  have hm := topa_returns_nil rfl rfl rfl (fun _ _ => ⟨_, rfl⟩) (fun _ => ⟨_, rfl⟩) hN1 hN2 sched hlen
  exact ⟨hm, topa_stdout_every_schedule ref refName start stop wrap omitRef omitIns recs w hargs
    N1 N2 cap0 cap1 cap2 none hN1 hN2 (runSchedule_reach _ sched) hm⟩

/-! ### output to a directory: one file per pair, written on arrival (no re-ordering) -/

/-- the directory as a finite map from file name to contents; creating a file that exists replaces it.  The file name is the
query name as it stands.  The code writes '/' as '_', cuts the name at 249 bytes and appends ".fasta" (topa.go:426-433), so
there two different query names can be one file; this is not modelled: the names of `topa_dir_every_schedule`'s `hnames`
and "the file called n" here and in Lemmas/TopaDirFixed are query names -/
def fsWrite (fs : List (String × String)) (f : String × String) : List (String × String) :=
  f :: fs.filter (fun g => g.1 != f.1)

/-- the directory that creating the files f_1, ..., f_k in this order leaves (in the namespace of Lemmas/TopaDirFixed: `DirW.run`,
`topa_dir_fixed_model` and `topa_dir_fixed_runSchedule` there are stated with it, the other statements there write the fold out) -/
def _root_.Gofasta.Lemmas.TopaDirFixed.dirOf (files : List (String × String)) : List (String × String) :=
  files.foldl fsWrite []

open Gofasta.Lemmas.TopaDirFixed (dirOf)

/-- `sam toPairAlign -o dir` as a run of the chain with two pools: the writer creates the file of every pair as the
pair arrives -/
def topaDirCfg (ref : List Nat) (refName : String) (wrap : Int) (omitRef omitIns : Bool) (w : Nat × Nat × Bool)
    (blocks : List (List SamRec)) (N1 N2 cap0 cap1 cap2 : Nat) (rf : Option (Nat × CmdErr)) :
    Cfg PA CmdErr (List (String × String)) where
  items := blocks.map .block
  pools := paPools ref omitIns w N1 N2 cap1 cap2
  cap0 := cap0
  readFail := rf
  absorb := fun st r => .ok (fsWrite st (paFile wrap refName omitRef r.2))
  finish := fun st => .ok st
  init := []

theorem foldl_fsWrite_distinct : ∀ (fs acc : List (String × String)), ((acc ++ fs).map Prod.fst).Nodup →
    fs.foldl fsWrite acc = fs.reverse ++ acc := by
  intro fs
  induction fs with
  | nil => intro acc _; rfl
  | cons f t ih =>
    intro acc hnd
    have hperm : (f :: acc ++ t).Perm (acc ++ f :: t) := List.perm_middle.symm
    have hnd' : ((f :: acc ++ t).map Prod.fst).Nodup := (hperm.map Prod.fst).nodup_iff.mpr hnd
    have hkeep : acc.filter (fun g => g.1 != f.1) = acc := by
      apply List.filter_eq_self.mpr
      intro g hg
      simp only [List.cons_append, List.map_cons, List.nodup_cons, List.mem_map, List.mem_append] at hnd'
      simp only [bne_iff_ne, ne_eq]
      intro hgf
      exact hnd'.1 ⟨g, Or.inl hg, hgf⟩
    simp only [List.foldl_cons, fsWrite, hkeep]
    rw [ih (f :: acc) hnd']
    simp

theorem lookup_filter_ne {α β : Type} [BEq α] [LawfulBEq α] {n fn : α} (hb : (n == fn) = false) : ∀ fs : List (α × β),
    List.lookup n (fs.filter fun g => g.1 != fn) = List.lookup n fs
  | [] => rfl
  | (gn, gt) :: u => by
    by_cases hg : gn = fn
    · subst hg; simp [List.lookup_cons, hb, lookup_filter_ne hb u]
    · have hg' : (gn != fn) = true := by simpa using hg
      simp only [List.filter_cons, hg', if_true, List.lookup_cons, lookup_filter_ne hb u]

theorem lookup_fsWrite (n : String) (fs : List (String × String)) (f : String × String) :
    List.lookup n (fsWrite fs f) = (List.lookup n [f]).or (List.lookup n fs) := by
  obtain ⟨fn, ft⟩ := f
  simp only [fsWrite, List.lookup_cons, List.lookup_nil]
  cases hb : n == fn with
  | true => rfl
  | false => exact lookup_filter_ne hb fs

/-- the file called n holds what the LAST arrival called n carried -/
theorem foldl_fsWrite_lookup (n : String) : ∀ (fs acc : List (String × String)),
    List.lookup n (fs.foldl fsWrite acc) = (List.lookup n fs.reverse).or (List.lookup n acc)
  | [], _ => rfl
  | f :: t, acc => by
    rw [List.foldl_cons, foldl_fsWrite_lookup n t, lookup_fsWrite, List.reverse_cons, List.lookup_append, Option.or_assoc]

theorem lookup_perm_nodup {α β : Type} [BEq α] [LawfulBEq α] (n : α) {l1 l2 : List (α × β)} (hp : l1.Perm l2)
    (hnd : (l1.map Prod.fst).Nodup) : List.lookup n l1 = List.lookup n l2 := by
  -- under distinct names `lookup n l = some v` says `(n, v) ∈ l`, which a permutation keeps
  have key : ∀ (l : List (α × β)) (v : β), (l.map Prod.fst).Nodup →
      (List.lookup n l = some v ↔ (n, v) ∈ l) := by
    intro l v hl
    rw [List.lookup_eq_some_iff]
    constructor
    · rintro ⟨l₁, l₂, rfl, _⟩; simp
    · intro hm
      obtain ⟨l₁, l₂, rfl⟩ := List.append_of_mem hm
      refine ⟨l₁, l₂, rfl, fun p hp => ?_⟩
      rw [List.map_append, List.map_cons, List.nodup_append] at hl
      simpa using fun h : n = p.1 => hl.2.2 _ (List.mem_map_of_mem hp) _ List.mem_cons_self h.symm
  apply Option.ext
  intro v
  rw [key l1 v hnd, key l2 v ((hp.map Prod.fst).nodup_iff.mp hnd)]
  exact hp.mem_iff

theorem lookup_dirOf (n : String) (files : List (String × String)) :
    List.lookup n (dirOf files) = List.lookup n files.reverse := by
  rw [dirOf, foldl_fsWrite_lookup, List.lookup_nil, Option.or_none]

theorem dirOf_distinct {files : List (String × String)} (h : (files.map Prod.fst).Nodup) :
    dirOf files = files.reverse := by
  rw [dirOf, foldl_fsWrite_distinct files [] (by rwa [List.nil_append]), List.append_nil]

theorem dirOf_nodup (files : List (String × String)) : ((dirOf files).map Prod.fst).Nodup := by
  have h : ∀ (fs acc : List (String × String)), (acc.map Prod.fst).Nodup → ((fs.foldl fsWrite acc).map Prod.fst).Nodup := by
    intro fs
    induction fs with
    | nil => intro acc h; exact h
    | cons f t ih =>
      intro acc hacc
      simp only [List.foldl_cons]
      apply ih
      simp only [fsWrite, List.map_cons, List.nodup_cons, List.mem_map, List.mem_filter]
      refine ⟨?_, ?_⟩
      · rintro ⟨g, ⟨_, hg⟩, hgf⟩
        simp [hgf] at hg
      · exact (List.filter_sublist.map Prod.fst).nodup hacc
  exact h files [] (by simp)

theorem topa_dir_arrivals (ref : List Nat) (refName : String) (wrap : Int) (omitRef omitIns : Bool)
    (blocks : List (List SamRec)) (w : Nat × Nat × Bool)
    (N1 N2 cap0 cap1 cap2 : Nat) (rf : Option (Nat × CmdErr)) (hN1 : 1 ≤ N1) (hN2 : 1 ≤ N2) {s : State _ _ _}
    (hr : Reach (topaDirCfg ref refName wrap omitRef omitIns w blocks N1 N2 cap0 cap1 cap2 rf) s)
    (hm : s.main = .ret none) :
    ∃ arr : List (Nat × PA), (arr.map Prod.fst).Perm (List.range blocks.length) ∧
      (∀ r ∈ arr, (blocks.map (paBoth ref omitIns w))[r.1]? = some r.2) ∧
      s.wst = dirOf (arr.map fun r => paFile wrap refName omitRef r.2) := by
  obtain ⟨arr, hperm, hgood, _, hst⟩ := topa_total rfl rfl _ (fun _ _ => rfl) (fun _ => rfl) hN1 hN2 hr hm
  exact ⟨arr, hperm, hgood, by rw [hst, dirOf, List.foldl_map]; rfl⟩

/-- **sam toPairAlign to a directory (files created on arrival), every schedule**: when the query names of the blocks
are distinct, whenever the driver returns nil the directory holds exactly the files of the sequential model (as a
list: in the reverse of the arrival order, which is some permutation of the model's order) -/
theorem topa_dir_every_schedule (ref : List Nat) (refName : String) (start stop wrap : Int) (omitRef omitIns : Bool)
    (recs : List SamRec) (w : Nat × Nat × Bool) (hargs : checkArgs ref.length start stop = some w)
    (hnames : ((samBlocks recs).map fun b => (b.headD default).name).Nodup)
    (N1 N2 cap0 cap1 cap2 : Nat) (rf : Option (Nat × CmdErr)) (hN1 : 1 ≤ N1) (hN2 : 1 ≤ N2) {s : State _ _ _}
    (hr : Reach (topaDirCfg ref refName wrap omitRef omitIns w (samBlocks recs) N1 N2 cap0 cap1 cap2 rf) s)
    (hm : s.main = .ret none) :
    ∃ files, toPairAlign ref refName start stop wrap omitRef omitIns recs = some files ∧ s.wst.Perm files ∧
      ∀ n, List.lookup n s.wst = List.lookup n files := by
  refine ⟨_, toPairAlign_files ref refName start stop wrap omitRef omitIns recs w hargs, ?_⟩
  obtain ⟨arr, hperm, hgood, hst⟩ := topa_dir_arrivals ref refName wrap omitRef omitIns (samBlocks recs) w
    N1 N2 cap0 cap1 cap2 rf hN1 hN2 hr hm
  -- the files in arrival order are a permutation of the model's files, so their names are distinct too
  have hfiles : (arr.map fun r => paFile wrap refName omitRef r.2).Perm
      (((samBlocks recs).map (paBoth ref omitIns w)).map (paFile wrap refName omitRef)) := by
    have := (snd_perm_of_indexed (List.length_map (paBoth ref omitIns w) ▸ hperm) hgood).map (paFile wrap refName omitRef)
    rwa [List.map_map] at this
  have hnd : ((arr.map fun r => paFile wrap refName omitRef r.2).map Prod.fst).Nodup :=
    (hfiles.map Prod.fst).nodup_iff.mpr (by rw [List.map_map, List.map_map]; exact hnames)
  have hp : s.wst.Perm (((samBlocks recs).map (paBoth ref omitIns w)).map (paFile wrap refName omitRef)) := by
    rw [hst, dirOf_distinct hnd]
    exact (List.reverse_perm _).trans hfiles
  exact ⟨hp, fun n => lookup_perm_nodup n hp ((hp.map Prod.fst).nodup_iff.mpr ((hfiles.map Prod.fst).nodup_iff.mp hnd))⟩

/-- **the same without the hypothesis on the names**: the directory is determined by the arrival order at the writer (a
permutation of the input order, the payloads being the model's pairs): the file called n holds the text of the LAST
arrival called n -/
theorem topa_dir_last_arrival (ref : List Nat) (refName : String) (wrap : Int) (omitRef omitIns : Bool)
    (blocks : List (List SamRec)) (w : Nat × Nat × Bool)
    (N1 N2 cap0 cap1 cap2 : Nat) (rf : Option (Nat × CmdErr)) (hN1 : 1 ≤ N1) (hN2 : 1 ≤ N2) {s : State _ _ _}
    (hr : Reach (topaDirCfg ref refName wrap omitRef omitIns w blocks N1 N2 cap0 cap1 cap2 rf) s)
    (hm : s.main = .ret none) :
    ∃ arr : List (Nat × PA), (arr.map Prod.fst).Perm (List.range blocks.length) ∧
      (∀ r ∈ arr, (blocks.map (paBoth ref omitIns w))[r.1]? = some r.2) ∧
      ∀ n, List.lookup n s.wst = List.lookup n ((arr.map fun r => paFile wrap refName omitRef r.2).reverse) := by
  obtain ⟨arr, hperm, hgood, hst⟩ := topa_dir_arrivals ref refName wrap omitRef omitIns blocks w
    N1 N2 cap0 cap1 cap2 rf hN1 hN2 hr hm
  exact ⟨arr, hperm, hgood, fun n => hst ▸ lookup_dirOf n _⟩

/-! ## the statements are not vacuous: concrete inputs, two and three schedules -/

namespace Examples

/-! ### sam toPairAlign: reference ACGTACGT, window 2..7, two pools of two workers -/

def paRef : List Nat := [65, 67, 71, 84, 65, 67, 71, 84]
-- q: ACGT T ACGA (one inserted T), r: GGTA at 3, t: ATG at 1, and a second block called q: TTTT at 5
def paRec1 : SamRec := ⟨"q", 0, 0, [(0, 4), (1, 1), (0, 4)], [65, 67, 71, 84, 84, 65, 67, 71, 65]⟩
def paRec2 : SamRec := ⟨"r", 0, 2, [(0, 4)], [71, 71, 84, 65]⟩
def paRec3 : SamRec := ⟨"t", 0, 0, [(0, 3)], [65, 84, 71]⟩
def paRec4 : SamRec := ⟨"q", 0, 4, [(0, 4)], [84, 84, 84, 84]⟩
def paW : Nat × Nat × Bool := (2, 7, true)

theorem paW_ok : checkArgs paRef.length 2 7 = some paW := by decide +kernel

def topaEx := topaCfg paRef "ref" (-1) false false paW (samBlocks [paRec1, paRec2, paRec3]) 2 2 1 2 2 none
def topaDirEx := topaDirCfg paRef "ref" (-1) false false paW (samBlocks [paRec1, paRec2, paRec3]) 2 2 1 2 2 none

def csched1 : List Nat := List.replicate 50 0
def csched2 : List Nat := [0, 0, 0, 1, 2, 1, 1, 2, 1, 1, 1, 1] ++ List.replicate 40 0
def csched3 : List Nat := List.range 60

set_option maxRecDepth 100000 in
/-- stdout: two schedules, two arrival orders at the writer, the model's text both times -/
example :
    (runSchedule topaEx csched1).arrival.map (·.1) = [0, 1, 2] ∧
    (runSchedule topaEx csched2).arrival.map (·.1) = [1, 0, 2] ∧
    (runSchedule topaEx csched1).main = .ret none ∧
    (runSchedule topaEx csched2).main = .ret none ∧
    some (runSchedule topaEx csched1).wst.text =
      (toPairAlign paRef "ref" 2 7 (-1) false false [paRec1, paRec2, paRec3]).map topaStdout ∧
    some (runSchedule topaEx csched2).wst.text =
      (toPairAlign paRef "ref" 2 7 (-1) false false [paRec1, paRec2, paRec3]).map topaStdout ∧
    (toPairAlign paRef "ref" 2 7 (-1) false false [paRec1, paRec2, paRec3]).map topaStdout =
      some ">ref\nCGT-ACG\n>q\nCGTTACG\n>ref\nCGTACG\n>r\nNGGTAN\n>ref\nCGTACG\n>t\nTGNNNN\n" := by
  decide +kernel

set_option maxRecDepth 100000 in
/-- a directory: the files are listed in the reverse of the arrival order, and are the model's files -/
example :
    (runSchedule topaDirEx csched1).main = .ret none ∧ (runSchedule topaDirEx csched2).main = .ret none ∧
    (runSchedule topaDirEx csched1).wst.map (·.1) = ["t", "r", "q"] ∧
    (runSchedule topaDirEx csched2).wst.map (·.1) = ["t", "q", "r"] ∧
    (∀ n ∈ ["q", "r", "t", "x"], List.lookup n (runSchedule topaDirEx csched1).wst =
      List.lookup n ((toPairAlign paRef "ref" 2 7 (-1) false false [paRec1, paRec2, paRec3]).getD [])) ∧
    (∀ n ∈ ["q", "r", "t", "x"], List.lookup n (runSchedule topaDirEx csched2).wst =
      List.lookup n ((toPairAlign paRef "ref" 2 7 (-1) false false [paRec1, paRec2, paRec3]).getD [])) := by
  decide +kernel

/-- the hypothesis of distinct names is needed: a SAM file in which the records of q are not consecutive gives two
blocks called q, hence two writes of the same file; the later arrival wins, and which one that is depends on the
schedule -/
def topaDupEx := topaDirCfg paRef "ref" (-1) true false paW (samBlocks [paRec1, paRec2, paRec4]) 2 2 1 2 2 none

set_option maxRecDepth 100000 in
example :
    (samBlocks [paRec1, paRec2, paRec4]).map (fun b => (b.headD default).name) = ["q", "r", "q"] ∧
    (runSchedule topaDupEx csched1).main = .ret none ∧ (runSchedule topaDupEx csched3).main = .ret none ∧
    (runSchedule topaDupEx csched1).arrival.map (·.1) = [0, 1, 2] ∧
    (runSchedule topaDupEx csched3).arrival.map (·.1) = [1, 2, 0] ∧
    List.lookup "q" (runSchedule topaDupEx csched1).wst = some ">q\nNNNTTT\n" ∧
    List.lookup "q" (runSchedule topaDupEx csched3).wst = some ">q\nCGTTACG\n" := by
  decide +kernel

end Examples

end Gofasta.Lemmas.FanoutCommands
