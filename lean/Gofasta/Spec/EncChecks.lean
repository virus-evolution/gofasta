import Gofasta.Base.Iupac
import Gofasta.Model.Encoding
/-
Executable Boolean checks of the regenerated encoding tables against the independent base-set
literals (definitions only; Lemmas/Enc proves each `= true`, by kernel evaluation of the tables).
-/
namespace Gofasta.Spec
open Gofasta.Base Gofasta.Model

/-- bytes the encoder accepts under gap mode `hard` -/
def acceptedBytes (hard : Bool) : List Nat := (List.range 256).filter (fun b => enc hard b != 0)

def chkAccept (hard : Bool) : Bool :=
  (List.range 256).all fun b => (enc hard b != 0) == (baseSet hard b).isSome

def chkDisjoint (hard : Bool) : Bool :=
  (acceptedBytes hard).all fun a => (acceptedBytes hard).all fun b =>
    encDiffer (enc hard a) (enc hard b) == disjointSyms hard a b

def chkDec (hard : Bool) : Bool :=
  (acceptedBytes hard).all fun b => dec (enc hard b) == upper b

def chkCase (hard : Bool) : Bool :=
  (List.range 256).all fun b => enc hard (upper b) == enc hard b

def chkResolved (hard : Bool) : Bool :=
  (acceptedBytes hard).all fun b => encResolved (enc hard b) == isACGT b

def popcount4 (m : Nat) : Nat := (basesOf m).length

def chkScore : Bool :=
  (acceptedBytes false).all fun b =>
    match baseSet false b with
    | some m => scoreOf (enc false b) * popcount4 m == 12
    | none => false

def chkTransitions : Bool :=
  (acceptedBytes false).all fun a => (acceptedBytes false).all fun b =>
    (!(isACGT a && isACGT b)) ||
      (((enc false a ||| enc false b) == 200) ==
          ((upper a == 65 && upper b == 71) || (upper a == 71 && upper b == 65))) &&
      (((enc false a ||| enc false b) == 56) ==
          ((upper a == 67 && upper b == 84) || (upper a == 84 && upper b == 67)))

def chkSame : Bool :=
  (acceptedBytes false).all fun a => (acceptedBytes false).all fun b =>
    (!(isACGT a)) || ((enc false a == enc false b) == (upper a == upper b))

def chkResolvedDiffer : Bool :=
  (acceptedBytes false).all fun a => (acceptedBytes false).all fun b =>
    (!(isACGT a && isACGT b)) || (encDiffer (enc false a) (enc false b) == !(enc false a == enc false b))

/-- the code of the soft gap is reserved for '-' -/
def chkGapCode : Bool := (acceptedBytes false).all fun b => (enc false b == 244) == (b == 45)

/-! witness search (used by the driver when an obligation no longer checks) -/
def encWitnesses : List String :=
  let modes := [false, true]
  (modes.flatMap fun h => ((List.range 256).filter fun b => ((enc h b != 0) == (baseSet h b).isSome) == false).map
      fun b => s!"FAIL enc-accept hard={h} byte={b} enc={enc h b}") ++
  (modes.flatMap fun h => (acceptedBytes h).flatMap fun a => ((acceptedBytes h).filter fun b =>
      (encDiffer (enc h a) (enc h b) == disjointSyms h a b) == false).map
      fun b => s!"FAIL enc-disjoint hard={h} a={a} b={b} go-differ={encDiffer (enc h a) (enc h b)} spec-disjoint={disjointSyms h a b}") ++
  (modes.flatMap fun h => ((acceptedBytes h).filter fun b => (dec (enc h b) == upper b) == false).map
      fun b => s!"FAIL dec-enc hard={h} byte={b} dec={dec (enc h b)}") ++
  (modes.flatMap fun h => ((List.range 256).filter fun b => (enc h (upper b) == enc h b) == false).map
      fun b => s!"FAIL enc-case hard={h} byte={b}") ++
  (modes.flatMap fun h => ((acceptedBytes h).filter fun b => (encResolved (enc h b) == isACGT b) == false).map
      fun b => s!"FAIL enc-resolved hard={h} byte={b}") ++
  (((acceptedBytes false).filter fun b => match baseSet false b with
      | some m => (scoreOf (enc false b) * popcount4 m == 12) == false
      | none => true).map fun b => s!"FAIL score byte={b} score={scoreOf (enc false b)}") ++
  (if chkTransitions then [] else ["FAIL transitions (a|b)==200 / ==56 no longer mean {A,G} / {C,T}"]) ++
  (if chkResolvedDiffer then [] else ["FAIL resolved-differ: two resolved bases test as different iff their codes differ"]) ++
  (if chkGapCode then [] else ["FAIL gap-code: 244 no longer encodes exactly '-'"]) ++
  (if chkSame then [] else ["FAIL same-code: equal codes on resolved bases no longer mean equal bases"])

end Gofasta.Spec
