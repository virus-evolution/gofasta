import Gofasta.Model.GffText
import Gofasta.Lemmas.ListFacts
/-
What every text layer (CSV, SAM, GFF3, GenBank, FASTA) needs about bytes, stated once:
  * `splitB` / `joinB` for any separator: splitting a join of separator-free parts gives the parts back;
  * decimal numbers: `digitsOf` (strconv.Itoa) is read back by `digitsVal` and `atoi` (strconv.Atoi);
  * lines: a text that begins with LF-terminated lines is handed over line by line by every modelled splitter
    (bufio.ScanLines = `splitLinesAux`, with the buffer limit `GffText.scanLines` / `tooLong`; ReadBytes = `splitB 10`),
    which then goes on with what follows; `renderText` (LF or CRLF, last line end present or not) is such a text.
-/
-- `CsvRT` because the full names `CsvRT.splitB_joinB` and `CsvRT.atoi_digitsOf` are referred to from outside the Lean sources
namespace Gofasta.Lemmas.CsvRT
open Gofasta Model Model.Csv

theorem splitB_ne_nil (sep : Nat) : ∀ (s : Bytes), splitB sep s ≠ []
  | [] => by simp [splitB]
  | b :: t => by
    rw [splitB]
    split
    · simp
    · split <;> simp

theorem splitB_plain (sep : Nat) : ∀ (s : Bytes), (∀ b ∈ s, b ≠ sep) → splitB sep s = [s]
  | [], _ => rfl
  | b :: t, h => by
    obtain ⟨hb, ht⟩ := List.forall_mem_cons.1 h
    rw [splitB, if_neg hb, splitB_plain sep t ht]

theorem splitB_append_sep (sep : Nat) : ∀ (s rest : Bytes), (∀ b ∈ s, b ≠ sep) →
    splitB sep (s ++ sep :: rest) = s :: splitB sep rest
  | [], rest, _ => by simp [splitB]
  | b :: t, rest, h => by
    obtain ⟨hb, ht⟩ := List.forall_mem_cons.1 h
    rw [List.cons_append, splitB, if_neg hb, splitB_append_sep sep t rest ht]

theorem joinB_cons_cons (sep : Nat) (p q : Bytes) (t : List Bytes) :
    joinB sep (p :: q :: t) = p ++ sep :: joinB sep (q :: t) := rfl

theorem splitB_joinB (sep : Nat) : ∀ (parts : List Bytes), parts ≠ [] → (∀ p ∈ parts, ∀ b ∈ p, b ≠ sep) →
    splitB sep (joinB sep parts) = parts
  | [], h, _ => absurd rfl h
  | [p], _, h => splitB_plain sep p (h p List.mem_cons_self)
  | p :: q :: t, _, h => by
    obtain ⟨hp, ht⟩ := List.forall_mem_cons.1 h
    rw [joinB_cons_cons, splitB_append_sep sep p _ hp, splitB_joinB sep (q :: t) (List.cons_ne_nil q t) ht]

theorem joinB_byte_cons (sep b : Nat) (hd : Bytes) (r : List Bytes) : joinB sep ((b :: hd) :: r) = b :: joinB sep (hd :: r) := by
  cases r <;> simp [joinB]

theorem joinB_splitB (sep : Nat) : ∀ (s : Bytes), joinB sep (splitB sep s) = s
  | [] => rfl
  | b :: t => by
    have ih := joinB_splitB sep t
    simp only [splitB]
    cases hs : splitB sep t with
    | nil => exact absurd hs (splitB_ne_nil sep t)
    | cons hd r =>
      rw [hs] at ih
      split
      · rename_i hb
        rw [joinB_cons_cons, ih, hb]; rfl
      · rw [joinB_byte_cons, ih]

theorem forall_mem_joinB {P : Nat → Prop} {sep : Nat} (hsep : P sep) :
    ∀ {parts : List Bytes}, (∀ p ∈ parts, ∀ b ∈ p, P b) → ∀ b ∈ joinB sep parts, P b
  | [], _ => fun _ hb => nomatch hb
  | [p], h => h p List.mem_cons_self
  | p :: q :: t, h => by
    obtain ⟨hp, ht⟩ := List.forall_mem_cons.1 h
    rw [joinB_cons_cons]
    exact List.forall_mem_append.2 ⟨hp, List.forall_mem_cons.2 ⟨hsep, forall_mem_joinB hsep ht⟩⟩

theorem joinB_ne_nil (sep : Nat) : ∀ {parts : List Bytes}, parts ≠ [] → (∀ p ∈ parts, p ≠ []) → joinB sep parts ≠ []
  | [], h, _ => absurd rfl h
  | [p], _, hp => hp p List.mem_cons_self
  | p :: q :: t, _, _ => by simp [joinB_cons_cons]

theorem split_column (sep : Nat) (parts : List Bytes) (hne : ∀ p ∈ parts, p ≠ []) (hsep : ∀ p ∈ parts, ∀ b ∈ p, b ≠ sep) :
    (if joinB sep parts = [] then [] else splitB sep (joinB sep parts)) = parts := by
  cases parts with
  | nil => rfl
  | cons p t => rw [if_neg (joinB_ne_nil sep (List.cons_ne_nil _ _) hne), splitB_joinB sep _ (List.cons_ne_nil _ _) hsep]

theorem joinB_prefix (sep : Nat) (p : Bytes) (ps : List Bytes) : ∃ r, joinB sep (p :: ps) = p ++ r := by
  cases ps with
  | nil => exact ⟨[], by simp [joinB]⟩
  | cons q t => exact ⟨sep :: joinB sep (q :: t), by simp [joinB]⟩

theorem head?_joinB_ne {sep x : Nat} {p q : Bytes} {t : List Bytes} (hs : sep ≠ x) (hp : p.head? ≠ some x) :
    (joinB sep (p :: q :: t)).head? ≠ some x := by
  rw [joinB_cons_cons]
  cases p with
  | nil => simpa using hs
  | cons b u => simpa using hp

theorem joinB_suffix (sep : Nat) : ∀ (ps : List Bytes) (h : ps ≠ []), ∃ r, joinB sep ps = r ++ ps.getLast h := by
  intro ps
  induction ps with
  | nil => intro h; exact absurd rfl h
  | cons p t ih =>
    intro h
    cases t with
    | nil => exact ⟨[], by simp [joinB]⟩
    | cons q t' =>
      obtain ⟨r, hr⟩ := ih (by simp)
      refine ⟨p ++ sep :: r, ?_⟩
      simp only [joinB, List.getLast_cons_cons]
      rw [hr]; simp

theorem digitsOf_ne_nil (n : Nat) : digitsOf n ≠ [] :=
  fun h => Nat.toDigits_ne_nil (List.map_eq_nil_iff.1 h)

theorem isDigitB_iff {b : Nat} : isDigitB b = true ↔ 48 ≤ b ∧ b ≤ 57 := by
  simp only [isDigitB, Bool.and_eq_true, decide_eq_true_eq]

theorem digitsOf_isDigit (n : Nat) : ∀ b ∈ digitsOf n, isDigitB b = true := by
  intro b hb
  obtain ⟨c, hc, rfl⟩ := List.mem_map.1 hb
  have hd := Nat.isDigit_of_mem_toDigits (by decide) (by decide) hc
  simp only [Char.isDigit, Bool.and_eq_true, decide_eq_true_eq] at hd
  exact isDigitB_iff.2 hd

theorem digitsVal_map (l : List Char) (init : Nat) :
    (l.map Char.toNat).foldl (fun acc b => 10 * acc + (b - 48)) init = Nat.ofDigitChars 10 l init := by
  induction l generalizing init with
  | nil => rfl
  | cons c t ih =>
    simp only [List.map_cons, List.foldl_cons, Nat.ofDigitChars_cons]
    exact ih _

theorem digitsVal_digitsOf (n : Nat) : digitsVal (digitsOf n) = n := by
  unfold digitsVal digitsOf
  rw [digitsVal_map]
  exact Nat.ofDigitChars_ten_toDigits

theorem digit_ne {b x : Nat} (hb : isDigitB b = true) (hx : isDigitB x = false) : b ≠ x :=
  fun e => by rw [e, hx] at hb; cases hb

theorem digitsOf_ne (n : Nat) (x : Nat) (hx : isDigitB x = false) : ∀ b ∈ digitsOf n, b ≠ x :=
  fun b hb => digit_ne (digitsOf_isDigit n b hb) hx

theorem atoi_digits (s : Bytes) (hne : s ≠ []) (hd : ∀ b ∈ s, isDigitB b = true) (hv : digitsVal s ≤ maxInt64) :
    atoi s = some (digitsVal s : Int) := by
  cases s with
  | nil => exact absurd rfl hne
  | cons b t =>
    have hb := hd b List.mem_cons_self
    simp only [atoi, digit_ne hb (show isDigitB 45 = false by decide), digit_ne hb (show isDigitB 43 = false by decide),
      if_false, hne, List.all_eq_true.2 hd, Bool.not_true, Bool.false_eq_true, or_self, hv, if_true]

theorem atoi_digitsOf (n : Nat) (hn : n ≤ maxInt64) : atoi (digitsOf n) = some (n : Int) := by
  have h := atoi_digits (digitsOf n) (digitsOf_ne_nil n) (digitsOf_isDigit n)
  rw [digitsVal_digitsOf] at h
  exact h hn

theorem digitsOf_lt (n : Nat) (h : n < 10) : digitsOf n = [48 + n] := by
  unfold digitsOf
  rw [Nat.toDigits_of_lt_base h]
  simp [Nat.toNat_digitChar_of_lt_ten h]

theorem digitsOf_ge (n : Nat) (h : 10 ≤ n) : digitsOf n = digitsOf (n / 10) ++ [48 + n % 10] := by
  unfold digitsOf
  rw [Nat.toDigits_of_base_le (by decide) h]
  simp [Nat.toNat_digitChar_of_lt_ten (Nat.mod_lt n (by decide))]

theorem digitsOf_head (n : Nat) : 0 < n → ∃ b t, digitsOf n = b :: t ∧ 49 ≤ b ∧ b ≤ 57 := by
  induction n using Nat.strongRecOn with
  | _ n ih =>
    intro hn
    by_cases h : n < 10
    · exact ⟨48 + n, [], digitsOf_lt n h, by omega, by omega⟩
    · have h10 : 10 ≤ n := by omega
      obtain ⟨b, t, hbt, h1, h2⟩ := ih (n / 10) (Nat.div_lt_self hn (by decide)) (Nat.div_pos h10 (by decide))
      exact ⟨b, t ++ [48 + n % 10], by rw [digitsOf_ge n h10, hbt]; rfl, h1, h2⟩

theorem digitsOf_length_le (n k : Nat) (hk : 0 < k) (h : n < 10 ^ k) : (digitsOf n).length ≤ k := by
  unfold digitsOf
  rw [List.length_map]
  exact (Nat.length_toDigits_le_iff (by decide) hk).2 h

theorem digitsFold_ge : ∀ (ds : Bytes) (n : Nat), n ≤ ds.foldl (fun acc b => 10 * acc + (b - 48)) n
  | [], n => Nat.le_refl n
  | c :: t, n => Nat.le_trans (by omega) (digitsFold_ge t (10 * n + (c - 48)))

end Gofasta.Lemmas.CsvRT

-- `Gofasta.Lemmas` because the full names of `CleanLine`, `renderText`, `splitLines_render` are referred to from outside the Lean sources
namespace Gofasta.Lemmas
open Gofasta Model
open Gofasta.Model.Csv (splitB)

theorem splitLinesAux_cons_ne {b : Nat} (hb : b ≠ 10) (t acc : List Nat) :
    splitLinesAux (b :: t) acc = splitLinesAux t (b :: acc) := by
  rw [splitLinesAux]
  exact fun h => hb h

theorem splitLinesAux_line : ∀ (l : List Nat) (rest acc : List Nat), (∀ b ∈ l, b ≠ 10) →
    splitLinesAux (l ++ 10 :: rest) acc = (acc.reverse ++ l) :: splitLinesAux rest []
  | [], rest, acc, _ => by simp [splitLinesAux]
  | b :: t, rest, acc, h => by
    obtain ⟨hb, ht⟩ := List.forall_mem_cons.1 h
    rw [List.cons_append, splitLinesAux_cons_ne hb, splitLinesAux_line t rest (b :: acc) ht]
    simp

theorem splitLinesAux_append_nl : ∀ (a acc x : List Nat),
    splitLinesAux (a ++ 10 :: x) acc = splitLinesAux (a ++ [10]) acc ++ splitLinesAux x []
  | [], acc, x => by simp [splitLinesAux]
  | b :: t, acc, x => by
    by_cases hb : b = 10
    · subst hb
      simp only [List.cons_append, splitLinesAux, splitLinesAux_append_nl t [] x]
    · simp only [List.cons_append, splitLinesAux_cons_ne hb, splitLinesAux_append_nl t (b :: acc) x]

theorem splitLinesAux_last : ∀ (l acc : List Nat), (∀ b ∈ l, b ≠ 10) →
    splitLinesAux l acc = if (acc.reverse ++ l).isEmpty then [] else [acc.reverse ++ l]
  | [], acc, _ => by simp [splitLinesAux]
  | b :: t, acc, h => by
    obtain ⟨hb, ht⟩ := List.forall_mem_cons.1 h
    rw [splitLinesAux_cons_ne hb, splitLinesAux_last t (b :: acc) ht]
    simp

theorem dropCR_snoc (l : List Nat) : dropCR (l ++ [13]) = l := by
  simp [dropCR]

theorem dropCR_noCR (l : List Nat) (h : l.getLast? ≠ some 13) : dropCR l = l := by
  unfold dropCR
  split
  · rename_i heq; exact absurd heq h
  · rfl

/-- a line of a written text, in every text layer: no LF inside, not ending in CR, so that bufio.ScanLines hands it back as it is -/
def CleanLine (l : List Nat) : Prop := (∀ b ∈ l, b ≠ 10) ∧ l.getLast? ≠ some 13

theorem cleanLine_of (l : List Nat) (h : ∀ b ∈ l, b ≠ 10 ∧ b ≠ 13) : CleanLine l :=
  ⟨fun b hb => (h b hb).1, fun e => (h 13 (List.mem_of_getLast? e)).2 rfl⟩

/-- the file text: every line followed by the line end (LF, or CRLF when `crlf`), the last line end
    present or not -/
def renderText (crlf finalEol : Bool) : List (List Nat) → List Nat
  | [] => []
  | [l] => if finalEol then l ++ (if crlf then [13, 10] else [10]) else l
  | l :: l' :: rest => l ++ (if crlf then [13, 10] else [10]) ++ renderText crlf finalEol (l' :: rest)

theorem rawLines_unlines : ∀ (ls : List (List Nat)) (rest : List Nat), (∀ l ∈ ls, ∀ b ∈ l, b ≠ 10) →
    splitLinesAux (ls.flatMap (· ++ [10]) ++ rest) [] = ls ++ splitLinesAux rest []
  | [], _, _ => rfl
  | l :: t, rest, h => by
    obtain ⟨hl, ht⟩ := List.forall_mem_cons.1 h
    rw [List.flatMap_cons, List.append_assoc, List.append_assoc, List.singleton_append, splitLinesAux_line l _ [] hl,
      rawLines_unlines t rest ht]
    rfl

theorem splitB_unlines (sep : Nat) : ∀ (ls : List (List Nat)) (rest : List Nat), (∀ l ∈ ls, ∀ b ∈ l, b ≠ sep) →
    splitB sep (ls.flatMap (· ++ [sep]) ++ rest) = ls ++ splitB sep rest
  | [], _, _ => rfl
  | l :: t, rest, h => by
    obtain ⟨hl, ht⟩ := List.forall_mem_cons.1 h
    rw [List.flatMap_cons, List.append_assoc, List.append_assoc, List.singleton_append,
      CsvRT.splitB_append_sep sep l _ hl, splitB_unlines sep t rest ht]
    rfl

def eolCR (crlf : Bool) : List Nat := if crlf then [13] else []

theorem renderText_closed (crlf : Bool) : ∀ (lines : List (List Nat)),
    renderText crlf true lines = (lines.map (· ++ eolCR crlf)).flatMap (· ++ [10])
  | [] => rfl
  | [l] => by cases crlf <;> simp [renderText, eolCR]
  | l :: l' :: rest => by
    rw [renderText, renderText_closed crlf (l' :: rest)]
    cases crlf <;> simp [eolCR]

theorem renderText_open (crlf : Bool) : ∀ (lines : List (List Nat)) (l : List Nat),
    renderText crlf false (lines ++ [l]) = (lines.map (· ++ eolCR crlf)).flatMap (· ++ [10]) ++ l
  | [], l => by simp [renderText]
  | a :: t, l => by
    obtain ⟨b, u, e⟩ : ∃ b u, t ++ [l] = b :: u := by cases t <;> simp
    rw [List.cons_append, e, renderText, ← e, renderText_open crlf t l]
    cases crlf <;> simp [eolCR]

theorem renderText_lf (lines : List (List Nat)) : renderText false true lines = lines.flatMap fun l => l ++ [10] := by
  rw [renderText_closed]
  simp [eolCR]

theorem dropCR_eolCR (crlf : Bool) (l : List Nat) (h : l.getLast? ≠ some 13) : dropCR (l ++ eolCR crlf) = l := by
  cases crlf
  · simpa [eolCR] using dropCR_noCR l h
  · exact dropCR_snoc l

theorem map_dropCR_eolCR (crlf : Bool) (lines : List (List Nat)) (h : ∀ l ∈ lines, CleanLine l) :
    (lines.map (· ++ eolCR crlf)).map dropCR = lines := by
  rw [List.map_map]
  conv => rhs; rw [← List.map_id lines]
  exact List.map_congr_left fun l hl => dropCR_eolCR crlf l (h l hl).2

theorem rawLines_render (crlf finalEol : Bool) (lines : List (List Nat)) (h : ∀ l ∈ lines, CleanLine l ∧ l ≠ []) :
    (splitLinesAux (renderText crlf finalEol lines) []).map dropCR = lines ∧
    ∀ r ∈ splitLinesAux (renderText crlf finalEol lines) [], r.length ≤ (dropCR r).length + (eolCR crlf).length := by
  have hnl : ∀ ls : List (List Nat), (∀ l ∈ ls, l ∈ lines) → ∀ l ∈ ls.map (· ++ eolCR crlf), ∀ b ∈ l, b ≠ 10 := fun ls hs =>
    List.forall_mem_map.2 fun l hl => List.forall_mem_append.2 ⟨(h l (hs l hl)).1.1, by cases crlf <;> simp [eolCR]⟩
  have hlen : ∀ ls : List (List Nat), (∀ l ∈ ls, l ∈ lines) → ∀ r ∈ ls.map (· ++ eolCR crlf),
      r.length ≤ (dropCR r).length + (eolCR crlf).length := fun ls hs =>
    List.forall_mem_map.2 fun l hl => by rw [dropCR_eolCR crlf l (h l (hs l hl)).1.2, List.length_append]; exact Nat.le_refl _
  cases finalEol
  · rcases List.eq_nil_or_concat lines with rfl | ⟨init, l, rfl⟩
    · exact ⟨rfl, fun _ hr => nomatch hr⟩
    · rw [List.concat_eq_append] at h hnl hlen ⊢
      have hi : ∀ x ∈ init, x ∈ init ++ [l] := fun x hx => List.mem_append_left _ hx
      obtain ⟨hc, hne⟩ := h l (by simp)
      have e : splitLinesAux l [] = [l] := by simp [splitLinesAux_last l [] hc.1, hne]
      rw [renderText_open, rawLines_unlines _ l (hnl init hi), e, List.map_append,
        map_dropCR_eolCR crlf init fun x hx => (h x (hi x hx)).1]
      exact ⟨by simp [dropCR_noCR l hc.2], List.forall_mem_append.2 ⟨hlen init hi, by simp [dropCR_noCR l hc.2]⟩⟩
  · have := rawLines_unlines _ [] (hnl lines fun _ hx => hx)
    rw [List.append_nil] at this
    rw [renderText_closed, this, List.map_append, map_dropCR_eolCR crlf lines fun x hx => (h x hx).1]
    exact ⟨by simp [splitLinesAux], by simpa [splitLinesAux] using hlen lines fun _ hx => hx⟩

theorem splitLines_render (crlf finalEol : Bool) : ∀ (lines : List (List Nat)),
    (∀ l ∈ lines, CleanLine l ∧ l ≠ []) → splitLines (renderText crlf finalEol lines) = lines :=
  fun lines h => (rawLines_render crlf finalEol lines h).1

section Scanner
open Gofasta.Model.GffText (scanLines tooLong maxToken)

/-- a raw line (its CR included) the scanner delivers: no LF inside, shorter than the buffer -/
def LineFits (l : List Nat) : Prop := (∀ b ∈ l, b ≠ 10) ∧ l.length < maxToken

theorem scanLines_unlines (ls : List (List Nat)) (rest : List Nat) (h : ∀ l ∈ ls, LineFits l) :
    scanLines (ls.flatMap (· ++ [10]) ++ rest) = ls.map dropCR ++ scanLines rest := by
  unfold scanLines
  rw [rawLines_unlines ls rest fun l hl => (h l hl).1,
    List.takeWhile_append_of_pos fun l hl => decide_eq_true (h l hl).2, List.map_append]

theorem tooLong_unlines (ls : List (List Nat)) (rest : List Nat) (h : ∀ l ∈ ls, LineFits l) :
    tooLong (ls.flatMap (· ++ [10]) ++ rest) = tooLong rest := by
  unfold tooLong
  rw [rawLines_unlines ls rest fun l hl => (h l hl).1, List.any_append,
    List.any_eq_false.2 fun l hl => by simpa using (h l hl).2, Bool.false_or]

theorem scanLines_short (ft : List Nat) (hshort : ∀ l ∈ splitLinesAux ft [], l.length < maxToken) :
    scanLines ft = splitLines ft := by
  unfold scanLines splitLines
  rw [takeWhile_all]
  intro l hl
  simpa using hshort l hl

theorem tooLong_iff (text : List Nat) : tooLong text = true ↔ ∃ l ∈ splitLinesAux text [], maxToken ≤ l.length := by
  simp only [tooLong, List.any_eq_true, decide_eq_true_eq]

theorem tooLong_false_of_short (text : List Nat) (h : ∀ l ∈ splitLinesAux text [], l.length < maxToken) :
    tooLong text = false :=
  Bool.eq_false_iff.2 fun e => by
    obtain ⟨l, hl, hlen⟩ := (tooLong_iff text).1 e
    exact Nat.not_lt.2 hlen (h l hl)

/-- the scanner hands over nothing of a line of `maxToken` bytes or more, nor of what follows it: the lines the
reader sees are those of the text before that line -/
theorem scanLines_long_line (a l rest : List Nat) (hl : ∀ b ∈ l, b ≠ 10) (hlen : maxToken ≤ l.length) :
    scanLines (a ++ 10 :: (l ++ 10 :: rest)) = scanLines (a ++ [10]) := by
  have hp : decide (l.length < maxToken) = false := decide_eq_false (Nat.not_lt.2 hlen)
  rw [scanLines, splitLinesAux_append_nl a [] (l ++ 10 :: rest), splitLinesAux_line l rest [] hl,
    List.reverse_nil, List.nil_append, takeWhile_append_stop (fun x : List Nat => decide (x.length < maxToken)) l _ hp]
  rfl

theorem long_line_mem (a l rest : List Nat) (hl : ∀ b ∈ l, b ≠ 10) :
    l ∈ splitLinesAux (a ++ 10 :: (l ++ 10 :: rest)) [] := by
  rw [splitLinesAux_append_nl a [] (l ++ 10 :: rest), splitLinesAux_line l rest [] hl]
  simp

/-- the scanner hands over exactly the written lines and Scanner.Err stays nil. The bound is sharp:
a line of `maxToken - 1` bytes passes when it is written with LF, its CR counts when it is written with CRLF. -/
theorem scan_render (crlf finalEol : Bool) (lines : List (List Nat))
    (h : ∀ l ∈ lines, CleanLine l ∧ l ≠ [] ∧ l.length + (eolCR crlf).length < maxToken) :
    scanLines (renderText crlf finalEol lines) = lines ∧ tooLong (renderText crlf finalEol lines) = false := by
  obtain ⟨e, hlen⟩ := rawLines_render crlf finalEol lines fun l hl => ⟨(h l hl).1, (h l hl).2.1⟩
  have hshort : ∀ r ∈ splitLinesAux (renderText crlf finalEol lines) [], r.length < maxToken := fun r hr => by
    have := (h (dropCR r) (e ▸ List.mem_map_of_mem hr)).2.2
    have := hlen r hr
    omega
  exact ⟨(scanLines_short _ hshort).trans e, tooLong_false_of_short _ hshort⟩
end Scanner

end Gofasta.Lemmas
