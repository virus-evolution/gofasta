import Gofasta.Lemmas.FanoutProofs
import Gofasta.Driver.C06
import Gofasta.Driver.C08
/-
Command-level "every schedule" theorems for the commands whose second half is a FAN-OUT (Model/Fanout: reader,
splitter, one goroutine per query, main collecting into the results array); `sam toPairAlign` on the two-pool
chain is in Lemmas/TopaCommands (same namespace).  The generic accumulator `acc` of the fan-out model is instantiated
with the loop bodies of the sequential command models; `fanout_result_eq` (every slot holds the fold over ALL targets
IN FILE ORDER, on every schedule) then gives: whenever main has returned, the text main prints from the results
array is the text of the sequential model.  `modelText` / `modelTR` are the `model` fields of the test drivers
(`runC06_model`, `runC08_model`).
-/
set_option autoImplicit false

namespace Gofasta.Lemmas.FanoutCommands
open Gofasta Gofasta.Model Gofasta.Driver
open Gofasta.Model.Fanout Gofasta.Lemmas.Fanout

/-- the results array of `fanout_result_eq`: slot i holds the fold of `acc i` over all targets in file order.
(Named after Lemmas/FanoutFaults, where it is used most; the theorems of Lemmas/FanoutProofs write it out.) -/
def _root_.Gofasta.Lemmas.FanoutFaults.expResults {τ ρ : Type} (cfg : Cfg τ ρ) : List (Option (Option ρ)) :=
  (List.range cfg.nQ).map fun i => some (expected cfg i)

open Gofasta.Lemmas.FanoutFaults (expResults)

section generic
variable {τ ρ α β : Type}

/-- the result slot of query i as main reads it after the collection: the running best, `none` when the slot
was never filled or when the query saw no target -/
def slot (results : List (Option (Option ρ))) (i : Nat) : Option ρ := (results.getD i none).getD none

-- `fanout_result_eq` with the array under its name, so that a `rw` leaves `expResults cfg`
theorem results_every_schedule {cfg : Cfg τ ρ} {s : State τ ρ} (hr : Reach cfg s) (hm : s.main = .ret) :
    s.results = expResults cfg := fanout_result_eq hr hm

theorem slot_every_schedule {cfg : Cfg τ ρ} {s : State τ ρ} (hr : Reach cfg s) (hm : s.main = .ret)
    {i : Nat} (hi : i < cfg.nQ) : slot s.results i = expected cfg i := by
  have := fanout_result hr hm i hi
  simp only [slot, List.getD_eq_getElem?_getD, this, expected]
  rfl

/-- main walks over the queries and the results array together; when slot i holds `g i` and the row made of
query i and `g i` is the row `F` of the sequential model, the rows are the model's rows -/
theorem rows_of_results {γ : Type} (qs : List α) (g : Nat → β) {f : α × β → γ} {F : α → γ}
    (h : ∀ i q, qs[i]? = some q → f (q, g i) = F q) :
    (qs.zip ((List.range qs.length).map g)).map f = qs.map F := by
  apply List.ext_getElem?
  intro i
  simp only [List.getElem?_map, List.zip_eq_zipWith, List.getElem?_zipWith]
  cases hq : qs[i]? with
  | none => simp
  | some q =>
    have hi : i < qs.length := (List.getElem?_eq_some_iff.mp hq).1
    simp [hi, h i q hq]

theorem foldl_filter (p : α → Bool) (f : β → α → β) (l : List α) (b : β) :
    (l.filter p).foldl f b = l.foldl (fun b x => if p x then f b x else b) b :=
  List.foldl_filter

end generic

/-! ## `gofasta closest` (plain): findClosest as the accumulator -/

/-- what the reader sends: every target record with its position in the target file -/
def indexed (ts : List Target) : List (Target × Nat) := ts.zip (List.range ts.length)

def mkHit (m : Measure) (q : List Nat) (t : Target × Nat) : Hit :=
  { name := t.1.name, score := t.1.score, dist := distance m q t.1, idx := t.2 }

theorem hitsOf_eq (m : Measure) (q : List Nat) (ts : List Target) : hitsOf m q ts = (indexed ts).map (mkHit m q) := rfl

/-- the loop body of findClosest: the first target, then strictly closer, then as close and more complete;
the incumbent is kept on a full tie -/
def bestStep (best : Option Hit) (h : Hit) : Hit :=
  match best with
  | none => h
  | some b => if h.dist.lt b.dist then h else if h.dist.eq b.dist && h.score > b.score then h else b

theorem findClosest_foldl (hits : List Hit) : findClosest hits = hits.foldl (fun b h => some (bestStep b h)) none := by
  unfold findClosest
  congr 1
  funext best h
  cases best with
  | none => rfl
  | some b =>
    simp only [bestStep]
    split
    · rfl
    · split <;> rfl

def encQueries (ci : ClosestIn) : List (List Nat) := ci.qs.map fun q => q.2.map (enc false)

def closestAcc (m : Measure) (qs : List (List Nat)) (i : Nat) (best : Option Hit) (t : Target × Nat) : Hit :=
  bestStep best (mkHit m (qs.getD i []) t)

/-- plain `closest` as a run of the fan-out: any capacity of cIn -/
def closestCfg (ci : ClosestIn) (cap : Nat) : Cfg (Target × Nat) Hit where
  targets := indexed (modelTargets ci.ts)
  nQ := ci.qs.length
  cap := cap
  acc := closestAcc ci.measure (encQueries ci)

theorem foldAcc_closest (m : Measure) (qs : List (List Nat)) (i : Nat) (ts : List Target) :
    foldAcc (closestAcc m qs) i none (indexed ts) = findClosest (hitsOf m (qs.getD i []) ts) := by
  rw [foldAcc_eq_foldl, findClosest_foldl, hitsOf_eq, List.foldl_map]
  rfl

def modelRows (ci : ClosestIn) : String × List ERow :=
  rowsFor ci (fun q => hitsOf ci.measure (q.map (enc false)) (modelTargets ci.ts)) findClosest
    (findClosestN (effK ci) ci.maxd)
    (fun q i => closestSnps 0 (q.map (enc false)) (((modelTargets ci.ts).getD i default).seq))

def modelText (ci : ClosestIn) : String := renderRows (modelRows ci).1 (modelRows ci).2

theorem runC06_model (c : Case) (h : (c.prop == "C07") = false) : (runC06 c).model = modelText (closestIn c) := by
  simp only [runC06, h, modelText, modelRows]
  rfl

/-- the row main prints for one query from its slot of the results array -/
def plainRow (ci : ClosestIn) (q : String × List Nat) (r : Option Hit) : ERow :=
  match r with
  | some h => { pre := [q.1, h.name], dist := some h.dist,
                post := [joinWith ";" (closestSnps 0 (q.2.map (enc false)) (((modelTargets ci.ts).getD h.idx default).seq))] }
  | none => { pre := [q.1, ""], dist := none, post := [] }

/-- what main prints after the collection: one row per query, in query order, from the results array -/
def plainText (ci : ClosestIn) (results : List (Option (Option Hit))) : String :=
  renderRows "query,closest,distance,SNPs"
    ((ci.qs.zip results).map fun p => plainRow ci p.1 (p.2.getD none))

theorem closest_text (ci : ClosestIn) (cap : Nat) (hmode : ci.mode = "plain") :
    plainText ci (expResults (closestCfg ci cap)) = modelText ci := by
  show plainText ci ((List.range ci.qs.length).map fun i => some (expected (closestCfg ci cap) i)) = _
  unfold plainText
  rw [rows_of_results ci.qs (fun i => some (expected (closestCfg ci cap) i))
    (F := fun q => plainRow ci q (findClosest (hitsOf ci.measure (q.2.map (enc false)) (modelTargets ci.ts))))]
  · simp only [modelText, modelRows, rowsFor, hmode]
    rfl
  · intro i q hq
    simp only [Option.getD_some, expected, closestCfg, foldAcc_closest]
    congr 3
    simp [encQueries, hq]

/-- **closest, every schedule**: whenever main has returned, the text printed from the results array is the
sequential model's text -/
theorem closest_every_schedule (ci : ClosestIn) (cap : Nat) (hmode : ci.mode = "plain")
    {s : State (Target × Nat) Hit} (hr : Reach (closestCfg ci cap) s) (hm : s.main = .ret) :
    plainText ci s.results = modelText ci := by
  rw [results_every_schedule hr hm]
  exact closest_text ci cap hmode

theorem closest_maximal_run (ci : ClosestIn) (cap : Nat) (hmode : ci.mode = "plain")
    {s : State (Target × Nat) Hit} (hr : Reach (closestCfg ci cap) s) (hstuck : enabled (closestCfg ci cap) s = []) :
    s.main = .ret ∧ plainText ci s.results = modelText ci := by
  have hm := (fanout_maximal_run hr hstuck).1
  exact ⟨hm, closest_every_schedule ci cap hmode hr hm⟩

theorem closest_runSchedule (ci : ClosestIn) (cap : Nat) (hmode : ci.mode = "plain") (sched : List Nat)
    (hlen : (ci.qs.length + 3) * ci.ts.length + 4 * ci.qs.length + 9 ≤ sched.length) :
    (runSchedule (closestCfg ci cap) sched).main = .ret ∧
    plainText ci (runSchedule (closestCfg ci cap) sched).results = modelText ci := by
  have hm := (runSchedule_returns (cfg := closestCfg ci cap) sched
    (by simpa [closestCfg, indexed, modelTargets] using hlen)).1
  exact ⟨hm, closest_every_schedule ci cap hmode (runSchedule_reach _ sched) hm⟩

/-! ## `gofasta closest -n K` and `-d D`: the bounded catchment as the accumulator -/

/-- the -d test of findClosestN -/
def withinD (maxd : Option (Nat × Nat)) (h : Hit) : Bool :=
  match maxd with
  | none => true
  | some (n, d) => !h.dist.beyond n d

theorem findClosestN_foldl (K : Nat) (maxd : Option (Nat × Nat)) (hits : List Hit) :
    findClosestN K maxd hits = catchFinish K ((hits.filter (withinD maxd)).foldl (catchStep K) []) := by
  unfold findClosestN
  cases maxd with
  | none =>
    have : hits.filter (withinD none) = hits := List.filter_eq_self.mpr (fun _ _ => rfl)
    rw [this]
  | some nd => obtain ⟨n, d⟩ := nd; rfl

/-- the loop body of findClosestN in query goroutine i: the -d test, then the catchment step -/
def catchAcc (K : Nat) (maxd : Option (Nat × Nat)) (m : Measure) (qs : List (List Nat)) (i : Nat)
    (cat : Option (List Hit)) (t : Target × Nat) : List Hit :=
  if withinD maxd (mkHit m (qs.getD i []) t) then catchStep K (cat.getD []) (mkHit m (qs.getD i []) t) else cat.getD []

def closestNCfg (ci : ClosestIn) (cap : Nat) : Cfg (Target × Nat) (List Hit) where
  targets := indexed (modelTargets ci.ts)
  nQ := ci.qs.length
  cap := cap
  acc := catchAcc (effK ci) ci.maxd ci.measure (encQueries ci)

theorem foldAcc_catch (K : Nat) (maxd : Option (Nat × Nat)) (m : Measure) (qs : List (List Nat)) (i : Nat)
    (ts : List Target) :
    catchFinish K ((foldAcc (catchAcc K maxd m qs) i none (indexed ts)).getD []) =
      findClosestN K maxd (hitsOf m (qs.getD i []) ts) := by
  rw [findClosestN_foldl, hitsOf_eq, List.foldl_filter, List.foldl_map]
  exact congrArg _ (foldAcc_getD _ i [] _ (fun _ _ => rfl) none _)

/-- what query i reports: the catchment, sorted when it never filled up -/
def catchment (ci : ClosestIn) (r : Option (Option (List Hit))) : List Hit :=
  catchFinish (effK ci) ((r.getD none).getD [])

/-- what main prints after the collection, from the results array: `--table` one row per (query, neighbour),
otherwise one row per query with the names joined by semicolons -/
def catchText (ci : ClosestIn) (results : List (Option (Option (List Hit)))) : String :=
  if ci.mode = "table" then
    renderRows "query,target,distance" (((ci.qs.zip results).map fun p =>
      (catchment ci p.2).map fun h => ({ pre := [p.1.1, h.name], dist := some h.dist, post := [] } : ERow)).flatten)
  else
    renderRows "query,closest" ((ci.qs.zip results).map fun p =>
      ({ pre := [p.1.1, joinWith ";" ((catchment ci p.2).map (·.name))], dist := none, post := [] } : ERow))

theorem catchment_every_schedule (ci : ClosestIn) (cap : Nat) (i : Nat) (q : String × List Nat)
    (hq : ci.qs[i]? = some q) :
    catchment ci (some (expected (closestNCfg ci cap) i)) =
      findClosestN (effK ci) ci.maxd (hitsOf ci.measure (q.2.map (enc false)) (modelTargets ci.ts)) := by
  simp only [catchment, Option.getD_some, expected, closestNCfg, foldAcc_catch]
  congr 2
  simp [encQueries, hq]

theorem closestN_text (ci : ClosestIn) (cap : Nat) (hmode : ci.mode ≠ "plain") :
    catchText ci (expResults (closestNCfg ci cap)) = modelText ci := by
  show catchText ci ((List.range ci.qs.length).map fun i => some (expected (closestNCfg ci cap) i)) = _
  unfold catchText
  by_cases htab : ci.mode = "table"
  · simp only [htab, if_true]
    rw [rows_of_results ci.qs (fun i => some (expected (closestNCfg ci cap) i))
      (F := fun q => (findClosestN (effK ci) ci.maxd (hitsOf ci.measure (q.2.map (enc false)) (modelTargets ci.ts))).map
        fun h => ({ pre := [q.1, h.name], dist := some h.dist, post := [] } : ERow))]
    · simp only [modelText, modelRows, rowsFor, htab, List.flatMap]
    · intro i q hq; simp only [catchment_every_schedule ci cap i q hq]
  · simp only [htab, if_false]
    rw [rows_of_results ci.qs (fun i => some (expected (closestNCfg ci cap) i))
      (F := fun q => ({ pre := [q.1, joinWith ";" ((findClosestN (effK ci) ci.maxd
        (hitsOf ci.measure (q.2.map (enc false)) (modelTargets ci.ts))).map (·.name))], dist := none, post := [] } : ERow))]
    · -- neither "plain" nor "table": the last arm of `rowsFor`
      unfold modelText modelRows rowsFor
      split
      · exact absurd ‹_› hmode
      · exact absurd ‹_› htab
      · rfl
    · intro i q hq; simp only [catchment_every_schedule ci cap i q hq]

/-- **closest -n / -d, every schedule**: whenever main has returned, the text printed from the results array
is the sequential model's text (both output forms) -/
theorem closestN_every_schedule (ci : ClosestIn) (cap : Nat) (hmode : ci.mode ≠ "plain")
    {s : State (Target × Nat) (List Hit)} (hr : Reach (closestNCfg ci cap) s) (hm : s.main = .ret) :
    catchText ci s.results = modelText ci := by
  rw [results_every_schedule hr hm]
  exact closestN_text ci cap hmode

theorem closestN_maximal_run (ci : ClosestIn) (cap : Nat) (hmode : ci.mode ≠ "plain")
    {s : State (Target × Nat) (List Hit)} (hr : Reach (closestNCfg ci cap) s)
    (hstuck : enabled (closestNCfg ci cap) s = []) :
    s.main = .ret ∧ catchText ci s.results = modelText ci := by
  have hm := (fanout_maximal_run hr hstuck).1
  exact ⟨hm, closestN_every_schedule ci cap hmode hr hm⟩

theorem closestN_runSchedule (ci : ClosestIn) (cap : Nat) (hmode : ci.mode ≠ "plain") (sched : List Nat)
    (hlen : (ci.qs.length + 3) * ci.ts.length + 4 * ci.qs.length + 9 ≤ sched.length) :
    (runSchedule (closestNCfg ci cap) sched).main = .ret ∧
    catchText ci (runSchedule (closestNCfg ci cap) sched).results = modelText ci := by
  have hm := (runSchedule_returns (cfg := closestNCfg ci cap) sched
    (by simpa [closestNCfg, indexed, modelTargets] using hlen)).1
  exact ⟨hm, closestN_every_schedule ci cap hmode (runSchedule_reach _ sched) hm⟩

/-! ## `gofasta updown topranking`: the four bins of a query as the accumulator -/

/-- the tests a target goes through before it reaches a bin: its own ambiguity count, the ignore list, whichWay -/
def trCand (o : TROpts) (q t : UDLine) : Option (Nat × UDHit) :=
  if t.ambCount > o.threshTarg then none
  else if o.ignore.contains t.id then none
  else match whichWay q t o.thrNum o.thrDen with
    | none => none
    | some (dir, dist) => some (dir, { name := t.id, dist := dist, amb := t.ambCount })

/-- `sizetotal` of `findUpDownCatchment` (topranking.go:406-418): `math.MaxInt32` as soon as one of the four sizes is
unbounded, else their sum -/
def trTotal (o : TROpts) : Nat := if o.sizes.contains bigN then bigN else o.sizes.sum

/-- one bin of the sequential model, from the candidates in file order -/
def seqBin (o : TROpts) (cands : List (Nat × UDHit)) (dir : Nat) : List UDHit :=
  if o.push > 0 then
    (if dir = 0 then (cands.filter fun c => c.1 == dir).map (·.2)
     else sortStable udLt ((((cands.filter fun c => c.1 == dir).map (·.2)).foldl (pushInsert o.push) []).flatMap (·.2)))
  else topKG udLt (trTotal o) (((cands.filter fun c => c.1 == dir).map (·.2)).filter fun h => h.dist ≤ o.dists.getD dir 0)

def trBalance (o : TROpts) (bins : List (List UDHit)) : List (List UDHit) :=
  if o.push > 0 then bins
  else (bins.zip (balance (trTotal o) o.sizes (bins.map (·.length)) o.nofill)).map fun (b, s) => b.take s

/-- the sequential model as: candidates, four bins, balance -/
theorem topRankingQuery_eq (o : TROpts) (q : UDLine) (targets : List UDLine) :
    topRankingQuery o q targets = trBalance o ((List.range 4).map (seqBin o (targets.filterMap (trCand o q)))) := by
  -- with `seqBin` applied to its direction its two cases can be read off
  rw [show seqBin o (targets.filterMap (trCand o q)) = fun dir => seqBin o (targets.filterMap (trCand o q)) dir from rfl]
  unfold topRankingQuery trBalance
  split
  · next hp => simp only [seqBin, hp, if_true]; rfl
  · next hp => simp only [seqBin, hp, if_false]; rfl

/-- what a query goroutine keeps per direction: the list (bin "same" in push mode; the bounded catchment otherwise)
and, in push mode, the map of the k smallest distances -/
structure TRBin where
  hits : List UDHit := []
  byDist : List (Nat × List UDHit) := []

def binStep (o : TROpts) (dir : Nat) (b : TRBin) (h : UDHit) : TRBin :=
  if o.push > 0 then
    (if dir = 0 then ⟨b.hits ++ [h], b.byDist⟩ else ⟨b.hits, pushInsert o.push b.byDist h⟩)
  else if h.dist ≤ o.dists.getD dir 0 then ⟨catchStepG udLt (trTotal o) b.hits h, b.byDist⟩ else b

def binFinish (o : TROpts) (dir : Nat) (b : TRBin) : List UDHit :=
  if o.push > 0 then (if dir = 0 then b.hits else sortStable udLt (b.byDist.flatMap (·.2)))
  else catchFinishG udLt (trTotal o) b.hits

def emptyBins : List TRBin := List.replicate 4 {}

/-- a target arriving at a query goroutine -/
def trStep (o : TROpts) (q : UDLine) (bins : List TRBin) (t : UDLine) : List TRBin :=
  match trCand o q t with
  | some c => bins.modify c.1 (fun b => binStep o c.1 b c.2)
  | none => bins

/-- what the goroutine reports (main prints it) -/
def trFinish (o : TROpts) (bins : List TRBin) : List (List UDHit) :=
  trBalance o ((List.range 4).map fun d => binFinish o d (bins.getD d {}))

/-- updating the bin a candidate belongs to, read at bin d, is a fold over the candidates of direction d -/
theorem foldl_modify_get {β γ : Type} (step : Nat → β → γ → β) (d : Nat) : ∀ (cands : List (Nat × γ)) (bins : List β),
    (cands.foldl (fun bins c => bins.modify c.1 (fun b => step c.1 b c.2)) bins)[d]? =
      bins[d]?.map (fun b => ((cands.filter fun c => c.1 == d).map (·.2)).foldl (step d) b) := by
  intro cands
  induction cands with
  | nil => intro bins; simp
  | cons c t ih =>
    intro bins
    simp only [List.foldl_cons, ih, List.getElem?_modify]
    by_cases hc : c.1 = d
    · have hb : (c.1 == d) = true := by simpa using hc
      simp only [List.filter_cons, hb, if_true, List.map_cons, List.foldl_cons]
      cases bins[d]? with
      | none => rfl
      | some b => simp [hc]
    · have hb : (c.1 == d) = false := by simpa using hc
      simp only [List.filter_cons, hb, Bool.false_eq_true, if_false]
      cases bins[d]? with
      | none => rfl
      | some b => simp [hc]

/-- bin d of the goroutine, started with the bin b and finished, in the terms of the sequential model (which starts
from the empty bin) -/
theorem binFinish_foldl (o : TROpts) (d : Nat) : ∀ (hs : List UDHit) (b : TRBin),
    binFinish o d (hs.foldl (binStep o d) b) =
      if o.push > 0 then
        (if d = 0 then b.hits ++ hs else sortStable udLt ((hs.foldl (pushInsert o.push) b.byDist).flatMap (·.2)))
      else catchFinishG udLt (trTotal o)
        ((hs.filter fun h => h.dist ≤ o.dists.getD d 0).foldl (catchStepG udLt (trTotal o)) b.hits) := by
  intro hs
  induction hs with
  | nil => intro b; simp [binFinish]
  | cons h t ih =>
    intro b
    rw [List.foldl_cons, ih, binStep, List.filter_cons]
    by_cases hp : o.push > 0
    · by_cases hd : d = 0 <;> simp [hp, hd]
    · by_cases hw : h.dist ≤ o.dists.getD d 0 <;> simp only [hp, hw, if_false, if_true, decide_true, decide_false,
        List.foldl_cons, Bool.false_eq_true]

theorem trFinish_foldl (o : TROpts) (q : UDLine) (targets : List UDLine) :
    trFinish o (targets.foldl (trStep o q) emptyBins) = topRankingQuery o q targets := by
  rw [topRankingQuery_eq]
  unfold trFinish
  congr 1
  apply List.map_congr_left
  intro d hd
  have hstep : targets.foldl (trStep o q) emptyBins =
      (targets.filterMap (trCand o q)).foldl (fun bins c => bins.modify c.1 (fun b => binStep o c.1 b c.2)) emptyBins := by
    rw [List.foldl_filterMap]
    congr 1
    funext bins t
    unfold trStep
    cases trCand o q t <;> rfl
  have hget := foldl_modify_get (binStep o) d (targets.filterMap (trCand o q)) emptyBins
  have he : emptyBins[d]? = some {} := by rw [emptyBins, List.getElem?_replicate, if_pos (List.mem_range.mp hd)]
  rw [List.getD_eq_getElem?_getD, hstep, hget, he]
  simp only [Option.map_some, Option.getD_some, binFinish_foldl]
  rfl

/-- the target lines, in file order (what the reader sends) -/
def trTargets (ti : TRIn) : List UDLine :=
  ti.ts.map fun (n, s) => getLine n (ti.ref.map (enc false)) (s.map (enc false))

def trQuery (ti : TRIn) (q : String × List Nat) : UDLine := getLine q.1 (ti.ref.map (enc false)) (q.2.map (enc false))

/-- the accumulator of query goroutine i: the four bins, empty before the first target -/
def trAcc (o : TROpts) (qs : List UDLine) (i : Nat) (st : Option (List TRBin)) (t : UDLine) : List TRBin :=
  trStep o (qs.getD i default) (st.getD emptyBins) t

def topRankingCfg (ti : TRIn) (cap : Nat) : Cfg UDLine (List TRBin) where
  targets := trTargets ti
  nQ := ti.qs.length
  cap := cap
  acc := trAcc ti.opts (ti.qs.map (trQuery ti))

theorem foldAcc_tr (o : TROpts) (qs : List UDLine) (i : Nat) (l : List UDLine) (b : Option (List TRBin)) :
    (foldAcc (trAcc o qs) i b l).getD emptyBins = l.foldl (trStep o (qs.getD i default)) (b.getD emptyBins) :=
  foldAcc_getD _ i emptyBins _ (fun _ _ => rfl) b l

def trText (ti : TRIn) (results : List (Option (Option (List TRBin)))) : String :=
  if ti.table then trTableOutput ((ti.qs.zip results).map fun p => (p.1.1, trFinish ti.opts ((p.2.getD none).getD emptyBins)))
  else trListOutput ((ti.qs.zip results).map fun p => (p.1.1, trFinish ti.opts ((p.2.getD none).getD emptyBins)))

theorem runC08_model (c : Case) : (runC08 c).model = modelTR (trIn c) := by
  unfold runC08; rfl

/-- `hargs`: `udCheckArgs` accepted the command line (`ti.args`, else `modelTR` is "!error"); what it returned is not used,
the options the model runs on are `ti.opts` -/
theorem topranking_text (ti : TRIn) (cap : Nat) (a : List Nat × List Nat) (hargs : ti.args = some a) :
    trText ti (expResults (topRankingCfg ti cap)) = modelTR ti := by
  show trText ti ((List.range ti.qs.length).map fun i => some (expected (topRankingCfg ti cap) i)) = _
  unfold trText
  rw [rows_of_results ti.qs (fun i => some (expected (topRankingCfg ti cap) i))
    (F := fun q => (q.1, topRankingQuery ti.opts (trQuery ti q) (trTargets ti)))]
  · simp only [modelTR, hargs]
    rfl
  · intro i q hq
    simp only [Option.getD_some, expected, topRankingCfg, foldAcc_tr, Option.getD_none, trFinish_foldl]
    congr 2
    simp [hq]

/-- **updown topranking, every schedule**: whenever main has returned, the text printed from the results array
is the sequential model's text (both output forms, push mode and size mode) -/
theorem topranking_every_schedule (ti : TRIn) (cap : Nat) (a : List Nat × List Nat) (hargs : ti.args = some a)
    {s : State UDLine (List TRBin)} (hr : Reach (topRankingCfg ti cap) s) (hm : s.main = .ret) :
    trText ti s.results = modelTR ti := by
  rw [results_every_schedule hr hm]
  exact topranking_text ti cap a hargs

theorem topranking_maximal_run (ti : TRIn) (cap : Nat) (a : List Nat × List Nat) (hargs : ti.args = some a)
    {s : State UDLine (List TRBin)} (hr : Reach (topRankingCfg ti cap) s)
    (hstuck : enabled (topRankingCfg ti cap) s = []) :
    s.main = .ret ∧ trText ti s.results = modelTR ti := by
  have hm := (fanout_maximal_run hr hstuck).1
  exact ⟨hm, topranking_every_schedule ti cap a hargs hr hm⟩

theorem topranking_runSchedule (ti : TRIn) (cap : Nat) (a : List Nat × List Nat) (hargs : ti.args = some a)
    (sched : List Nat) (hlen : (ti.qs.length + 3) * ti.ts.length + 4 * ti.qs.length + 9 ≤ sched.length) :
    (runSchedule (topRankingCfg ti cap) sched).main = .ret ∧
    trText ti (runSchedule (topRankingCfg ti cap) sched).results = modelTR ti := by
  have hm := (runSchedule_returns (cfg := topRankingCfg ti cap) sched
    (by simpa [topRankingCfg, trTargets] using hlen)).1
  exact ⟨hm, topranking_every_schedule ti cap a hargs (runSchedule_reach _ sched) hm⟩

/-! ## the statements are not vacuous: concrete inputs, two schedules each -/

namespace Examples

/-! ### closest: two queries (ACGT, TTGT), five targets; snp distance.
For q1 the targets t2 (ACNT), t4 and t5 (ACGT) are all at distance 0: t4 wins over t2 by completeness, and is kept
against t5 (a full tie: the incumbent stays). -/

def exCi (mode : String) (k : Nat) (maxd : Option (Nat × Nat)) : ClosestIn :=
  { measure := .snp, mode := mode, k := k, maxd := maxd,
    qs := [("q1", [65, 67, 71, 84]), ("q2", [84, 84, 71, 84])],
    ts := [("t1", [65, 67, 71, 65]), ("t2", [65, 67, 78, 84]), ("t3", [84, 84, 71, 65]), ("t4", [65, 67, 71, 84]),
           ("t5", [65, 67, 71, 84])] }

/-- a schedule: the k-th number picks the enabled step number k modulo the count of enabled steps -/
def fsched1 : List Nat := List.replicate 45 0
/-- another one: the second enabled step where there are two -/
def fsched2 : List Nat := List.replicate 45 1

def plainEx := closestCfg (exCi "plain" 0 none) 1

/-- two schedules, different interleavings and different orders of collection (query 0 first, query 1 first),
the model's text both times -/
example :
    (traceWith (step? plainEx) (allLabels 2) (init plainEx) fsched1).filter (fun l => l == .handRes 0 || l == .handRes 1)
      = [.handRes 0, .handRes 1] ∧
    (traceWith (step? plainEx) (allLabels 2) (init plainEx) fsched2).filter (fun l => l == .handRes 0 || l == .handRes 1)
      = [.handRes 1, .handRes 0] ∧
    (runSchedule plainEx fsched1).main = .ret ∧
    (runSchedule plainEx fsched2).main = .ret ∧
    plainText (exCi "plain" 0 none) (runSchedule plainEx fsched1).results = modelText (exCi "plain" 0 none) ∧
    plainText (exCi "plain" 0 none) (runSchedule plainEx fsched2).results = modelText (exCi "plain" 0 none) ∧
    modelText (exCi "plain" 0 none) = "query,closest,distance,SNPs\nq1,t4,0,\nq2,t3,1,4TA\n" := by
  decide +kernel

/-- and the general theorem says the same about every schedule -/
example (sched : List Nat) (h : (runSchedule plainEx sched).main = .ret) :
    plainText (exCi "plain" 0 none) (runSchedule plainEx sched).results =
      "query,closest,distance,SNPs\nq1,t4,0,\nq2,t3,1,4TA\n" :=
  (closest_every_schedule (exCi "plain" 0 none) 1 rfl (runSchedule_reach _ sched) h).trans (by decide +kernel)

example (sched : List Nat) (h : 42 ≤ sched.length) : (runSchedule plainEx sched).main = .ret :=
  (closest_runSchedule (exCi "plain" 0 none) 1 rfl sched (by simpa [exCi] using h)).1

/-- `closest -n 2 --table` -/
def tableEx := closestNCfg (exCi "table" 2 none) 1
/-- `closest -d 1` in the list form: the catchment of every target within distance 1 -/
def withinEx := closestNCfg (exCi "n" 0 (some (1, 1))) 0

example :
    (runSchedule tableEx fsched1).main = .ret ∧ (runSchedule tableEx fsched2).main = .ret ∧
    catchText (exCi "table" 2 none) (runSchedule tableEx fsched1).results = modelText (exCi "table" 2 none) ∧
    catchText (exCi "table" 2 none) (runSchedule tableEx fsched2).results = modelText (exCi "table" 2 none) ∧
    modelText (exCi "table" 2 none) = "query,target,distance\nq1,t4,0\nq1,t5,0\nq2,t3,1\nq2,t4,2\n" := by
  decide +kernel

example :
    (runSchedule withinEx fsched1).main = .ret ∧ (runSchedule withinEx fsched2).main = .ret ∧
    catchText (exCi "n" 0 (some (1, 1))) (runSchedule withinEx fsched1).results = modelText (exCi "n" 0 (some (1, 1))) ∧
    catchText (exCi "n" 0 (some (1, 1))) (runSchedule withinEx fsched2).results = modelText (exCi "n" 0 (some (1, 1))) ∧
    modelText (exCi "n" 0 (some (1, 1))) = "query,closest\nq1,t4;t5;t2;t1\nq2,t3\n" := by
  decide +kernel

example (sched : List Nat) (h : (runSchedule tableEx sched).main = .ret) :
    catchText (exCi "table" 2 none) (runSchedule tableEx sched).results =
      "query,target,distance\nq1,t4,0\nq1,t5,0\nq2,t3,1\nq2,t4,2\n" :=
  (closestN_every_schedule (exCi "table" 2 none) 1 (by decide) (runSchedule_reach _ sched) h).trans (by decide +kernel)

/-! ### updown topranking: reference ACGTACGT, two queries, seven targets; one neighbour per bin asked for,
the side bin of q2 is filled up by `balance` -/

def exTi (table : Bool) (push : Nat) : TRIn :=
  { ref := [65, 67, 71, 84, 65, 67, 71, 84],
    qs := [("q1", [65, 67, 71, 84, 65, 67, 71, 65]), ("q2", [84, 67, 71, 84, 65, 67, 71, 84])],
    ts := [("t1", [65, 67, 71, 84, 65, 67, 71, 84]), ("t2", [65, 67, 71, 84, 65, 67, 71, 65]),
           ("t3", [65, 67, 71, 84, 65, 67, 84, 65]), ("t4", [84, 67, 71, 84, 65, 67, 71, 65]),
           ("t5", [65, 67, 71, 84, 84, 67, 71, 65]), ("t6", [65, 67, 71, 84, 65, 67, 78, 65]),
           ("t7", [67, 67, 71, 84, 65, 67, 71, 84])],
    table := table, args := some ([1, 1, 1, 1], [bigN, bigN, bigN, bigN]),
    opts := { sizes := [1, 1, 1, 1], dists := [bigN, bigN, bigN, bigN], nofill := false, thrNum := 1, thrDen := 1,
              threshTarg := 10, push := push, ignore := [] } }

def fsched3 : List Nat := List.replicate 60 0
def fsched4 : List Nat := List.replicate 60 1

def trEx := topRankingCfg (exTi false 0) 1
def trPushEx := topRankingCfg (exTi true 1) 0

example :
    (runSchedule trEx fsched3).main = .ret ∧ (runSchedule trEx fsched4).main = .ret ∧
    traceWith (step? trEx) (allLabels 2) (init trEx) fsched3 ≠ traceWith (step? trEx) (allLabels 2) (init trEx) fsched4 ∧
    trText (exTi false 0) (runSchedule trEx fsched3).results = modelTR (exTi false 0) ∧
    trText (exTi false 0) (runSchedule trEx fsched4).results = modelTR (exTi false 0) ∧
    modelTR (exTi false 0) = "query,closestsame,closestup,closestdown,closestside\nq1,t2,t1,t3,t7\nq2,,t1,t4,t7;t2\n" := by
  decide +kernel

set_option maxRecDepth 100000 in
/-- push mode (the nearest distance in every direction, all ties), table form -/
example :
    (runSchedule trPushEx fsched3).main = .ret ∧ (runSchedule trPushEx fsched4).main = .ret ∧
    trText (exTi true 1) (runSchedule trPushEx fsched3).results = modelTR (exTi true 1) ∧
    trText (exTi true 1) (runSchedule trPushEx fsched4).results = modelTR (exTi true 1) := by
  decide +kernel

example (sched : List Nat) (h : (runSchedule trEx sched).main = .ret) :
    trText (exTi false 0) (runSchedule trEx sched).results =
      "query,closestsame,closestup,closestdown,closestside\nq1,t2,t1,t3,t7\nq2,,t1,t4,t7;t2\n" :=
  (topranking_every_schedule (exTi false 0) 1 _ rfl (runSchedule_reach _ sched) h).trans (by decide +kernel)

end Examples

end Gofasta.Lemmas.FanoutCommands
