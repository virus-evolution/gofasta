import Gofasta.Model.Fanout
/-
Runs of a labelled transition system given by an executable step function `stp : S → L → Option S` and a list `all`
of labels: `Fanout.enabledWith` and `Fanout.runWith` are already stated for any such system, and the two other
models' `runWith` are the same function (`sched_runWith` in SchedProofs, `chain_runWith` in SchedChainProofs).
-/
namespace Gofasta.Lemmas.Run
open Gofasta.Model
open Gofasta.Model.Fanout (enabledWith runWith)
variable {S L : Type} {stp : S → L → Option S} {all : List L}

theorem enabledWith_ne_nil {s : S} : enabledWith stp all s ≠ [] ↔ ∃ l ∈ all, (stp s l).isSome = true :=
  ⟨fun h => (List.exists_mem_of_ne_nil _ h).elim fun l hl => ⟨l, List.mem_filter.mp hl⟩,
   fun ⟨_, hl, hs⟩ => List.ne_nil_of_mem (List.mem_filter.mpr ⟨hl, hs⟩)⟩

theorem runWith_cons (s : S) (k : Nat) (ks : List Nat) :
    (enabledWith stp all s = [] ∧ runWith stp all s (k :: ks) = s) ∨
    ∃ l s', stp s l = some s' ∧ runWith stp all s (k :: ks) = runWith stp all s' ks := by
  cases hen : enabledWith stp all s with
  | nil => exact .inl ⟨rfl, by simp only [runWith, hen]; rfl⟩
  | cons l0 t =>
    have hlt : k % (enabledWith stp all s).length < (enabledWith stp all s).length :=
      Nat.mod_lt _ (by rw [hen]; exact Nat.succ_pos _)
    obtain ⟨s', hs'⟩ := Option.isSome_iff_exists.mp (List.mem_filter.mp (List.getElem_mem hlt)).2
    exact .inr ⟨_, s', hs', by simp only [runWith, List.getElem?_eq_getElem hlt, hs']⟩

theorem runWith_preserves {P : S → Prop} (hP : ∀ {s s' : S} (l : L), P s → stp s l = some s' → P s')
    (sched : List Nat) {s : S} (h : P s) : P (runWith stp all s sched) := by
  induction sched generalizing s with
  | nil => exact h
  | cons k ks ih =>
    rcases runWith_cons (stp := stp) (all := all) s k ks with ⟨_, e⟩ | ⟨l, s', hs, e⟩ <;> rw [e]
    · exact h
    · exact ih (hP l h hs)

theorem runWith_stuck {P : S → Prop} {μ : S → Nat} (hP : ∀ {s s' : S} (l : L), P s → stp s l = some s' → P s')
    (hμ : ∀ {s s' : S} (l : L), P s → stp s l = some s' → μ s' < μ s) (sched : List Nat) {s : S} (h : P s)
    (hlen : μ s ≤ sched.length) : enabledWith stp all (runWith stp all s sched) = [] := by
  induction sched generalizing s with
  | nil =>
    refine Decidable.byContradiction fun hne => ?_
    obtain ⟨l, _, hl⟩ := enabledWith_ne_nil.mp hne
    obtain ⟨s', hs'⟩ := Option.isSome_iff_exists.mp hl
    exact absurd (hμ l h hs') (by rw [Nat.le_zero.mp hlen]; exact Nat.not_lt_zero _)
  | cons k ks ih =>
    rcases runWith_cons (stp := stp) (all := all) s k ks with ⟨hstuck, e⟩ | ⟨l, s', hs, e⟩ <;> rw [e]
    · exact hstuck
    · exact ih (hP l h hs) (Nat.le_of_lt_succ (Nat.lt_of_lt_of_le (hμ l h hs) hlen))

end Gofasta.Lemmas.Run
