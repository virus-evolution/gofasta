import Gofasta.Lemmas.SchedProofs
import Gofasta.Lemmas.SchedChainProofs
/-
What a run of either goroutine model (Model/Sched, one worker pool; Model/SchedChain, any number of pools) exposes to an
argument about a command: `Job` is what the pipeline computes apart from its scheduling, `Obs` is what such an argument
looks at in a state (the writer goroutine, what main returned), `Sound J o` is what the invariants of the models say
about it.  Each model proves `Sound` once (`sound`, `chain_sound`); the theorems about the writers (Lemmas/SchedWriters,
SchedFaultWriter, SchedAggWriter) are proved over `Sound`, for both models at once, and the theorems about `Reach` of
either model are their instances.  A writer that makes write calls before its loop sits at `cErr <- err` from the start
when one of them fails: a run from such a start is `HdrSound` - an ordinary run, or `Frozen` (`hdr_sound` in
Lemmas/SchedHdrStart, `chain_hdr_sound` in Lemmas/SchedChainHdrStart).
-/
set_option autoImplicit false

-- `CompleteFor` is needed from here on (`Job.AllArrived`); it has the namespace `SchedFaultsAgg` of Lemmas/SchedAggWriter,
-- whose statements mention it, because full names are referred to from outside the Lean sources
namespace Gofasta.Lemmas.SchedFaultsAgg
variable {α β ε : Type}

/-- the first two conjuncts of `Outcome.Complete` -/
def CompleteFor (items : List α) (F : α → Except ε β) (recs : List (Nat × β)) : Prop :=
  (recs.map Prod.fst).Perm (List.range items.length) ∧ ∀ r ∈ recs, ∃ x, items[r.1]? = some x ∧ F x = .ok r.2

end Gofasta.Lemmas.SchedFaultsAgg

namespace Gofasta.Lemmas.SchedRun
open Gofasta Gofasta.Model
open Gofasta.Model.Sched (absorbAll OPc)
open Gofasta.Lemmas.Outcome (Complete)
open Gofasta.Lemmas.SchedFaultsAgg (CompleteFor)

variable {α β ε σ : Type}

/-- `F`: what the workers make of an item (one pool: `f`; a chain: `pass pools`) -/
structure Job (α β ε σ : Type) where
  items : List α
  F : α → Except ε β
  readFail : Option (Nat × ε)
  absorb : σ → Nat × β → Except ε σ
  finish : σ → Except ε σ
  init : σ
  /-- the proposition "every pool has a worker" (`1 ≤ cfg.N`; `∀ P ∈ cfg.pools, 1 ≤ P.N`): not a proof of it, a
  hypothesis `hN : J.staffed` of the theorems that need it -/
  staffed : Prop

/-- the writer goroutine (program counter, state, what it has received, in order) and what main has returned.
`ret` is a predicate, `fun r => s.main = .ret r` in both models, so that `¬ o.ret none` IS the `s.main ≠ .ret none` of
the statements about a model, by unfolding; nothing here needs that it holds of one value only -/
structure Obs (β ε σ : Type) where
  writer : OPc ε
  wst : σ
  arrival : List (Nat × β)
  ret : Option ε → Prop

/-- holds of what a writer has received when it finds its channel closed and empty -/
def Job.AllArrived (J : Job α β ε σ) (arr : List (Nat × β)) : Prop :=
  J.staffed → J.readFail = none ∧ CompleteFor J.items J.F arr

/-- how a writer came to sit at `cErr <- err`: the loop body failed on the last arrival, or the loop ended and `finish`
failed -/
def AtErr (J : Job α β ε σ) (wst : σ) (arr : List (Nat × β)) (e : ε) : Prop :=
  (∃ l r, arr = l ++ [r] ∧ absorbAll J.absorb J.init l = .ok wst ∧ J.absorb wst r = .error e) ∨
  (J.AllArrived arr ∧ absorbAll J.absorb J.init arr = .ok wst ∧ J.finish wst = .error e)

/-- the two facts of `Sound` that are about the history of the run and not about the state: how a writer came to sit at
`cErr <- err`, and whose error main has returned.  They are proved by an induction over `Reach` of their own
(`reach_hist`) and are not fields of the models' `Inv`: `Inv` has to hold along the runs from `errStart` too
(`inv_errStart` of Lemmas/SchedHdrStart), where the writer sits at `cErr <- err` with nothing arrived and `AtErr` is
false.  Those runs are `Frozen` instead -/
structure Hist (J : Job α β ε σ) (o : Obs β ε σ) : Prop where
  wErr : ∀ e, o.writer = .errS e → AtErr J o.wst o.arrival e
  retErr : ∀ e, o.ret (some e) →
    (∃ k, J.readFail = some (k, e)) ∨ (∃ x ∈ J.items, J.F x = .error e) ∨ o.writer = .errS e

structure Sound (J : Job α β ε σ) (o : Obs β ε σ) : Prop extends Hist J o where
  nodup : (o.arrival.map Prod.fst).Nodup
  good : ∀ r ∈ o.arrival, ∃ x, J.items[r.1]? = some x ∧ J.F x = .ok r.2
  loop : o.writer = .recv → absorbAll J.absorb J.init o.arrival = .ok o.wst
  done : o.writer = .doneS ∨ o.writer = .exited → J.AllArrived o.arrival ∧
    ∃ st, absorbAll J.absorb J.init o.arrival = .ok st ∧ J.finish st = .ok o.wst
  retNil : o.ret none ↔ o.writer = .exited

/-- a pipeline whose writer makes its first write calls before its loop, and one of them failed: the writer sits at
`cErr <- e` from the start and nothing ever arrives -/
structure Frozen (J : Job α β ε σ) (e : ε) (o : Obs β ε σ) : Prop where
  writer : o.writer = .errS e
  wst : o.wst = J.init
  arrival : o.arrival = []
  notNil : ¬ o.ret none
  retErr : ∀ e', o.ret (some e') →
    (∃ k, J.readFail = some (k, e')) ∨ (∃ x ∈ J.items, J.F x = .error e') ∨ e' = e

def HdrSound (J : Job α β ε σ) (e : ε) (failed : Bool) (o : Obs β ε σ) : Prop :=
  (failed = false ∧ Sound J o) ∨ (failed = true ∧ Frozen J e o)

section sound
variable {J : Job α β ε σ} {o : Obs β ε σ}

theorem Hist.init (hw : o.writer = .recv) (hr : ∀ e, ¬ o.ret (some e)) : Hist J o :=
  ⟨fun _ h => (nomatch hw.symm.trans h), fun e h => absurd h (hr e)⟩

/-- a writer whose loop body cannot fail runs `finish` after the last record, on every schedule -/
theorem Sound.finished (h : Sound J o) (hN : J.staffed) (hok : ∀ st r e, J.absorb st r ≠ .error e)
    (hw : o.writer ≠ .recv) : J.readFail = none ∧ CompleteFor J.items J.F o.arrival := by
  cases hwr : o.writer with
  | recv => exact absurd hwr hw
  | doneS => exact (h.done (.inl hwr)).1 hN
  | exited => exact (h.done (.inr hwr)).1 hN
  | errS e =>
    rcases h.wErr e hwr with ⟨_, _, _, _, hab⟩ | ⟨ha, _⟩
    · exact absurd hab (hok _ _ _)
    · exact ha hN

theorem Sound.complete (h : Sound J o) (hN : J.staffed) (hm : o.ret none) :
    Complete J.items J.F J.absorb J.finish J.init o.wst :=
  have hd := h.done (.inr (h.retNil.mp hm))
  ⟨o.arrival, (hd.1 hN).2.1, (hd.1 hN).2.2, hd.2⟩

theorem Obs.returned_error (o : Obs β ε σ) (h : ∃ r, o.ret r) (hn : ¬ o.ret none) : ∃ e, o.ret (some e) := by
  obtain ⟨r, hr⟩ := h
  cases r with
  | none => exact absurd hr hn
  | some e => exact ⟨e, hr⟩

theorem Job.only_writer (J : Job α β ε σ) (hrf : J.readFail = none) (hall : ∀ x ∈ J.items, ∃ y, J.F x = .ok y)
    {e : ε} {P : Prop} (h : (∃ k, J.readFail = some (k, e)) ∨ (∃ x ∈ J.items, J.F x = .error e) ∨ P) : P := by
  rcases h with ⟨k, hk⟩ | ⟨x, hx, hf⟩ | hw
  · rw [hrf] at hk; cases hk
  · obtain ⟨y, hy⟩ := hall x hx
    rw [hy] at hf; cases hf
  · exact hw

theorem Sound.writer_error (h : Sound J o) (hrf : J.readFail = none) (hall : ∀ x ∈ J.items, ∃ y, J.F x = .ok y)
    {e : ε} (hm : o.ret (some e)) : o.writer = .errS e :=
  J.only_writer hrf hall (h.retErr e hm)

theorem Sound.returns_nil (h : Sound J o) (hrf : J.readFail = none) (hall : ∀ x ∈ J.items, ∃ y, J.F x = .ok y)
    (ha : ∀ st r, ∃ st', J.absorb st r = .ok st') (hfin : ∀ st, ∃ st', J.finish st = .ok st')
    (hret : ∃ r, o.ret r) : o.ret none := by
  obtain ⟨r, hm⟩ := hret
  cases r with
  | none => exact hm
  | some e =>
    rcases h.wErr e (h.writer_error hrf hall hm) with ⟨_, r, _, _, hab⟩ | ⟨_, _, hf⟩
    · obtain ⟨st', hy⟩ := ha o.wst r; rw [hy] at hab; cases hab
    · obtain ⟨st', hy⟩ := hfin o.wst; rw [hy] at hf; cases hf

/-! ### a run from a header-first start: the frozen case is disposed of once -/

variable {e : ε} {b : Bool} (h : HdrSound J e b o)
include h

theorem HdrSound.arrivals :
    (o.arrival.map Prod.fst).Nodup ∧ ∀ r ∈ o.arrival, ∃ x, J.items[r.1]? = some x ∧ J.F x = .ok r.2 := by
  rcases h with ⟨_, h⟩ | ⟨_, h⟩
  · exact ⟨h.nodup, h.good⟩
  · rw [h.arrival]
    exact ⟨List.nodup_nil, nofun⟩

theorem HdrSound.not_nil (hs : Sound J o → ¬ o.ret none) : ¬ o.ret none :=
  h.elim (fun h => hs h.2) (fun h => h.2.notNil)

theorem HdrSound.of_nil (hm : o.ret none) : Sound J o :=
  h.elim (fun h => h.2) (fun h => absurd hm h.2.notNil)

theorem HdrSound.returned (hrf : J.readFail = none) (hall : ∀ x ∈ J.items, ∃ y, J.F x = .ok y)
    (hret : ∃ r, o.ret r) (hs : Sound J o → o.ret (some e)) : o.ret (some e) := by
  rcases h with ⟨_, h⟩ | ⟨_, h⟩
  · exact hs h
  · obtain ⟨e', hm⟩ := o.returned_error hret h.notNil
    exact J.only_writer hrf hall (h.retErr e' hm) ▸ hm

end sound

section wmove
variable {absorb : σ → Nat × β → Except ε σ} {finish : σ → Except ε σ} {wst wst' : σ} {D : Prop}
  {w w' : OPc ε} {arr arr' : List (Nat × β)}

/-- what one step does to the writer goroutine of either model; `D`: the channel it ranges over is closed and empty -/
def WMove (absorb : σ → Nat × β → Except ε σ) (finish : σ → Except ε σ) (D : Prop) (w : OPc ε) (wst : σ)
    (arr : List (Nat × β)) (w' : OPc ε) (wst' : σ) (arr' : List (Nat × β)) : Prop :=
  (w' = w ∧ wst' = wst ∧ arr' = arr) ∨
  (w = .recv ∧ ∃ r, arr' = arr ++ [r] ∧
    ((∃ st, absorb wst r = .ok st ∧ wst' = st ∧ w' = .recv) ∨
     (∃ e, absorb wst r = .error e ∧ wst' = wst ∧ w' = .errS e))) ∨
  (w = .recv ∧ D ∧ arr' = arr ∧
    ((∃ st, finish wst = .ok st ∧ wst' = st ∧ w' = .doneS) ∨
     (∃ e, finish wst = .error e ∧ wst' = wst ∧ w' = .errS e))) ∨
  (w = .doneS ∧ w' = .exited ∧ wst' = wst ∧ arr' = arr)

theorem WMove.atErr {J : Job α β ε σ} (h : WMove J.absorb J.finish D w wst arr w' wst' arr')
    (oRecv : w = .recv → absorbAll J.absorb J.init arr = .ok wst) (hD : D → J.AllArrived arr)
    (hh : ∀ e, w = .errS e → AtErr J wst arr e) : ∀ e, w' = .errS e → AtErr J wst' arr' e := by
  intro e he
  rcases h with ⟨h1, h2, h3⟩ | ⟨hw, r, ha, ⟨st, _, _, h⟩ | ⟨e', hab, hst, h⟩⟩ |
    ⟨hw, hd, ha, ⟨st, _, _, h⟩ | ⟨e', hfin, hst, h⟩⟩ | ⟨_, h, _⟩
  · rw [h2, h3]; exact hh e (h1 ▸ he)
  · exact nomatch h.symm.trans he
  · cases h.symm.trans he
    exact .inl ⟨arr, r, ha, hst ▸ oRecv hw, hst ▸ hab⟩
  · exact nomatch h.symm.trans he
  · cases h.symm.trans he
    exact .inr ⟨ha ▸ hD hd, ha ▸ hst ▸ oRecv hw, hst ▸ hfin⟩
  · exact nomatch h.symm.trans he

theorem WMove.frozen (h : WMove absorb finish D w wst arr w' wst' arr') {e : ε} (hw : w = .errS e) :
    w' = .errS e ∧ wst' = wst ∧ arr' = arr := by
  rcases h with ⟨h1, h2, h3⟩ | ⟨h, _⟩ | ⟨h, _⟩ | ⟨h, _⟩
  · exact ⟨h1.trans hw, h2, h3⟩
  all_goals rw [hw] at h; cases h

theorem Frozen.step {J : Job α β ε σ} {o o' : Obs β ε σ} {e : ε} (h : Frozen J e o)
    (hm : WMove J.absorb J.finish D o.writer o.wst o.arrival o'.writer o'.wst o'.arrival)
    (hnil : o'.ret none → o'.writer = .exited)
    (hret : ∀ e', o'.ret (some e') →
      (∃ k, J.readFail = some (k, e')) ∨ (∃ x ∈ J.items, J.F x = .error e') ∨ o'.writer = .errS e') :
    Frozen J e o' := by
  obtain ⟨h1, h2, h3⟩ := hm.frozen h.writer
  exact ⟨h1, h2.trans h.wst, h3.trans h.arrival, fun hn => (nomatch h1.symm.trans (hnil hn)),
    fun e' hn => (hret e' hn).imp id (.imp id fun hw => OPc.errS.inj (hw.symm.trans h1))⟩

end wmove

section onePool
open Gofasta.Model.Sched Gofasta.Lemmas.Sched

abbrev job (cfg : Cfg α β ε σ) : Job α β ε σ :=
  ⟨cfg.items, cfg.f, cfg.readFail, cfg.absorb, cfg.finish, cfg.init, 1 ≤ cfg.N⟩

abbrev obs (s : State α β ε σ) : Obs β ε σ := ⟨s.writer, s.wst, s.arrival, fun r => s.main = .ret r⟩

/-- what one step does to the writer goroutine and to main -/
def Frame (cfg : Cfg α β ε σ) (s s' : State α β ε σ) : Prop :=
  WMove cfg.absorb cfg.finish (s.cOut.closed = true ∧ s.cOut.queue = []) s.writer s.wst s.arrival
    s'.writer s'.wst s'.arrival ∧
  (s'.main = s.main ∨
   (s'.writer = s.writer ∧ (s'.main = .stage2 ∨ s'.main = .stage3 ∨ ∃ e, s'.main = .ret (some e) ∧
      (s.reader = .errS e ∨ (∃ (w i : Nat), s.workers[w]? = some (WPc.errS i e)) ∨ s.writer = .errS e))) ∨
   s'.main = .ret none)

theorem frame_absorb {cfg : Cfg α β ε σ} {s s0 : State α β ε σ} (r : Nat × β) (hw : s.writer = .recv)
    (h0 : s0.writer = s.writer ∧ s0.wst = s.wst ∧ s0.arrival = s.arrival ∧ s0.main = s.main) :
    Frame cfg s (absorbInto cfg s0 r) := by
  obtain ⟨h1, h2, h3, h4⟩ := h0
  unfold absorbInto
  split
  · rename_i st hab
    exact ⟨.inr (.inl ⟨hw, r, by rw [← h3], .inl ⟨st, h2 ▸ hab, rfl, h1.trans hw⟩⟩), .inl h4⟩
  · rename_i e hab
    exact ⟨.inr (.inl ⟨hw, r, by rw [← h3], .inr ⟨e, h2 ▸ hab, h2, rfl⟩⟩), .inl h4⟩

theorem step_frame {cfg : Cfg α β ε σ} {s s' : State α β ε σ} {l : Label} (hs : step? cfg s l = some s') :
    Frame cfg s s' := by
  cases (step?_some hs).2 with
  | writerRecv hw => exact frame_absorb _ hw ⟨rfl, rfl, rfl, rfl⟩
  | handOut _ hw => exact frame_absorb _ hw ⟨rfl, rfl, rfl, rfl⟩
  | finishOk hw hc hq hf => exact ⟨.inr (.inr (.inl ⟨hw, ⟨hc, hq⟩, rfl, .inl ⟨_, hf, rfl, rfl⟩⟩)), .inl rfl⟩
  | finishErr hw hc hq hf => exact ⟨.inr (.inr (.inl ⟨hw, ⟨hc, hq⟩, rfl, .inr ⟨_, hf, rfl, rfl⟩⟩)), .inl rfl⟩
  | writeDone _ hw => exact ⟨.inr (.inr (.inr ⟨hw, rfl, rfl, rfl⟩)), .inr (.inr rfl)⟩
  | errReader hr => exact ⟨.inl ⟨rfl, rfl, rfl⟩, .inr (.inl ⟨rfl, .inr (.inr ⟨_, rfl, .inl hr⟩)⟩)⟩
  | errWorker hw => exact ⟨.inl ⟨rfl, rfl, rfl⟩, .inr (.inl ⟨rfl, .inr (.inr ⟨_, rfl, .inr (.inl ⟨_, _, hw⟩)⟩)⟩)⟩
  | errWriter hw => exact ⟨.inl ⟨rfl, rfl, rfl⟩, .inr (.inl ⟨rfl, .inr (.inr ⟨_, rfl, .inr (.inr hw)⟩)⟩)⟩
  | readDone => exact ⟨.inl ⟨rfl, rfl, rfl⟩, .inr (.inl ⟨rfl, .inl rfl⟩)⟩
  | wgDone => exact ⟨.inl ⟨rfl, rfl, rfl⟩, .inr (.inl ⟨rfl, .inr (.inl rfl)⟩)⟩
  -- the other steps touch neither the writer nor main
  | _ => exact ⟨.inl ⟨rfl, rfl, rfl⟩, .inl rfl⟩

theorem allArrived_of_closed {cfg : Cfg α β ε σ} {s : State α β ε σ} (hi : Inv cfg s)
    (hD : s.cOut.closed = true ∧ s.cOut.queue = []) : (job cfg).AllArrived s.arrival :=
  fun hN => ⟨(drained_of_closed hN hi hD.1 hD.2).1, (drained_of_closed hN hi hD.1 hD.2).2, hi.arrOk⟩

theorem step_retErr {cfg : Cfg α β ε σ} {s s' : State α β ε σ} {l : Label} (hi : Inv cfg s)
    (hs : step? cfg s l = some s') (e : ε) (he : s'.main = .ret (some e)) :
    (∃ k, cfg.readFail = some (k, e)) ∨ (∃ x ∈ cfg.items, cfg.f x = .error e) ∨ s'.writer = .errS e := by
  rcases (step_frame hs).2 with hm | ⟨h1, hm | hm | ⟨e', hm, hsrc⟩⟩ | hm
  · exact absurd (hm ▸ he) (not_ret_of_not_final (step?_some hs).1 _)
  · exact nomatch hm.symm.trans he
  · exact nomatch hm.symm.trans he
  · cases hm.symm.trans he
    rcases hsrc with h | ⟨w, i, h⟩ | h
    · exact .inl (hi.rinv.rErr e h)
    · obtain ⟨x, hx, hf⟩ := hi.wOk _ (List.mem_of_getElem? h)
      exact .inr (.inl ⟨x, List.mem_of_getElem? hx, hf⟩)
    · exact .inr (.inr (h1 ▸ h))
  · exact nomatch hm.symm.trans he

theorem reach_hist {cfg : Cfg α β ε σ} {s : State α β ε σ} (hr : Reach cfg s) : Hist (job cfg) (obs s) := by
  induction hr with
  | init => exact .init rfl nofun
  | step l hr hs ih =>
    have hi := reach_inv hr
    exact ⟨(step_frame hs).1.atErr (J := job cfg) hi.oRecv (allArrived_of_closed hi) ih.wErr, step_retErr hi hs⟩

theorem sound {cfg : Cfg α β ε σ} {s : State α β ε σ} (hr : Reach cfg s) : Sound (job cfg) (obs s) :=
  have hi := reach_inv hr
  { reach_hist hr with
    nodup := arrival_nodup hi
    good := hi.arrOk
    loop := hi.oRecv
    done := fun h => ⟨allArrived_of_closed hi ⟨(hi.oDone h).1, (hi.oDone h).2.1⟩, (hi.oDone h).2.2⟩
    retNil := hi.mOk }

end onePool

section chain
open Gofasta.Model.SchedChain Gofasta.Lemmas.SchedChain
open Gofasta.Model.Sched (RPc WPc TPc Chan)
variable {γ : Type}

abbrev chainJob (cfg : Cfg γ ε σ) : Job γ γ ε σ :=
  ⟨cfg.items, pass cfg.pools, cfg.readFail, cfg.absorb, cfg.finish, cfg.init, ∀ P ∈ cfg.pools, 1 ≤ P.N⟩

abbrev chainObs (s : State γ ε σ) : Obs γ ε σ := ⟨s.writer, s.wst, s.arrival, fun r => s.main = .ret r⟩

def wview (s : State γ ε σ) : OPc ε × σ × List (Nat × γ) × MPc ε := (s.writer, s.wst, s.arrival, s.main)

theorem wview_setW (s : State γ ε σ) (j w : Nat) (p : WPc γ ε) : wview (setW s j w p) = wview s := by
  unfold setW; split <;> rfl

theorem wview_putChan (s : State γ ε σ) (k : Nat) (ch : Chan (Nat × γ)) : wview (putChan s k ch) = wview s := rfl

theorem wview_sndAdvance (cfg : Cfg γ ε σ) (s : State γ ε σ) (a : Snd) : wview (sndAdvance cfg s a) = wview s := by
  cases a with
  | reader => simp only [sndAdvance]; split <;> rfl
  | worker j w => exact wview_setW s j w _

def ChainFrame (cfg : Cfg γ ε σ) (s s' : State γ ε σ) : Prop :=
  WMove cfg.absorb cfg.finish (cAt s.chans cfg.m = true ∧ qAt s.chans cfg.m = []) s.writer s.wst s.arrival
    s'.writer s'.wst s'.arrival ∧
  (s'.main = s.main ∨
   (s'.writer = s.writer ∧ ((∃ j, s'.main = .stage j) ∨ ∃ who e, errOf s who = some e ∧ s'.main = .ret (some e))) ∨
   s'.main = .ret none)

theorem chain_frame_same {cfg : Cfg γ ε σ} {s s' : State γ ε σ} (h : wview s' = wview s) : ChainFrame cfg s s' := by
  simp only [wview, Prod.mk.injEq] at h
  exact ⟨.inl ⟨h.1, h.2.1, h.2.2.1⟩, .inl h.2.2.2⟩

theorem chain_frame_absorb {cfg : Cfg γ ε σ} {s s0 : State γ ε σ} (r : Nat × γ) (hw : s.writer = .recv)
    (h0 : wview s0 = wview s) : ChainFrame cfg s (absorbInto cfg s0 r) := by
  simp only [wview, Prod.mk.injEq] at h0
  obtain ⟨h1, h2, h3, h4⟩ := h0
  unfold absorbInto
  split
  · rename_i st hab
    exact ⟨.inr (.inl ⟨hw, r, by rw [← h3], .inl ⟨st, h2 ▸ hab, rfl, h1.trans hw⟩⟩), .inl h4⟩
  · rename_i e hab
    exact ⟨.inr (.inl ⟨hw, r, by rw [← h3], .inr ⟨e, h2 ▸ hab, h2, rfl⟩⟩), .inl h4⟩

theorem chain_frame_deliver {cfg : Cfg γ ε σ} {s s0 : State γ ε σ} (b : Rcv) (r : Nat × γ) (h0 : wview s0 = wview s)
    (hb : rcvReady cfg s b = true) : ChainFrame cfg s (rcvDeliver cfg s0 b r) := by
  cases b with
  | worker j w =>
    simp only [rcvDeliver]
    split
    · exact chain_frame_same ((wview_setW _ _ _ _).trans h0)
    · exact chain_frame_same h0
  | writer => exact chain_frame_absorb r (rcvReady_writer hb) h0

theorem chain_step_frame {cfg : Cfg γ ε σ} {s s' : State γ ε σ} {l : Label} (hs : step? cfg s l = some s') :
    ChainFrame cfg s s' := by
  cases (step?_some hs).2 with
  | send => exact chain_frame_same ((wview_putChan _ _ _).trans (wview_sndAdvance cfg s _))
  | recv hb => exact chain_frame_deliver _ _ (wview_putChan _ _ _) hb
  | hand _ _ _ hb => exact chain_frame_deliver _ _ (wview_sndAdvance cfg s _) hb
  | @closed b ch hb hk hc hq =>
    cases b with
    | worker j w => exact chain_frame_same (wview_setW _ _ _ _)
    | writer =>
      have hw := rcvReady_writer hb
      have hcq : cAt s.chans cfg.m = true ∧ qAt s.chans cfg.m = [] := ⟨(cAt_of hk).trans hc, (qAt_of hk).trans hq⟩
      simp only [rcvEnd]
      split
      · rename_i st hfin
        exact ⟨.inr (.inr (.inl ⟨hw, hcq, rfl, .inl ⟨st, hfin, rfl, rfl⟩⟩)), .inl rfl⟩
      · rename_i e hfin
        exact ⟨.inr (.inr (.inl ⟨hw, hcq, rfl, .inr ⟨e, hfin, rfl, rfl⟩⟩)), .inl rfl⟩
  | mainErr he => exact ⟨.inl ⟨rfl, rfl, rfl⟩, .inr (.inl ⟨rfl, .inr ⟨_, _, he, rfl⟩⟩)⟩
  | doneWriter _ hw => exact ⟨.inr (.inr (.inr ⟨hw, rfl, rfl, rfl⟩)), .inr (.inr rfl)⟩
  | doneReader | doneWaiter => exact ⟨.inl ⟨rfl, rfl, rfl⟩, .inr (.inl ⟨rfl, .inl ⟨_, rfl⟩⟩)⟩
  | _ => exact chain_frame_same rfl

theorem chain_allArrived_of_closed {cfg : Cfg γ ε σ} {s : State γ ε σ} (hi : Inv cfg s)
    (hD : cAt s.chans cfg.m = true ∧ qAt s.chans cfg.m = []) : (chainJob cfg).AllArrived s.arrival :=
  fun hN => ⟨(drained_of_closed hN hi hD.1 hD.2).1, (drained_of_closed hN hi hD.1 hD.2).2, chain_arrival_good hi⟩

theorem chain_step_retErr {cfg : Cfg γ ε σ} {s s' : State γ ε σ} {l : Label} (hi : Inv cfg s)
    (hs : step? cfg s l = some s') (e : ε) (he : s'.main = .ret (some e)) :
    (∃ k, cfg.readFail = some (k, e)) ∨ (∃ x ∈ cfg.items, pass cfg.pools x = .error e) ∨ s'.writer = .errS e := by
  rcases (chain_step_frame hs).2 with hm | ⟨h1, ⟨j, hm⟩ | ⟨who, e', hwho, hm⟩⟩ | hm
  · exact absurd (hm ▸ he) (not_ret_of_not_final (step?_some hs).1 _)
  · exact nomatch hm.symm.trans he
  · cases hm.symm.trans he
    exact h1 ▸ errOf_source hi hwho
  · exact nomatch hm.symm.trans he

theorem chain_reach_hist {cfg : Cfg γ ε σ} {s : State γ ε σ} (hr : Reach cfg s) :
    Hist (chainJob cfg) (chainObs s) := by
  induction hr with
  | init => exact .init rfl nofun
  | step l hr hs ih =>
    have hi := reach_inv hr
    exact ⟨(chain_step_frame hs).1.atErr (J := chainJob cfg) hi.oRecv (chain_allArrived_of_closed hi) ih.wErr,
      chain_step_retErr hi hs⟩

theorem chain_sound {cfg : Cfg γ ε σ} {s : State γ ε σ} (hr : Reach cfg s) : Sound (chainJob cfg) (chainObs s) :=
  have hi := reach_inv hr
  { chain_reach_hist hr with
    nodup := chain_arrival_nodup hi
    good := chain_arrival_good hi
    loop := hi.oRecv
    done := fun h => ⟨chain_allArrived_of_closed hi (hi.oDone h), hi.oFold h⟩
    retNil := hi.mOk }

end chain

end Gofasta.Lemmas.SchedRun
