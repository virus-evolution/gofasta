import Gofasta.Model.Regions
import Gofasta.Lemmas.GffRowOrder
/-
C14 — GenBank and GFF3 descriptions of the same genes give the same mutations.
Here: the ordered position list (hence the codon structure and every position-derived field of a mutation) built from
a GenBank location equals that built from the GFF3-conformant rows of the same gene, and these are the positions the
model's GFF reader takes. Strand, whole regions, whole annotations and the mutation records are Lemmas/RegionEquiv,
which builds on this file; the amino-acid strings agree when the GenBank /translation is the translation of ORIGIN (an
input assumption; see DESIGN §5, C14).
-/
namespace Gofasta.Props.C14
open Gofasta Model

theorem pos_range (a b : Nat) : locPositions .range [(a, b)] = rangeUp a b := by simp [locPositions]

theorem pos_join (segs : List (Nat × Nat)) : locPositions .join segs = segs.flatMap fun s => rangeUp s.1 s.2 := rfl

theorem pos_comp (a b : Nat) : locPositions .comp [(a, b)] = (rangeUp a b).reverse := by simp [locPositions]

/-- complement(join(s₁,…,sₙ)) (segments written ascending) = the reverse of the forward positions -/
theorem pos_compJoin (segs : List (Nat × Nat)) :
    locPositions .compJoin segs = (locPositions .join segs).reverse := rfl

/-- join(complement(sₙ),…,complement(s₁)) (segments written in coding order) lists the same positions as
complement(join(s₁,…,sₙ)) -/
theorem pos_joinComp_eq_compJoin (segs : List (Nat × Nat)) :
    locPositions .joinComp segs.reverse = locPositions .compJoin segs :=
  (List.reverse_flatMap (f := fun (s : Nat × Nat) => rangeUp s.1 s.2)).symm

theorem rangeUp_length (a b : Nat) : (rangeUp a b).length = b + 1 - a := List.length_range'

theorem drop_rangeUp (a b k : Nat) : (rangeUp a b).drop k = rangeUp (a + k) b := by
  unfold rangeUp
  rw [List.drop_range']
  congr 1 <;> omega

theorem mem_rangeUp (a b x : Nat) (h : x ∈ rangeUp a b) : a ≤ x ∧ x ≤ b := by
  unfold rangeUp at h
  rw [List.mem_range'_1] at h
  omega

/-- complement(a..b) read from its k-th base on: the GFF row (a, b, '-', phase k) -/
theorem positions_equiv_reverse_single (a b k : Nat) (hk : k ≤ b) :
    (rangeUp a (b - k)).reverse = ((rangeUp a b).reverse).drop k := by
  unfold rangeUp
  rw [List.drop_reverse, List.length_range', List.take_range'_of_length_ge (by omega)]
  congr 2
  omega

/-! ### the positions the GFF reader takes from rows listed by ascending start -/

def fwdPositionsGff (rows : List GffRow) : List Nat :=
  (rows.zip (List.range rows.length)).flatMap fun (r, j) => rangeUp (if j = 0 then r.start + r.phase else r.start) r.stop

def revPositionsGff (rows : List GffRow) : List Nat :=
  ((rows.zip (List.range rows.length)).reverse).flatMap fun (r, j) =>
    (rangeUp r.start (if j = rows.length - 1 then r.stop - r.phase else r.stop)).reverse

/-- forward strand: only the first row (the 5'-most) is shortened by its phase -/
theorem fwdPositionsGff_cons (r0 : GffRow) (rest : List GffRow) :
    fwdPositionsGff (r0 :: rest) =
      rangeUp (r0.start + r0.phase) r0.stop ++ rest.flatMap fun r => rangeUp r.start r.stop := by
  unfold fwdPositionsGff
  rw [List.length_cons, List.range_eq_range', List.range'_succ, List.zip_cons_cons, List.flatMap_cons]
  congr 1
  exact Lemmas.flatMap_zip_range' (fun r j => rangeUp (if j = 0 then r.start + r.phase else r.start) r.stop) _ rest 1
    fun r j hj _ => by rw [if_neg (by omega)]

/-- reverse strand: only the last row (the 5'-most) is shortened by its phase, and everything is read backwards -/
theorem revPositionsGff_concat (init : List GffRow) (last : GffRow) :
    revPositionsGff (init ++ [last]) =
      (rangeUp last.start (last.stop - last.phase)).reverse ++ (init.flatMap fun r => rangeUp r.start r.stop).reverse := by
  unfold revPositionsGff
  rw [List.length_append, List.length_singleton, List.range_succ, List.zip_append (List.length_range.symm),
    List.reverse_append, List.flatMap_append, Nat.add_sub_cancel]
  congr 1
  · simp
  · refine (List.reverse_flatMap (f := fun (x : GffRow × Nat) =>
        rangeUp x.1.start (if x.2 = init.length then x.1.stop - x.1.phase else x.1.stop))).symm.trans ?_
    rw [List.range_eq_range']
    congr 1
    exact Lemmas.flatMap_zip_range' (fun r j => rangeUp r.start (if j = init.length then r.stop - r.phase else r.stop)) _ init 0
      fun r j _ hj => by rw [if_neg (by omega)]

/-- plus-strand rows in ascending order read as join(..) of their locations with /codon_start = phase of the first + 1 -/
theorem fwdPositionsGff_eq_drop (r0 : GffRow) (rest : List GffRow) (hk : r0.phase ≤ r0.stop + 1 - r0.start) :
    fwdPositionsGff (r0 :: rest) =
      (locPositions .join ((r0 :: rest).map fun r => (r.start, r.stop))).drop r0.phase := by
  rw [fwdPositionsGff_cons, pos_join, List.map_cons, List.flatMap_cons,
    List.drop_append_of_le_length (by rw [rangeUp_length]; exact hk), drop_rangeUp, List.flatMap_map]

/-- minus-strand rows in ascending order read as complement(join(..)) with /codon_start = phase of the last + 1 -/
theorem revPositionsGff_eq_drop (init : List GffRow) (last : GffRow) (hk : last.phase ≤ last.stop + 1 - last.start)
    (hk2 : last.phase ≤ last.stop) :
    revPositionsGff (init ++ [last]) =
      (locPositions .compJoin ((init ++ [last]).map fun r => (r.start, r.stop))).drop last.phase := by
  rw [revPositionsGff_concat, pos_compJoin, pos_join, List.map_append, List.flatMap_append, List.reverse_append,
    List.map_singleton, List.flatMap_singleton,
    List.drop_append_of_le_length (by rw [List.length_reverse, rangeUp_length]; exact hk),
    List.flatMap_map]
  exact congrArg (· ++ _) (positions_equiv_reverse_single last.start last.stop last.phase hk2)

/-! ### forward strand: a gene with segments s₀ … sₙ (ascending), first codon starting k bases in -/

def contRow (name : String) (x : (Nat × Nat) × Nat) : GffRow :=
  { type := "CDS", start := x.1.1, stop := x.1.2, strand := "+", phase := x.2, id := some ("cds-" ++ name), name := some name }

/-- the GFF3 rows of a forward gene: ascending, the first row's phase is k, continuation rows carry
their own (conformant, possibly non-zero) phases -/
def fwdRows (name : String) (k : Nat) (s0 : Nat × Nat) (rest : List ((Nat × Nat) × Nat)) : List GffRow :=
  contRow name (s0, k) :: rest.map (contRow name)

/-- **C14** (forward) — for a forward gene whose first codon starts k bases into the first
segment, whatever phases the continuation rows carry, the positions taken from the GFF rows equal the
positions taken from the GenBank location with /codon_start = k+1 -/
theorem positions_equiv_forward (name : String) (k : Nat) (s0 : Nat × Nat) (rest : List ((Nat × Nat) × Nat))
    (hk : k ≤ s0.2 + 1 - s0.1) :
    fwdPositionsGff (fwdRows name k s0 rest) =
      (locPositions .join (s0 :: rest.map (·.1))).drop k := by
  rw [fwdRows, fwdPositionsGff_eq_drop _ _ hk, List.map_cons, List.map_map]
  rfl

/-! ### reverse strand, any number of segments -/

def revRow (name : String) (x : (Nat × Nat) × Nat) : GffRow :=
  { type := "CDS", start := x.1.1, stop := x.1.2, strand := "-", phase := x.2, id := some ("cds-" ++ name), name := some name }

/-- the GFF3 rows of a reverse gene in ascending genomic order: the last row is the 5'-most, its phase is k; the
other rows carry their own (conformant, possibly non-zero) phases -/
def revRows (name : String) (k : Nat) (init : List ((Nat × Nat) × Nat)) (last : Nat × Nat) : List GffRow :=
  init.map (revRow name) ++ [revRow name (last, k)]

/-- **C14** (reverse) — for a reverse gene of any number of segments whose first codon starts k bases
in from the 3' end of the last segment (its 5'-most end on the reverse strand), whatever phases the other rows carry,
the positions taken from the GFF rows equal those of complement(join(...)) with /codon_start = k+1 -/
theorem positions_equiv_reverse (name : String) (k : Nat) (init : List ((Nat × Nat) × Nat)) (last : Nat × Nat)
    (hk : k ≤ last.2 + 1 - last.1) (hk2 : k ≤ last.2) :
    revPositionsGff (revRows name k init last) =
      (locPositions .compJoin (init.map (·.1) ++ [last])).drop k := by
  rw [revRows, revPositionsGff_eq_drop _ _ hk hk2, List.map_append, List.map_map]
  rfl

/-- non-vacuity: complement(join(3..6,10..14)) with /codon_start=2: rows (3,6,'-',phase 1) and (10,14,'-',phase 1) -/
example : revPositionsGff (revRows "g" 1 [((3, 6), 1)] (10, 14)) = [13, 12, 11, 10, 6, 5, 4, 3] ∧
    (locPositions .compJoin [(3, 6), (10, 14)]).drop 1 = [13, 12, 11, 10, 6, 5, 4, 3] := by decide +kernel

/-- non-vacuity: the conformant rows of join(3..6,10..14) carry phases 0 and 2; both descriptions give
the positions 3,4,5,6,10,…,14 (finding F-C14: a reader that demands phase 0 on continuation rows rejects this GFF form) -/
example : fwdPositionsGff (fwdRows "g" 0 (3, 6) [((10, 14), 2)]) = [3, 4, 5, 6, 10, 11, 12, 13, 14] ∧
    (locPositions .join [(3, 6), (10, 14)]).drop 0 = [3, 4, 5, 6, 10, 11, 12, 13, 14] := by decide +kernel

/-! ### what the reader makes of rows in ascending order -/

open Gofasta.Lemmas.GffRowOrder (regionOfSorted)

theorem regionOfSorted_plus (name : String) (r0 : GffRow) (t : List GffRow) (ref : List Nat) (h0 : r0.strand = "+") :
    regionOfSorted name (r0 :: t) ref =
      if (r0 :: t).any (fun r => r.strand != "+") then none else
      (translateGo true (refBasesAt ref (fwdPositionsGff (r0 :: t)))).map fun tr => ⟨name, 1, fwdPositionsGff (r0 :: t), tr⟩ := by
  unfold regionOfSorted fwdPositionsGff
  simp only [h0]
  split
  · rfl
  · split <;> rename_i heq <;> rw [heq] <;> rfl

theorem regionOfSorted_minus (name : String) (r0 : GffRow) (t : List GffRow) (ref : List Nat) (h0 : r0.strand = "-") :
    regionOfSorted name (r0 :: t) ref =
      if (r0 :: t).any (fun r => r.strand != "-") then none else
      (translateGo true (complement (refBasesAt ref (revPositionsGff (r0 :: t))))).map fun tr =>
        ⟨name, -1, revPositionsGff (r0 :: t), tr⟩ := by
  unfold regionOfSorted revPositionsGff
  simp only [h0]
  split
  · rfl
  · split <;> rename_i heq <;> rw [heq] <;> rfl

theorem regionOfSorted_other (name : String) (r0 : GffRow) (t : List GffRow) (ref : List Nat) (hp : r0.strand ≠ "+")
    (hm : r0.strand ≠ "-") : regionOfSorted name (r0 :: t) ref = none := by
  unfold regionOfSorted
  dsimp only
  split
  · contradiction
  · contradiction
  · rfl

/-- the positions studied above are the ones the model's GFF reader gives a feature, once its rows are put in
ascending order (the reader orders the rows by genomic start first, finding F-C14b) -/
theorem regionFromGFF_positions (rows : List GffRow) (ref : List Nat) (reg : Region) (h : regionFromGFF rows ref = some reg) :
    (reg.strand = 1 ∧ reg.positions = fwdPositionsGff (sortRows rows)) ∨
      (reg.strand = -1 ∧ reg.positions = revPositionsGff (sortRows rows)) := by
  rw [Gofasta.Lemmas.GffRowOrder.regionFromGFF_eq] at h
  obtain ⟨n, _, h⟩ := Option.bind_eq_some_iff.1 h
  match hs : sortRows rows, h with
  | [], h => cases h
  | r0 :: t, h =>
    by_cases hp : r0.strand = "+"
    · rw [regionOfSorted_plus _ r0 t ref hp] at h
      split at h
      · cases h
      · obtain ⟨tr, _, rfl⟩ := Option.map_eq_some_iff.1 h
        exact Or.inl ⟨rfl, rfl⟩
    · by_cases hm : r0.strand = "-"
      · rw [regionOfSorted_minus _ r0 t ref hm] at h
        split at h
        · cases h
        · obtain ⟨tr, _, rfl⟩ := Option.map_eq_some_iff.1 h
          exact Or.inr ⟨rfl, rfl⟩
      · rw [regionOfSorted_other _ r0 t ref hp hm] at h
        cases h

theorem regionFromGFF_positions_of_sorted (rows : List GffRow) (ref : List Nat) (reg : Region)
    (hs : Gofasta.Lemmas.GffRowOrder.Ascending rows) (h : regionFromGFF rows ref = some reg) :
    (reg.strand = 1 ∧ reg.positions = fwdPositionsGff rows) ∨ (reg.strand = -1 ∧ reg.positions = revPositionsGff rows) := by
  have := regionFromGFF_positions rows ref reg h
  rwa [Gofasta.Lemmas.GffRowOrder.sortRows_of_sorted rows hs] at this

theorem regionFromGFF_plus (rows : List GffRow) (r0 : GffRow) (ref : List Nat) (hr0 : rows.head? = some r0) (hs : Gofasta.Lemmas.GffRowOrder.Ascending rows)
    (ht : ∀ r ∈ rows, r.strand = "+") :
    regionFromGFF rows ref =
      (translateGo true (refBasesAt ref (fwdPositionsGff rows))).map (fun tr => ⟨r0.name.getD "", 1, fwdPositionsGff rows, tr⟩) := by
  rw [Gofasta.Lemmas.GffRowOrder.regionFromGFF_eq, Gofasta.Lemmas.GffRowOrder.sortRows_of_sorted _ hs, hr0]
  match rows, hr0 with
  | _ :: t, rfl =>
    exact (regionOfSorted_plus _ r0 t ref (ht r0 List.mem_cons_self)).trans
      (if_neg (by rw [Bool.not_eq_true, List.any_eq_false]; intro r hr; simp [ht r hr]))

theorem regionFromGFF_minus (rows : List GffRow) (r0 : GffRow) (ref : List Nat) (hr0 : rows.head? = some r0) (hs : Gofasta.Lemmas.GffRowOrder.Ascending rows)
    (ht : ∀ r ∈ rows, r.strand = "-") :
    regionFromGFF rows ref =
      (translateGo true (complement (refBasesAt ref (revPositionsGff rows)))).map
        (fun tr => ⟨r0.name.getD "", -1, revPositionsGff rows, tr⟩) := by
  rw [Gofasta.Lemmas.GffRowOrder.regionFromGFF_eq, Gofasta.Lemmas.GffRowOrder.sortRows_of_sorted _ hs, hr0]
  match rows, hr0 with
  | _ :: t, rfl =>
    exact (regionOfSorted_minus _ r0 t ref (ht r0 List.mem_cons_self)).trans
      (if_neg (by rw [Bool.not_eq_true, List.any_eq_false]; intro r hr; simp [ht r hr]))

end Gofasta.Props.C14
