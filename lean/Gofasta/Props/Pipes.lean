import Gofasta.Gen.Facts
/-
The concurrent drivers of pkg/ (the functions that make channels, launch goroutines and wait in staged `select` loops)
all follow one pattern: a producer, zero or more worker pools each with a wait group and a waiter goroutine, a consumer,
and a driver that in stage i waits for `done_i` OR the error channel, closes the data channel(s) the next link ranges
over, and finally returns nil. `Gen.pipes` is regenerated from the source on every run (go/ast, harness `pipes.go`);
`chain` below decides whether a driver has that shape and with how many pools, as far as `Gen.pipes` shows it: of a launch
only the channel arguments are recorded, so "ranges over" is decided as "is handed" (a stage has to close at least one
channel that the next link is handed, and no channel is closed twice). `drivers_conform` fixes the result for
every driver, so that a change of shape - a `select` that loses its error arm, a stage that closes only channels the next
link is not handed, or none, two stages swapped, a waiter signalling another channel, a writer launched without the error channel, a buffered
signalling channel - breaks an obligation. The every-schedule theorems about that shape are in Lemmas/SchedProofs (one
pool), Lemmas/SchedChainProofs (any number of pools) and Lemmas/FanoutProofs (the fan-out stages below).
-/
namespace Gofasta.Props.Pipes
open Gofasta.Gen

/-- kind (go | worker | waiter | other), launched in a loop, callee, wait group, channel arguments -/
abbrev Launch := String × Bool × String × String × List String
/-- channel received from, returns the received error, channels closed, counts down, returns at all -/
abbrev Arm := String × Bool × List String × Bool × Bool
/-- an entry of `Gen.pipes`: function, channels made (name, "0" unbuffered | "n" buffered), launches, select stages in source
order (the arms of each), last statement -/
abbrev Pipe := String × List (String × String) × List Launch × List (List Arm) × String

def Arm.ch (a : Arm) := a.1
def isErrArm (e : String) (a : Arm) : Bool := a.1 == e && a.2.1 && a.2.2.1.isEmpty && !a.2.2.2.1 && a.2.2.2.2
def isDoneArm (a : Arm) : Bool := !a.2.1 && a.2.2.2.1 && !a.2.2.2.2
/-- a rendezvous before the pipeline proper (the SAM header, the reference taken from standard input): the error arm
and an arm that only receives -/
def isHandshake (e : String) (st : List Arm) : Bool :=
  st.length == 2 && st.any (isErrArm e) && st.any fun a => a.1 != e && !a.2.1 && a.2.2.1.isEmpty && !a.2.2.2.1 && !a.2.2.2.2

/-- the error channel: the first channel made for which every stage has an arm that returns what it receives -/
def errChan (p : Pipe) : Option String :=
  (p.2.1.map (·.1)).find? fun c => p.2.2.2.1.all fun st => st.any (isErrArm c)

/-- a proper stage: exactly the error arm and one done arm; gives (done channel, channels closed) -/
def stageOf (e : String) (st : List Arm) : Option (String × List String) :=
  match st.filter (fun a => !isErrArm e a) with
  | [a] => if st.length == 2 && st.any (isErrArm e) && isDoneArm a then some (a.1, a.2.2.1) else none
  | _ => none

def unbuffered (p : Pipe) (c : String) : Bool := p.2.1.contains (c, "0")

/-- pools between consecutive stages: for stage i (closing `ci`) and stage i+1 (done `dn`, closing `cn`) there is a worker
launch that is handed one of the channels closed by stage i, every channel closed by stage i+1 and the error channel, and
whose wait group is the one the waiter signalling `dn` waits for -/
def poolBetween (p : Pipe) (e : String) (ci : List String) (dn : String) (cn : List String) : Bool :=
  !cn.isEmpty && p.2.2.1.any fun l =>
    l.1 == "worker" && l.2.2.2.2.contains e && ci.any (l.2.2.2.2.contains ·) && cn.all (l.2.2.2.2.contains ·) &&
    p.2.2.1.any fun w => w.1 == "waiter" && w.2.2.2.1 == l.2.2.2.1 && w.2.2.2.2 == [dn]

/-- not asked of the last pair: between the last two stages stands the consumer (`consumerOk` in `chain`), not a pool -/
def poolsOk (p : Pipe) (e : String) : List (String × List String) → Bool
  | (_, ci) :: (dn, cn) :: rest =>
      (rest.isEmpty || poolBetween p e ci dn cn) && poolsOk p e ((dn, cn) :: rest)
  | _ => true

/-- `some k`: the driver is a chain with k worker pools -/
def chain (p : Pipe) : Option Nat :=
  match errChan p with
  | none => none
  | some e =>
    let stages := p.2.2.2.1.dropWhile (isHandshake e)
    match stages.mapM (stageOf e) with
    | none => none
    | some sts =>
      match sts.head?, sts.getLast? with
      | some (d1, c1), some (dk, ck) =>
        let goes := p.2.2.1.filter fun l => l.1 == "go"
        let producer := goes.any fun l => !l.2.1 && l.2.2.2.2.contains d1 && l.2.2.2.2.contains e && c1.all (l.2.2.2.2.contains ·)
        let consumers := goes.filter fun l => l.2.2.2.2.contains dk
        let feeds := (sts.dropLast.getLast?.map (·.2)).getD []
        let consumerOk := !consumers.isEmpty && consumers.all fun l =>
          l.2.2.2.2.contains e && feeds.any (l.2.2.2.2.contains ·)
        let closed := sts.flatMap (·.2)
        if sts.length ≥ 2 && unbuffered p e && sts.all (fun s => unbuffered p s.1) && (sts.map (·.1)).Nodup && closed.Nodup
            && !c1.isEmpty && ck.isEmpty && producer && consumerOk && poolsOk p e sts && p.2.2.2.2 == "return nil"
        then some (sts.length - 2) else none
      | _, _ => none

/-- every concurrent driver of pkg/, and its shape: the three `sam` conversions, `snps`, `variants`, `updown list` are
chains with one or two worker pools, `closest` and `updown topranking` hand the records to one splitting goroutine; the
four remaining functions (the consensus helper, `sam indels` with its two collecting goroutines, and the two inner readers
of `updown topranking` that forward errors to their caller's channel) are not chains and are covered by the
correspondence streams only -/
def expected : List (String × Option Nat) := [
  ("closest.Closest", some 0), ("closest.ClosestN", some 0), ("fastaio.Consensus", none), ("sam.Indels", none),
  ("sam.ToMultiAlign", some 1), ("sam.ToPairAlign", some 2), ("sam.Variants", some 2), ("snps.SNPs", some 1),
  ("updown.fastaToUDLList", none), ("updown.readFastaToUDLChan", none), ("updown.List", some 1),
  ("updown.TopRanking", some 0), ("variants.Variants", some 1)]

theorem drivers_conform : (pipes.map fun p => (p.1, chain p)) = expected := by decide +kernel

/-- `updown.readFastaToUDLChan`, an inner reader of `updown topranking`, has in every stage an arm that receives from its
internal error channel and returns (`updown.fastaToUDLList`, the other inner reader, is not examined here); `drivers_conform`
has the function in `pipes`, so the filter is not empty -/
theorem inner_error_arms :
    (pipes.filter fun p => p.1 == "updown.readFastaToUDLChan").all
      (fun p => p.2.2.2.1.all fun st => st.any fun a => a.1 == "cInternalErr" && a.2.2.2.2) = true := by decide +kernel

/-! the check is not vacuous: the shape of `snps.SNPs` is accepted (first example), each edit of it below is refused -/
def snpsLike (stage2 : List Arm) (writerChans : List String) (cap : String) : Pipe :=
  ("snps.SNPs",
    [("cErr", cap), ("cFR", "0"), ("cFRDone", "0"), ("cSNPs", "n"), ("cSNPsDone", "0"), ("cWriteDone", "0")],
    [("go", false, "fastaio.ReadEncodeAlignment", "", ["cFR", "cErr", "cFRDone"]),
     ("go", false, "writeOutput", "", writerChans),
     ("worker", true, "getSNPs", "wgSNPs", ["cFR", "cSNPs", "cErr"]),
     ("waiter", false, "", "wgSNPs", ["cSNPsDone"])],
    [[("cErr", true, [], false, true), ("cFRDone", false, ["cFR"], true, false)],
     stage2,
     [("cErr", true, [], false, true), ("cWriteDone", false, [], true, false)]],
    "return nil")
example : chain (snpsLike [("cErr", true, [], false, true), ("cSNPsDone", false, ["cSNPs"], true, false)] ["cSNPs", "cErr", "cWriteDone"] "0") = some 1 := by decide +kernel
/-- the stage-2 select without its error arm -/
example : chain (snpsLike [("cSNPsDone", false, ["cSNPs"], true, false)] ["cSNPs", "cErr", "cWriteDone"] "0") = none := by decide +kernel
/-- stage 2 closes the wrong channel -/
example : chain (snpsLike [("cErr", true, [], false, true), ("cSNPsDone", false, ["cFR"], true, false)] ["cSNPs", "cErr", "cWriteDone"] "0") = none := by decide +kernel
/-- stage 2 forgets to close -/
example : chain (snpsLike [("cErr", true, [], false, true), ("cSNPsDone", false, [], true, false)] ["cSNPs", "cErr", "cWriteDone"] "0") = none := by decide +kernel
/-- the writer launched without the error channel -/
example : chain (snpsLike [("cErr", true, [], false, true), ("cSNPsDone", false, ["cSNPs"], true, false)] ["cSNPs", "cWriteDone"] "0") = none := by decide +kernel
/-- a buffered error channel (a sender would no longer wait for the driver) -/
example : chain (snpsLike [("cErr", true, [], false, true), ("cSNPsDone", false, ["cSNPs"], true, false)] ["cSNPs", "cErr", "cWriteDone"] "n") = none := by decide +kernel

/-! ### the fan-out stages (closest, closest -n, updown topranking)

`Gen.fanouts`: each `splitInput*` ranges over its input channel itself - once, outside any goroutine literal: a single
forwarder, so every query receives the targets in file order (`Lemmas/FanoutProofs.fanout_result`; two forwarders give
schedule-dependent results, `stepTwoForwarders_schedule_dependent`) -, launches its per-query goroutines by plain
`go f(...)` in a loop, and makes the per-query channels unbuffered. -/
/-- function, channels ranged over outside goroutine literals, number of goroutine literals, plain `go` launches (callee,
in a loop), per-query channels made ("0" unbuffered | "n" buffered) -/
def expectedFanouts : List (String × List String × Nat × List (String × Bool) × List String) := [
  ("closest.splitInput", ["cIn"], 0, [("findClosest", true)], ["0"]),
  ("closest.splitInputN", ["cIn"], 0, [("findClosestN", true)], ["0"]),
  ("updown.splitInput", ["cIn"], 0, [("findUpDownCatchmentPushDistance", true), ("findUpDownCatchment", true)], ["0"])]

theorem fanouts_conform : (fanouts == expectedFanouts) = true := by decide +kernel

/-! ### every pool has at least one worker

The every-schedule theorems assume at least one worker per pool, and the assumption is needed
(`Lemmas/SchedProofs.zero_workers_lose_record`: the driver returns nil with a record still in a channel;
`zero_workers_deadlock`). `Gen.poolSizes`: every wait group of pkg/ is sized by `runtime.NumCPU()`, by the constant 1, or
by a `threads` parameter that the function first makes usable (`if threads < 1 { threads = ... }`, gofasta commit 250355f;
without that guard `--threads 0` prints an empty result with exit status 0 for `variants` and hangs the three `sam`
commands). -/
def poolSized (e : String × List String × Bool) : Bool :=
  e.2.1.all fun a => a == "runtime.NumCPU()" || a == "1" || (a == "threads" && e.2.2)

-- about the entries `Gen.poolSizes` has; that every pooled driver of `expected` has one is not stated
theorem pools_have_workers : poolSizes.all poolSized = true := by decide +kernel

/-- not vacuous: a pool sized by an unchecked parameter is refused -/
example : poolSized ("sam.ToMultiAlign", ["threads"], false) = false := by decide +kernel

end Gofasta.Props.Pipes
