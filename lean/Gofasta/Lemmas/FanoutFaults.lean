import Gofasta.Lemmas.Sink
import Gofasta.Lemmas.FanoutCommands
/-
C19 ("a failed output write is never reported as success") for the FAN-OUT commands `closest` and
`updown topranking` (Model/Fanout: reader, splitter, one goroutine per query, main collecting into the results array).

In the Go code the output is written AFTER the fan-in: main walks the results array and makes one write call for the
header and one per output line (writeClosest, writeClosestN, writeClosestNTable, writeUpdownTable), every call checked,
the first error returned.  writeUpDownCatchment, the list form of `updown topranking`, makes FIVE calls per line (the
query name, then each of the four bins: topranking.go:663-701).

Modelling decisions
  * the write stage is a `Stage`: the strings of its write calls as a function of the results array.  The destination
    `Dest` and the `Sink` with its CHECKED call `Sink.put` are those of Lemmas/Sink.
  * every stage makes one call per output line, `trStage` in the list form too.  There the numbering of the calls, W
    (`topranking_W_list`: 1 + nQ, where the code makes 1 + 5 nQ) and the call boundaries at which the accepted text
    is cut are the model's: the code can stop inside a line, the model only between lines.
  * outcome form (`writeOut`, `cmdResult`, `finalSink`): the stage as a function of a state of the fan-out model.
    The theorems quantify over every `Reach cfg s` (every schedule, every intermediate state) exactly as
    `fanout_result_eq` does; `expResults cfg` is the schedule-independent results array of that theorem.
  * small-step form (`WStep`, `WReach`): the fan-out model EXTENDED (not edited) by a program counter of the write
    stage, the sink and main's return value, one write call per step.  Here "nothing is written before the fan-in has
    completed" is a theorem about intermediate states.

(1), (2), (3) on the generic theorems of both forms are the three statements of Lemmas/Sink for a run of W checked
calls: a fault at one of them is reported; success means all of the text, in W calls none of which failed; the accepted
text is the call sequence cut at a call boundary.  The theorems of the commands are these at the command's stage, with its W and text.
-/
set_option autoImplicit false

namespace Gofasta.Lemmas.FanoutFaults
open Gofasta Gofasta.Model Gofasta.Driver
open Gofasta.Model.Fanout Gofasta.Lemmas.Fanout
open Gofasta.Lemmas.SchedFaults (Dest Sink sinkInv_all sink_fails sink_text_take)
open Gofasta.Lemmas.FanoutCommands

variable {τ ρ : Type}

/-! ## the write stage after the fan-in -/

/-- the output stage of a fan-out command: main walks the results array after the collection loop -/
structure Stage (ρ : Type) where
  header : String                                      -- the string of the first write call
  rows : List (Option (Option ρ)) → List String        -- the strings of the following calls, one per row

/-- the write calls of the fault-free run, in order -/
def Stage.calls (st : Stage ρ) (res : List (Option (Option ρ))) : List String := st.header :: st.rows res

/-- what a destination that never fails holds afterwards -/
def Stage.text (st : Stage ρ) (res : List (Option (Option ρ))) : String := String.join (st.calls res)

/-- W: the number of write calls of the fault-free run -/
def Stage.W (st : Stage ρ) (res : List (Option (Option ρ))) : Nat := 1 + (st.rows res).length

theorem Stage.calls_length (st : Stage ρ) (res : List (Option (Option ρ))) : (st.calls res).length = st.W res :=
  Nat.add_comm _ 1

theorem Stage.text_eq (st : Stage ρ) (res : List (Option (Option ρ))) :
    st.text res = st.header ++ String.join (st.rows res) := by
  simp [Stage.text, Stage.calls, String.join_cons]

/-- the sink after the stage ran on a results array: every call checked, no call after a failed one -/
def writeOut (d : Dest) (st : Stage ρ) (res : List (Option (Option ρ))) : Sink :=
  Sink.putAll d Sink.empty (st.calls res)

/-- what the command has returned -/
inductive Res where
  | running      -- main of the fan-out has not finished the collection
  | error        -- a write call failed, its error was returned
  | success      -- `return nil`
  deriving DecidableEq, Repr

def cmdResult (d : Dest) (st : Stage ρ) (s : State τ ρ) : Res :=
  if s.main = .ret then (if (writeOut d st s.results).failed then .error else .success) else .running

/-- what the destination holds in a state of the fan-out model: nothing before main has collected every result -/
def finalSink (d : Dest) (st : Stage ρ) (s : State τ ρ) : Sink :=
  if s.main = .ret then writeOut d st s.results else Sink.empty

theorem cmdResult_ret {d : Dest} {st : Stage ρ} {cfg : Cfg τ ρ} {s : State τ ρ} (hr : Reach cfg s) (hm : s.main = .ret) :
    cmdResult d st s = (if (writeOut d st (expResults cfg)).failed then .error else .success) := by
  rw [cmdResult, if_pos hm, results_every_schedule hr hm]

theorem finalSink_ret {d : Dest} {st : Stage ρ} {cfg : Cfg τ ρ} {s : State τ ρ} (hr : Reach cfg s) (hm : s.main = .ret) :
    finalSink d st s = writeOut d st (expResults cfg) := by
  rw [finalSink, if_pos hm, results_every_schedule hr hm]

/-! ## outcome form: a fault at one of the W calls is reported -/

/-- **(1), general form**: the destination fails some call k, 1 ≤ k ≤ W: in no reachable state of any schedule is
the command's result success -/
theorem fanout_fault_reported' {cfg : Cfg τ ρ} {s : State τ ρ} (d : Dest) (st : Stage ρ) (k : Nat) (hk1 : 1 ≤ k)
    (hkW : k ≤ st.W (expResults cfg)) (hd : d.fails k = true) (hr : Reach cfg s) : cmdResult d st s ≠ .success := by
  by_cases hm : s.main = .ret
  · have hf : (writeOut d st (expResults cfg)).failed = true :=
      sink_fails d _ k hk1 (by rw [Stage.calls_length]; exact hkW) hd
    rw [cmdResult_ret hr hm, hf]
    nofun
  · rw [cmdResult, if_neg hm]
    nofun

theorem cmdResult_error {d : Dest} {st : Stage ρ} {s : State τ ρ} (hm : s.main = .ret)
    (h : cmdResult d st s ≠ .success) : cmdResult d st s = .error := by
  rw [cmdResult, if_pos hm] at h ⊢
  split
  · rfl
  · next hf => exact absurd (if_neg hf) h

theorem fanout_fault_reported {cfg : Cfg τ ρ} {s : State τ ρ} (d : Dest) (st : Stage ρ) (k : Nat)
    (hd : d = .failFrom k ∨ d = .failOnce k) (hk1 : 1 ≤ k) (hkW : k ≤ st.W (expResults cfg)) (hr : Reach cfg s) :
    cmdResult d st s ≠ .success :=
  fanout_fault_reported' d st k hk1 hkW (SchedFaults.Dest.fails_of_at hd) hr

theorem fanout_fault_maximal_run {cfg : Cfg τ ρ} {s : State τ ρ} (d : Dest) (st : Stage ρ) (k : Nat)
    (hd : d = .failFrom k ∨ d = .failOnce k) (hk1 : 1 ≤ k) (hkW : k ≤ st.W (expResults cfg)) (hr : Reach cfg s)
    (hstuck : enabled cfg s = []) : cmdResult d st s = .error :=
  cmdResult_error (fanout_maximal_run hr hstuck).1 (fanout_fault_reported d st k hd hk1 hkW hr)

theorem fanout_fault_runSchedule {cfg : Cfg τ ρ} (d : Dest) (st : Stage ρ) (k : Nat)
    (hd : d = .failFrom k ∨ d = .failOnce k) (hk1 : 1 ≤ k) (hkW : k ≤ st.W (expResults cfg)) (sched : List Nat)
    (hlen : (cfg.nQ + 3) * cfg.targets.length + 4 * cfg.nQ + 9 ≤ sched.length) :
    cmdResult d st (runSchedule cfg sched) = .error :=
  cmdResult_error (runSchedule_returns sched hlen).1
    (fanout_fault_reported d st k hd hk1 hkW (runSchedule_reach cfg sched))

/-! ## outcome form: success means the whole text was accepted; a fault beyond the run does no harm -/

/-- **(2)** (any destination): success, on any schedule, means that exactly the
schedule-independent text was accepted, in W calls none of which failed -/
theorem fanout_fault_beyond_run_harmless {cfg : Cfg τ ρ} {s : State τ ρ} (d : Dest) (st : Stage ρ) (hr : Reach cfg s)
    (hs : cmdResult d st s = .success) :
    s.main = .ret ∧ (finalSink d st s).text = st.text (expResults cfg) ∧
    (finalSink d st s).calls = st.W (expResults cfg) ∧ (finalSink d st s).failed = false ∧
    ∀ i, 1 ≤ i → i ≤ st.W (expResults cfg) → d.fails i = false := by
  by_cases hm : s.main = .ret
  · rw [cmdResult_ret hr hm] at hs
    rw [finalSink_ret hr hm]
    have hf : (writeOut d st (expResults cfg)).failed = false := by
      cases h : (writeOut d st (expResults cfg)).failed with
      | false => rfl
      | true => simp [h] at hs
    obtain ⟨a, b, c⟩ := (sinkInv_all d (st.calls (expResults cfg))).good hf
    rw [Stage.calls_length] at b c
    exact ⟨hm, a, b, hf, c⟩
  · simp [cmdResult, hm] at hs

theorem fanout_no_spurious_error {cfg : Cfg τ ρ} {s : State τ ρ} (d : Dest) (st : Stage ρ) (hr : Reach cfg s)
    (hm : s.main = .ret) (hd : ∀ i, 1 ≤ i → i ≤ st.W (expResults cfg) → d.fails i = false) :
    cmdResult d st s = .success := by
  rw [cmdResult_ret hr hm]
  cases hf : (writeOut d st (expResults cfg)).failed with
  | false => simp
  | true =>
    obtain ⟨h1, h2, h3, _, _⟩ := (sinkInv_all d (st.calls (expResults cfg))).bad hf
    rw [Stage.calls_length] at h2
    rw [hd _ h1 h2] at h3; cases h3

theorem fanout_ok_success {cfg : Cfg τ ρ} {s : State τ ρ} (st : Stage ρ) (hr : Reach cfg s) (hm : s.main = .ret) :
    cmdResult .ok st s = .success ∧ (finalSink .ok st s).text = st.text (expResults cfg) := by
  have h := fanout_no_spurious_error .ok st hr hm (fun _ _ _ => rfl)
  exact ⟨h, (fanout_fault_beyond_run_harmless .ok st hr h).2.1⟩

theorem fanout_beyond_success {cfg : Cfg τ ρ} {s : State τ ρ} (d : Dest) (st : Stage ρ) (k : Nat)
    (hd : d = .failFrom k ∨ d = .failOnce k) (hk : st.W (expResults cfg) < k) (hr : Reach cfg s) (hm : s.main = .ret) :
    cmdResult d st s = .success ∧ (finalSink d st s).text = st.text (expResults cfg) := by
  have h := fanout_no_spurious_error d st hr hm (by
    intro i _ hi
    rcases hd with rfl | rfl
    · exact SchedFaults.Dest.fails_failFrom_lt (by omega)
    · exact SchedFaults.Dest.fails_failOnce_ne (by omega))
  exact ⟨h, (fanout_fault_beyond_run_harmless d st hr h).2.1⟩

/-! ## outcome form: the accepted text is a prefix cut at a call boundary; nothing before the fan-in has completed -/

/-- **(3)**: in every reachable state of every schedule, for every destination, the accepted
text is the schedule-independent call sequence cut at a call boundary -/
theorem fanout_written_is_prefix {cfg : Cfg τ ρ} {s : State τ ρ} (d : Dest) (st : Stage ρ) (hr : Reach cfg s) :
    ∃ j, j ≤ st.W (expResults cfg) ∧
      (finalSink d st s).text = String.join ((st.calls (expResults cfg)).take j) := by
  by_cases hm : s.main = .ret
  · rw [finalSink_ret hr hm]
    obtain ⟨j, hj, h⟩ := sink_text_take d (st.calls (expResults cfg))
    rw [Stage.calls_length] at hj
    exact ⟨j, hj, h⟩
  · exact ⟨0, Nat.zero_le _, by rw [finalSink, if_neg hm]; rfl⟩

/-- while main of the fan-out has not returned no call has been made (outcome form: by the definition of
`finalSink`; the small-step form `w_nothing_before_fanin` is a theorem about intermediate states) -/
theorem fanout_nothing_before_fanin {s : State τ ρ} (d : Dest) (st : Stage ρ) (hm : s.main ≠ .ret) :
    finalSink d st s = Sink.empty ∧ cmdResult d st s = .running := by
  simp [finalSink, cmdResult, hm]

/-! ## the commands -/

/-! ### closest (plain): one row per query -/

section closestPlain

/-- the output stage of plain `closest`: the header line, then one line per query in query order -/
def closestStage (ci : ClosestIn) : Stage Hit where
  header := "query,closest,distance,SNPs" ++ "\n"
  rows := fun results => (ci.qs.zip results).map fun p => (plainRow ci p.1 (p.2.getD none)).render ++ "\n"

theorem closestStage_header (ci : ClosestIn) : (closestStage ci).header = "query,closest,distance,SNPs" ++ "\n" := rfl

theorem closestStage_rows (ci : ClosestIn) (results : List (Option (Option Hit))) :
    (closestStage ci).rows results =
      (ci.qs.zip results).map fun p => (plainRow ci p.1 (p.2.getD none)).render ++ "\n" := rfl

theorem closestStage_text (ci : ClosestIn) (results : List (Option (Option Hit))) :
    (closestStage ci).text results = plainText ci results := by
  rw [Stage.text_eq, closestStage_header, closestStage_rows]
  simp only [plainText, renderRows, List.map_map, Function.comp_def]

theorem closest_text_model (ci : ClosestIn) (cap : Nat) (hmode : ci.mode = "plain") :
    (closestStage ci).text (expResults (closestCfg ci cap)) = modelText ci := by
  rw [closestStage_text]
  exact closest_text ci cap hmode

theorem closest_W (ci : ClosestIn) (cap : Nat) : (closestStage ci).W (expResults (closestCfg ci cap)) = 1 + ci.qs.length := by
  rw [Stage.W, closestStage_rows, List.length_map, List.length_zip, expResults, List.length_map, List.length_range]
  exact congrArg _ (Nat.min_self _)

variable {s : State (Target × Nat) Hit}

/-- a fault at the header or at any query's row is reported, on every schedule -/
theorem closest_fault_reported (ci : ClosestIn) (cap : Nat) (d : Dest) (k : Nat)
    (hd : d = .failFrom k ∨ d = .failOnce k) (hk1 : 1 ≤ k) (hkW : k ≤ 1 + ci.qs.length)
    (hr : Reach (closestCfg ci cap) s) : cmdResult d (closestStage ci) s ≠ .success :=
  fanout_fault_reported d _ k hd hk1 (by rw [closest_W]; exact hkW) hr

theorem closest_fault_maximal_run (ci : ClosestIn) (cap : Nat) (d : Dest) (k : Nat)
    (hd : d = .failFrom k ∨ d = .failOnce k) (hk1 : 1 ≤ k) (hkW : k ≤ 1 + ci.qs.length)
    (hr : Reach (closestCfg ci cap) s) (hstuck : enabled (closestCfg ci cap) s = []) :
    cmdResult d (closestStage ci) s = .error :=
  fanout_fault_maximal_run d _ k hd hk1 (by rw [closest_W]; exact hkW) hr hstuck

/-- success means the sequential model's text was accepted, in 1 + nQ calls none of which failed -/
theorem closest_fault_beyond_run_harmless (ci : ClosestIn) (cap : Nat) (hmode : ci.mode = "plain") (d : Dest)
    (hr : Reach (closestCfg ci cap) s) (hs : cmdResult d (closestStage ci) s = .success) :
    (finalSink d (closestStage ci) s).text = modelText ci ∧
    (finalSink d (closestStage ci) s).calls = 1 + ci.qs.length ∧ (finalSink d (closestStage ci) s).failed = false ∧
    ∀ i, 1 ≤ i → i ≤ 1 + ci.qs.length → d.fails i = false := by
  obtain ⟨_, h1, h2, h3, h4⟩ := fanout_fault_beyond_run_harmless d _ hr hs
  rw [closest_text_model ci cap hmode] at h1
  rw [closest_W] at h2 h4
  exact ⟨h1, h2, h3, h4⟩

theorem closest_no_spurious_error (ci : ClosestIn) (cap : Nat) (d : Dest)
    (hr : Reach (closestCfg ci cap) s) (hm : s.main = .ret)
    (hd : ∀ i, 1 ≤ i → i ≤ 1 + ci.qs.length → d.fails i = false) : cmdResult d (closestStage ci) s = .success :=
  fanout_no_spurious_error d _ hr hm (by rw [closest_W]; exact hd)

/-- the accepted text is the join of the first j of 1 + nQ strings whose join is the model's text.  Which
strings the statement does not say (for nQ ≥ 1 every prefix of the model's text fits it); they are the stage's calls, the
header and one line per query: `fanout_written_is_prefix` for `closestStage`, with `closest_text_model`, says that -/
theorem closest_written_is_prefix (ci : ClosestIn) (cap : Nat) (hmode : ci.mode = "plain") (d : Dest)
    (hr : Reach (closestCfg ci cap) s) :
    ∃ (cs : List String) (j : Nat), String.join cs = modelText ci ∧ cs.length = 1 + ci.qs.length ∧ j ≤ cs.length ∧
      (finalSink d (closestStage ci) s).text = String.join (cs.take j) := by
  obtain ⟨j, hj, h⟩ := fanout_written_is_prefix d (closestStage ci) hr
  refine ⟨(closestStage ci).calls (expResults (closestCfg ci cap)), j, closest_text_model ci cap hmode, ?_, ?_, h⟩
  · rw [Stage.calls_length, closest_W]
  · rw [Stage.calls_length]; exact hj

end closestPlain

/-! ### closest -n K, -d D (list form: one row per query; table form: one row per (query, neighbour)) -/

section closestN

def catchHeader (ci : ClosestIn) : String := if ci.mode = "table" then "query,target,distance" else "query,closest"

def catchRows (ci : ClosestIn) (results : List (Option (Option (List Hit)))) : List ERow :=
  if ci.mode = "table" then
    ((ci.qs.zip results).map fun p =>
      (catchment ci p.2).map fun h => ({ pre := [p.1.1, h.name], dist := some h.dist, post := [] } : ERow)).flatten
  else
    (ci.qs.zip results).map fun p =>
      ({ pre := [p.1.1, joinWith ";" ((catchment ci p.2).map (·.name))], dist := none, post := [] } : ERow)

/-- the output stage of `closest -n / -d`: the header line, then one line per query (list form) or per (query, neighbour)
(`--table`) -/
def closestNStage (ci : ClosestIn) : Stage (List Hit) where
  header := catchHeader ci ++ "\n"
  rows := fun results => (catchRows ci results).map fun r => r.render ++ "\n"

theorem closestNStage_header (ci : ClosestIn) : (closestNStage ci).header = catchHeader ci ++ "\n" := rfl

theorem closestNStage_rows (ci : ClosestIn) (results : List (Option (Option (List Hit)))) :
    (closestNStage ci).rows results = (catchRows ci results).map fun r => r.render ++ "\n" := rfl

theorem catchText_eq (ci : ClosestIn) (results : List (Option (Option (List Hit)))) :
    catchText ci results = renderRows (catchHeader ci) (catchRows ci results) := by
  unfold catchText catchHeader catchRows
  by_cases h : ci.mode = "table"
  · simp only [h, if_true]
  · simp only [h, if_false]

theorem closestNStage_text (ci : ClosestIn) (results : List (Option (Option (List Hit)))) :
    (closestNStage ci).text results = catchText ci results := by
  rw [Stage.text_eq, closestNStage_header, closestNStage_rows, catchText_eq, renderRows]

theorem closestN_text_model (ci : ClosestIn) (cap : Nat) (hmode : ci.mode ≠ "plain") :
    (closestNStage ci).text (expResults (closestNCfg ci cap)) = modelText ci := by
  rw [closestNStage_text]
  exact closestN_text ci cap hmode

theorem closestN_W_list (ci : ClosestIn) (cap : Nat) (hmode : ci.mode ≠ "table") :
    (closestNStage ci).W (expResults (closestNCfg ci cap)) = 1 + ci.qs.length := by
  simp only [Stage.W, closestNStage_rows, catchRows, if_neg hmode, expResults, closestNCfg, List.length_map,
    List.length_zip, List.length_range, Nat.min_self]

variable {s : State (Target × Nat) (List Hit)}

/-- closest -n, -d, both forms: W = 1 + the number of rows of the schedule-independent results -/
theorem closestN_fault_reported (ci : ClosestIn) (cap : Nat) (d : Dest) (k : Nat)
    (hd : d = .failFrom k ∨ d = .failOnce k) (hk1 : 1 ≤ k)
    (hkW : k ≤ (closestNStage ci).W (expResults (closestNCfg ci cap)))
    (hr : Reach (closestNCfg ci cap) s) : cmdResult d (closestNStage ci) s ≠ .success :=
  fanout_fault_reported d _ k hd hk1 hkW hr

theorem closestN_fault_reported_list (ci : ClosestIn) (cap : Nat) (hmode : ci.mode ≠ "table") (d : Dest) (k : Nat)
    (hd : d = .failFrom k ∨ d = .failOnce k) (hk1 : 1 ≤ k) (hkW : k ≤ 1 + ci.qs.length)
    (hr : Reach (closestNCfg ci cap) s) : cmdResult d (closestNStage ci) s ≠ .success :=
  fanout_fault_reported d _ k hd hk1 (by rw [closestN_W_list ci cap hmode]; exact hkW) hr

theorem closestN_fault_maximal_run (ci : ClosestIn) (cap : Nat) (d : Dest) (k : Nat)
    (hd : d = .failFrom k ∨ d = .failOnce k) (hk1 : 1 ≤ k)
    (hkW : k ≤ (closestNStage ci).W (expResults (closestNCfg ci cap)))
    (hr : Reach (closestNCfg ci cap) s) (hstuck : enabled (closestNCfg ci cap) s = []) :
    cmdResult d (closestNStage ci) s = .error :=
  fanout_fault_maximal_run d _ k hd hk1 hkW hr hstuck

theorem closestN_fault_beyond_run_harmless (ci : ClosestIn) (cap : Nat) (hmode : ci.mode ≠ "plain") (d : Dest)
    (hr : Reach (closestNCfg ci cap) s) (hs : cmdResult d (closestNStage ci) s = .success) :
    (finalSink d (closestNStage ci) s).text = modelText ci ∧
    (finalSink d (closestNStage ci) s).calls = (closestNStage ci).W (expResults (closestNCfg ci cap)) ∧
    (finalSink d (closestNStage ci) s).failed = false ∧
    ∀ i, 1 ≤ i → i ≤ (closestNStage ci).W (expResults (closestNCfg ci cap)) → d.fails i = false := by
  obtain ⟨_, h1, h2, h3, h4⟩ := fanout_fault_beyond_run_harmless d _ hr hs
  rw [closestN_text_model ci cap hmode] at h1
  exact ⟨h1, h2, h3, h4⟩

theorem closestN_written_is_prefix (ci : ClosestIn) (cap : Nat) (hmode : ci.mode ≠ "plain") (d : Dest)
    (hr : Reach (closestNCfg ci cap) s) :
    ∃ (cs : List String) (j : Nat), String.join cs = modelText ci ∧
      cs.length = (closestNStage ci).W (expResults (closestNCfg ci cap)) ∧ j ≤ cs.length ∧
      (finalSink d (closestNStage ci) s).text = String.join (cs.take j) := by
  obtain ⟨j, hj, h⟩ := fanout_written_is_prefix d (closestNStage ci) hr
  refine ⟨(closestNStage ci).calls (expResults (closestNCfg ci cap)), j, closestN_text_model ci cap hmode, ?_, ?_, h⟩
  · rw [Stage.calls_length]
  · rw [Stage.calls_length]; exact hj

end closestN

/-! ### updown topranking (list form: one row per query; table form: one row per (query, direction, neighbour)) -/

section topRanking

/-- what main has per query after the collection: the name and the four finished bins -/
def trRowsOf (ti : TRIn) (results : List (Option (Option (List TRBin)))) : List (String × List (List UDHit)) :=
  (ti.qs.zip results).map fun p => (p.1.1, trFinish ti.opts ((p.2.getD none).getD emptyBins))

def trHeader (ti : TRIn) : String :=
  if ti.table then "query,direction,distance,target\n" else "query,closestsame,closestup,closestdown,closestside\n"

/-- the strings of the write calls after the header: the lines of `trTableOutput` / `trListOutput` -/
def trLines (ti : TRIn) (rows : List (String × List (List UDHit))) : List String :=
  if ti.table then
    rows.flatMap fun (qn, bins) =>
      (bins.zip (List.range 4)).flatMap fun (b, d) => b.map fun h =>
        joinWith "," [qn, dirName d, toString h.dist, h.name] ++ "\n"
  else
    rows.map fun (qn, bins) =>
      qn ++ "," ++ joinWith "," (bins.map fun b => joinWith ";" (b.map (·.name))) ++ "\n"

/-- the output stage of `updown topranking`: the header line, then one call per output line, also in the list form (the head
of the file says how the code differs there) -/
def trStage (ti : TRIn) : Stage (List TRBin) where
  header := trHeader ti
  rows := fun results => trLines ti (trRowsOf ti results)

theorem trStage_header (ti : TRIn) : (trStage ti).header = trHeader ti := rfl

theorem trStage_rows (ti : TRIn) (results : List (Option (Option (List TRBin)))) :
    (trStage ti).rows results = trLines ti (trRowsOf ti results) := rfl

theorem trStage_text (ti : TRIn) (results : List (Option (Option (List TRBin)))) :
    (trStage ti).text results = trText ti results := by
  rw [Stage.text_eq, trStage_header, trStage_rows]
  unfold trText trHeader trLines
  split <;> rfl

theorem topranking_text_model (ti : TRIn) (cap : Nat) (a : List Nat × List Nat) (hargs : ti.args = some a) :
    (trStage ti).text (expResults (topRankingCfg ti cap)) = modelTR ti := by
  rw [trStage_text]
  exact topranking_text ti cap a hargs

theorem topranking_W_list (ti : TRIn) (cap : Nat) (htab : ti.table = false) :
    (trStage ti).W (expResults (topRankingCfg ti cap)) = 1 + ti.qs.length := by
  simp only [Stage.W, trStage_rows, trLines, htab, trRowsOf, expResults, topRankingCfg, List.length_map,
    List.length_zip, List.length_range, Nat.min_self, Bool.false_eq_true, if_false]

variable {s : State UDLine (List TRBin)}

theorem topranking_fault_reported (ti : TRIn) (cap : Nat) (d : Dest) (k : Nat)
    (hd : d = .failFrom k ∨ d = .failOnce k) (hk1 : 1 ≤ k)
    (hkW : k ≤ (trStage ti).W (expResults (topRankingCfg ti cap)))
    (hr : Reach (topRankingCfg ti cap) s) : cmdResult d (trStage ti) s ≠ .success :=
  fanout_fault_reported d _ k hd hk1 hkW hr

theorem topranking_fault_reported_list (ti : TRIn) (cap : Nat) (htab : ti.table = false) (d : Dest) (k : Nat)
    (hd : d = .failFrom k ∨ d = .failOnce k) (hk1 : 1 ≤ k) (hkW : k ≤ 1 + ti.qs.length)
    (hr : Reach (topRankingCfg ti cap) s) : cmdResult d (trStage ti) s ≠ .success :=
  fanout_fault_reported d _ k hd hk1 (by rw [topranking_W_list ti cap htab]; exact hkW) hr

theorem topranking_fault_maximal_run (ti : TRIn) (cap : Nat) (d : Dest) (k : Nat)
    (hd : d = .failFrom k ∨ d = .failOnce k) (hk1 : 1 ≤ k)
    (hkW : k ≤ (trStage ti).W (expResults (topRankingCfg ti cap)))
    (hr : Reach (topRankingCfg ti cap) s) (hstuck : enabled (topRankingCfg ti cap) s = []) :
    cmdResult d (trStage ti) s = .error :=
  fanout_fault_maximal_run d _ k hd hk1 hkW hr hstuck

theorem topranking_fault_beyond_run_harmless (ti : TRIn) (cap : Nat) (a : List Nat × List Nat)
    (hargs : ti.args = some a) (d : Dest)
    (hr : Reach (topRankingCfg ti cap) s) (hs : cmdResult d (trStage ti) s = .success) :
    (finalSink d (trStage ti) s).text = modelTR ti ∧
    (finalSink d (trStage ti) s).calls = (trStage ti).W (expResults (topRankingCfg ti cap)) ∧
    (finalSink d (trStage ti) s).failed = false ∧
    ∀ i, 1 ≤ i → i ≤ (trStage ti).W (expResults (topRankingCfg ti cap)) → d.fails i = false := by
  obtain ⟨_, h1, h2, h3, h4⟩ := fanout_fault_beyond_run_harmless d _ hr hs
  rw [topranking_text_model ti cap a hargs] at h1
  exact ⟨h1, h2, h3, h4⟩

theorem topranking_written_is_prefix (ti : TRIn) (cap : Nat) (a : List Nat × List Nat) (hargs : ti.args = some a)
    (d : Dest) (hr : Reach (topRankingCfg ti cap) s) :
    ∃ (cs : List String) (j : Nat), String.join cs = modelTR ti ∧
      cs.length = (trStage ti).W (expResults (topRankingCfg ti cap)) ∧ j ≤ cs.length ∧
      (finalSink d (trStage ti) s).text = String.join (cs.take j) := by
  obtain ⟨j, hj, h⟩ := fanout_written_is_prefix d (trStage ti) hr
  refine ⟨(trStage ti).calls (expResults (topRankingCfg ti cap)), j, topranking_text_model ti cap a hargs, ?_, ?_, h⟩
  · rw [Stage.calls_length]
  · rw [Stage.calls_length]; exact hj

end topRanking

/-! ## small-step form: the fan-out model, then the write stage, one call per step -/

section smallStep

/-- a state of the composed system: the state of Model/Fanout, the write stage's program counter (calls issued),
the sink, main's return value (`none`: running, `some true`: nil, `some false`: the write error) -/
structure WState (τ ρ : Type) where
  fan : State τ ρ
  pc : Nat
  sink : Sink
  ret : Option Bool

def winit (cfg : Cfg τ ρ) : WState τ ρ := ⟨init cfg, 0, Sink.empty, none⟩

def WState.withFan (w : WState τ ρ) (s' : State τ ρ) : WState τ ρ := ⟨s', w.pc, w.sink, w.ret⟩

/-- the state after one checked write call of the string c: the error is returned at once -/
def WState.afterWrite (d : Dest) (w : WState τ ρ) (c : String) : WState τ ρ :=
  ⟨w.fan, w.pc + 1, Sink.put d w.sink c, if (Sink.put d w.sink c).failed then some false else none⟩

def WState.afterDone (w : WState τ ρ) : WState τ ρ := ⟨w.fan, w.pc, w.sink, some true⟩

/-- one step: a step of the fan-out model (`step?`, unchanged: none once its main has returned); one write call of
the stage, enabled only after the fan-out's main has left the collection loop; `return nil` after the last call -/
inductive WStep (cfg : Cfg τ ρ) (d : Dest) (st : Stage ρ) : WState τ ρ → WState τ ρ → Prop where
  | fan {w : WState τ ρ} {s' : State τ ρ} (l : Label) : step? cfg w.fan l = some s' → WStep cfg d st w (w.withFan s')
  | write {w : WState τ ρ} {c : String} : w.fan.main = .ret → w.ret = none →
      (st.calls w.fan.results)[w.pc]? = some c → WStep cfg d st w (w.afterWrite d c)
  | done {w : WState τ ρ} : w.fan.main = .ret → w.ret = none → w.pc = (st.calls w.fan.results).length →
      WStep cfg d st w w.afterDone

inductive WReach (cfg : Cfg τ ρ) (d : Dest) (st : Stage ρ) : WState τ ρ → Prop where
  | init : WReach cfg d st (winit cfg)
  | step {w w' : WState τ ρ} : WReach cfg d st w → WStep cfg d st w w' → WReach cfg d st w'

theorem not_ret_of_step {cfg : Cfg τ ρ} {s s' : State τ ρ} {l : Label} (h : step? cfg s l = some s') :
    s.main ≠ .ret := by
  intro hm
  rw [step?.eq_def, State.final, hm] at h
  simp at h

/-- what holds in every state of the composed system: the fan-out part is a reachable state of Model/Fanout; until its
main has returned the write stage has not started; from then on the sink is what the first `pc` calls of the stage
leave, and main's return value records whether one of them failed (`none`: none so far, calls may remain) -/
structure WInv (cfg : Cfg τ ρ) (d : Dest) (st : Stage ρ) (w : WState τ ρ) : Prop where
  reach : Reach cfg w.fan
  before : w.fan.main ≠ .ret → w.pc = 0 ∧ w.sink = Sink.empty ∧ w.ret = none
  pcle : w.pc ≤ (st.calls w.fan.results).length
  sink : w.sink = Sink.putAll d Sink.empty ((st.calls w.fan.results).take w.pc)
  running : w.ret = none → w.sink.failed = false
  err : w.ret = some false → w.sink.failed = true
  ok : w.ret = some true → w.sink.failed = false ∧ w.pc = (st.calls w.fan.results).length

theorem winv_init (cfg : Cfg τ ρ) (d : Dest) (st : Stage ρ) : WInv cfg d st (winit cfg) :=
  ⟨Reach.init, fun _ => ⟨rfl, rfl, rfl⟩, Nat.zero_le _, rfl, fun _ => rfl, nofun, nofun⟩

theorem winv_step {cfg : Cfg τ ρ} {d : Dest} {st : Stage ρ} {w w' : WState τ ρ} (hi : WInv cfg d st w)
    (hs : WStep cfg d st w w') : WInv cfg d st w' := by
  cases hs with
  | fan l h =>
    -- before the fan-in the write stage has not started: the state is that of `winit` around a new fan-out state
    obtain ⟨h1, h2, h3⟩ := hi.before (not_ret_of_step h)
    have hr := hi.reach
    obtain ⟨fan, pc, sink, ret⟩ := w
    cases h1; cases h2; cases h3
    exact ⟨Reach.step l hr h, fun _ => ⟨rfl, rfl, rfl⟩, Nat.zero_le _, rfl, fun _ => rfl, nofun, nofun⟩
  | @write c hm hr hc =>
    have hlt : w.pc < (st.calls w.fan.results).length := (List.getElem?_eq_some_iff.mp hc).1
    have hsink : Sink.put d w.sink c = Sink.putAll d Sink.empty ((st.calls w.fan.results).take (w.pc + 1)) := by
      rw [List.take_add_one, hc, SchedFaults.Sink.putAll_append, ← hi.sink]
      rfl
    -- main returns the error exactly when this call failed
    refine ⟨hi.reach, fun h => absurd hm h, hlt, hsink, ?_, ?_, ?_⟩ <;>
      (simp only [WState.afterWrite]; cases (Sink.put d w.sink c).failed <;> simp)
  | done hm hr hpc =>
    exact ⟨hi.reach, fun h => absurd hm h, hi.pcle, hi.sink, nofun, nofun, fun _ => ⟨hi.running hr, hpc⟩⟩

theorem wreach_inv {cfg : Cfg τ ρ} {d : Dest} {st : Stage ρ} {w : WState τ ρ} (hr : WReach cfg d st w) :
    WInv cfg d st w := by
  induction hr with
  | init => exact winv_init cfg d st
  | step _ hs ih => exact winv_step ih hs

variable {cfg : Cfg τ ρ} {d : Dest} {st : Stage ρ} {w : WState τ ρ}

theorem w_ret_after_fanin (hr : WReach cfg d st w) (h : w.ret ≠ none) : w.fan.main = .ret :=
  Decidable.byContradiction fun hm => h ((wreach_inv hr).before hm).2.2

/-- **nothing is written before the fan-in has completed**: in every reachable state of
every interleaving in which the fan-out's main is still before or in its collection loop, no write call has been made -/
theorem w_nothing_before_fanin (hr : WReach cfg d st w) (hm : w.fan.main ≠ .ret) :
    w.pc = 0 ∧ w.sink = Sink.empty ∧ w.ret = none := (wreach_inv hr).before hm

theorem w_success_sink (hr : WReach cfg d st w) (h : w.ret = some true) :
    w.sink = writeOut d st (expResults cfg) ∧ cmdResult d st w.fan = .success := by
  have hi := wreach_inv hr
  have hm := w_ret_after_fanin hr (by rw [h]; simp)
  obtain ⟨hf, hpc⟩ := hi.ok h
  have hs : w.sink = writeOut d st (expResults cfg) := by
    rw [hi.sink, hpc, List.take_length, results_every_schedule hi.reach hm]; rfl
  refine ⟨hs, ?_⟩
  rw [cmdResult_ret hi.reach hm, ← hs, hf]; rfl

/-- **(1), small-step form**: a fault at a call k, 1 ≤ k ≤ W: on no interleaving does main return nil -/
theorem w_fault_reported (k : Nat) (hd : d = .failFrom k ∨ d = .failOnce k) (hk1 : 1 ≤ k)
    (hkW : k ≤ st.W (expResults cfg)) (hr : WReach cfg d st w) : w.ret ≠ some true := by
  intro h
  exact fanout_fault_reported d st k hd hk1 hkW (wreach_inv hr).reach (w_success_sink hr h).2

/-- **(2), small-step form**: `return nil` means exactly the schedule-independent text was accepted, in W calls none
of which failed -/
theorem w_success_harmless (hr : WReach cfg d st w) (h : w.ret = some true) :
    w.sink.text = st.text (expResults cfg) ∧ w.sink.calls = st.W (expResults cfg) ∧ w.sink.failed = false ∧
    w.pc = st.W (expResults cfg) ∧ ∀ i, 1 ≤ i → i ≤ st.W (expResults cfg) → d.fails i = false := by
  have hi := wreach_inv hr
  have hm := w_ret_after_fanin hr (by rw [h]; simp)
  obtain ⟨hs, hc⟩ := w_success_sink hr h
  obtain ⟨_, h1, h2, h3, h4⟩ := fanout_fault_beyond_run_harmless d st hi.reach hc
  rw [finalSink_ret hi.reach hm, ← hs] at h1 h2 h3
  refine ⟨h1, h2, h3, ?_, h4⟩
  rw [(hi.ok h).2, results_every_schedule hi.reach hm, Stage.calls_length]

/-- a returned error is a real write failure: the call that failed is one the destination refuses -/
theorem w_error_is_write_failure (hr : WReach cfg d st w) (h : w.ret = some false) :
    w.sink.failed = true ∧ 1 ≤ w.sink.calls ∧ w.sink.calls ≤ st.W (expResults cfg) ∧ d.fails w.sink.calls = true := by
  have hi := wreach_inv hr
  have hm := w_ret_after_fanin hr (by rw [h]; simp)
  have hf := hi.err h
  have hinv := sinkInv_all d ((st.calls w.fan.results).take w.pc)
  rw [← hi.sink] at hinv
  obtain ⟨a, b, c, _, _⟩ := hinv.bad hf
  refine ⟨hf, a, ?_, c⟩
  rw [List.length_take, results_every_schedule hi.reach hm, Stage.calls_length] at b
  omega

theorem w_no_spurious_error (hd : ∀ i, 1 ≤ i → i ≤ st.W (expResults cfg) → d.fails i = false)
    (hr : WReach cfg d st w) : w.ret ≠ some false := by
  intro h
  obtain ⟨_, a, b, c⟩ := w_error_is_write_failure hr h
  rw [hd _ a b] at c; cases c

/-- **(3), small-step form**: in every reachable state of every interleaving, for every destination, the accepted
text is the schedule-independent call sequence cut at a call boundary, no further than the calls issued -/
theorem w_written_is_prefix (hr : WReach cfg d st w) :
    ∃ j, j ≤ w.pc ∧ j ≤ st.W (expResults cfg) ∧ w.sink.text = String.join ((st.calls (expResults cfg)).take j) := by
  have hi := wreach_inv hr
  by_cases hm : w.fan.main = .ret
  · have hres := results_every_schedule hi.reach hm
    obtain ⟨j, hj, h⟩ := sink_text_take d ((st.calls w.fan.results).take w.pc)
    rw [← hi.sink, List.take_take, hres] at h
    rw [List.length_take, hres, Stage.calls_length] at hj
    exact ⟨min j w.pc, Nat.min_le_right _ _, by omega, h⟩
  · exact ⟨0, Nat.zero_le _, Nat.zero_le _, by rw [(hi.before hm).2.1]; rfl⟩

theorem closest_w_fault_reported (ci : ClosestIn) (cap : Nat) (d : Dest) (k : Nat)
    (hd : d = .failFrom k ∨ d = .failOnce k) (hk1 : 1 ≤ k) (hkW : k ≤ 1 + ci.qs.length)
    {w : WState (Target × Nat) Hit} (hr : WReach (closestCfg ci cap) d (closestStage ci) w) : w.ret ≠ some true :=
  w_fault_reported k hd hk1 (by rw [closest_W]; exact hkW) hr

theorem closest_w_success_harmless (ci : ClosestIn) (cap : Nat) (hmode : ci.mode = "plain") (d : Dest)
    {w : WState (Target × Nat) Hit} (hr : WReach (closestCfg ci cap) d (closestStage ci) w) (h : w.ret = some true) :
    w.sink.text = modelText ci ∧ w.sink.calls = 1 + ci.qs.length ∧ w.sink.failed = false := by
  obtain ⟨h1, h2, h3, _, _⟩ := w_success_harmless hr h
  rw [closest_text_model ci cap hmode] at h1
  rw [closest_W] at h2
  exact ⟨h1, h2, h3⟩

theorem topranking_w_fault_reported (ti : TRIn) (cap : Nat) (d : Dest) (k : Nat)
    (hd : d = .failFrom k ∨ d = .failOnce k) (hk1 : 1 ≤ k)
    (hkW : k ≤ (trStage ti).W (expResults (topRankingCfg ti cap)))
    {w : WState UDLine (List TRBin)} (hr : WReach (topRankingCfg ti cap) d (trStage ti) w) : w.ret ≠ some true :=
  w_fault_reported k hd hk1 hkW hr

theorem topranking_w_success_harmless (ti : TRIn) (cap : Nat) (a : List Nat × List Nat) (hargs : ti.args = some a)
    (d : Dest) {w : WState UDLine (List TRBin)} (hr : WReach (topRankingCfg ti cap) d (trStage ti) w)
    (h : w.ret = some true) : w.sink.text = modelTR ti ∧ w.sink.failed = false := by
  obtain ⟨h1, _, h3, _, _⟩ := w_success_harmless hr h
  rw [topranking_text_model ti cap a hargs] at h1
  exact ⟨h1, h3⟩

end smallStep

/-! ## an UNCHECKED call site -/

namespace Unchecked
open Gofasta.Lemmas.SchedFaults.Unchecked (putSites putSites_checked)

/-- the stage with call sites 0 (the header), 1, 2, ... (the rows); `sites j = false`: the error of call site j is
dropped, as by `Unchecked.putC` of Lemmas/Sink -/
def writeOutU (d : Dest) (sites : Nat → Bool) (st : Stage ρ) (res : List (Option (Option ρ))) : Sink :=
  putSites d sites 0 Sink.empty (st.calls res)

def cmdResultU (d : Dest) (sites : Nat → Bool) (st : Stage ρ) (s : State τ ρ) : Res :=
  if s.main = .ret then (if (writeOutU d sites st s.results).failed then .error else .success) else .running

theorem writeOutU_checked (d : Dest) (st : Stage ρ) (res : List (Option (Option ρ))) :
    writeOutU d (fun _ => true) st res = writeOut d st res := putSites_checked d _ 0 _

theorem cmdResultU_checked (d : Dest) (st : Stage ρ) (s : State τ ρ) :
    cmdResultU d (fun _ => true) st s = cmdResult d st s := by
  simp only [cmdResultU, cmdResult, writeOutU_checked]

end Unchecked

/-! ## non-vacuity (by decide) -/

namespace Examples
open Gofasta.Lemmas.FanoutCommands.Examples

/-- plain closest, two queries, five targets (FanoutCommands.Examples): W = 3 calls -/
def ci0 : ClosestIn := exCi "plain" 0 none
def s1 : State (Target × Nat) Hit := runSchedule plainEx fsched1
def s2 : State (Target × Nat) Hit := runSchedule plainEx fsched2

/-- both schedules run main to its return (by evaluation); the results array is then that of every schedule, and
the test vectors below evaluate the write stage on it -/
theorem s1_ret : s1.main = .ret ∧ s1.results = expResults plainEx :=
  have h : s1.main = .ret := by decide +kernel
  ⟨h, results_every_schedule (runSchedule_reach _ _) h⟩

theorem s2_ret : s2.main = .ret ∧ s2.results = expResults plainEx :=
  have h : s2.main = .ret := by decide +kernel
  ⟨h, results_every_schedule (runSchedule_reach _ _) h⟩

/-- a fault at the header (call 1), transient: error on both schedules, nothing accepted -/
example :
    cmdResult (.failOnce 1) (closestStage ci0) s1 = .error ∧ cmdResult (.failOnce 1) (closestStage ci0) s2 = .error ∧
    (finalSink (.failOnce 1) (closestStage ci0) s1).text = "" ∧ (finalSink (.failOnce 1) (closestStage ci0) s2).text = "" := by
  simp only [cmdResult, finalSink, s1_ret, s2_ret]
  decide +kernel

/-- a fault at the middle call (call 2, the row of q1): error, the header alone was accepted -/
example :
    cmdResult (.failFrom 2) (closestStage ci0) s1 = .error ∧ cmdResult (.failFrom 2) (closestStage ci0) s2 = .error ∧
    (finalSink (.failFrom 2) (closestStage ci0) s1).text = "query,closest,distance,SNPs\n" ∧
    (finalSink (.failFrom 2) (closestStage ci0) s2).text = "query,closest,distance,SNPs\n" := by
  simp only [cmdResult, finalSink, s1_ret, s2_ret]
  decide +kernel

/-- a fault at the last call (call 3 = W, the row of q2), transient: error, header and the first row accepted -/
example :
    cmdResult (.failOnce 3) (closestStage ci0) s1 = .error ∧ cmdResult (.failOnce 3) (closestStage ci0) s2 = .error ∧
    (finalSink (.failOnce 3) (closestStage ci0) s1).text = "query,closest,distance,SNPs\nq1,t4,0,\n" ∧
    (finalSink (.failOnce 3) (closestStage ci0) s2).text = "query,closest,distance,SNPs\nq1,t4,0,\n" := by
  simp only [cmdResult, finalSink, s1_ret, s2_ret]
  decide +kernel

/-- a fault beyond the run (call 4 > W) and no fault: success, the model's text, three calls -/
example :
    cmdResult (.failFrom 4) (closestStage ci0) s1 = .success ∧ cmdResult .ok (closestStage ci0) s2 = .success ∧
    (finalSink (.failFrom 4) (closestStage ci0) s1).text = modelText ci0 ∧
    (finalSink .ok (closestStage ci0) s2).text = "query,closest,distance,SNPs\nq1,t4,0,\nq2,t3,1,4TA\n" ∧
    (finalSink (.failFrom 4) (closestStage ci0) s1).calls = 3 := by
  simp only [cmdResult, finalSink, s1_ret, s2_ret]
  decide +kernel

/-- before the fan-in has completed (a schedule cut short): running, nothing written -/
example :
    cmdResult (.failOnce 2) (closestStage ci0) (runSchedule plainEx (fsched1.take 20)) = .running ∧
    finalSink .ok (closestStage ci0) (runSchedule plainEx (fsched1.take 20)) = Sink.empty := by
  decide +kernel

/-- the second call site (the first row) drops its error, the destination fails call 2 once:
the command returns SUCCESS although a write failed, and the row of q1 is missing from the output -/
theorem unchecked_loses :
    Unchecked.cmdResultU (.failOnce 2) (fun j => j != 1) (closestStage ci0) s1 = .success ∧
    Unchecked.cmdResultU (.failOnce 2) (fun j => j != 1) (closestStage ci0) s2 = .success ∧
    (Unchecked.writeOutU (.failOnce 2) (fun j => j != 1) (closestStage ci0) s1.results).text =
      "query,closest,distance,SNPs\nq2,t3,1,4TA\n" ∧
    (Unchecked.writeOutU (.failOnce 2) (fun j => j != 1) (closestStage ci0) s1.results).calls = 3 ∧
    (Dest.failOnce 2).fails 2 = true := by
  simp only [Unchecked.cmdResultU, s1_ret, s2_ret]
  decide +kernel

/-- the same destination against the checked stage: an error -/
theorem checked_reports :
    cmdResult (.failOnce 2) (closestStage ci0) s1 = .error ∧ cmdResult (.failOnce 2) (closestStage ci0) s2 = .error := by
  simp only [cmdResult, s1_ret, s2_ret]
  decide +kernel

/-- and the general theorem says so about every schedule of this example, for each of the three calls -/
example (sched : List Nat) (k : Nat) (hk1 : 1 ≤ k) (hk : k ≤ 3) :
    cmdResult (.failOnce k) (closestStage ci0) (runSchedule plainEx sched) ≠ .success :=
  closest_fault_reported ci0 1 (.failOnce k) k (Or.inr rfl) hk1 (by simpa [ci0, exCi] using hk)
    (runSchedule_reach _ sched)

/-- `closest -n 2 --table`: W = 5 calls (header, two rows per query); a fault at the fourth -/
example :
    (closestNStage (exCi "table" 2 none)).W (expResults tableEx) = 5 ∧
    cmdResult (.failFrom 4) (closestNStage (exCi "table" 2 none)) (runSchedule tableEx fsched1) = .error ∧
    cmdResult (.failFrom 4) (closestNStage (exCi "table" 2 none)) (runSchedule tableEx fsched2) = .error ∧
    (finalSink (.failFrom 4) (closestNStage (exCi "table" 2 none)) (runSchedule tableEx fsched2)).text =
      "query,target,distance\nq1,t4,0\nq1,t5,0\n" ∧
    cmdResult (.failFrom 6) (closestNStage (exCi "table" 2 none)) (runSchedule tableEx fsched2) = .success := by
  decide +kernel

/-- `updown topranking` (list form), two queries: W = 3 with the model's one call per line; a fault at the line of q1 and at
the line of q2 -/
example :
    cmdResult (.failOnce 2) (trStage (exTi false 0)) (runSchedule trEx fsched3) = .error ∧
    cmdResult (.failOnce 3) (trStage (exTi false 0)) (runSchedule trEx fsched4) = .error ∧
    (finalSink (.failOnce 3) (trStage (exTi false 0)) (runSchedule trEx fsched4)).text =
      "query,closestsame,closestup,closestdown,closestside\nq1,t2,t1,t3,t7\n" ∧
    cmdResult (.failOnce 4) (trStage (exTi false 0)) (runSchedule trEx fsched4) = .success ∧
    (finalSink (.failOnce 4) (trStage (exTi false 0)) (runSchedule trEx fsched4)).text = modelTR (exTi false 0) := by
  decide +kernel

end Examples

end Gofasta.Lemmas.FanoutFaults
