import Gofasta.Props.C14
import Gofasta.Props.C04
import Gofasta.Lemmas.AACalls
import Gofasta.Lemmas.SortSpec
import Gofasta.Lemmas.GffRowOrder
import Gofasta.Lemmas.Bytes
/-
C14, lifted from position lists to whole regions and to what the mutation caller receives.

A gene is described once (`Gene`) and rendered both ways: as a GenBank CDS feature (`Describes f g`: any of the
five location shapes, codon_start = k+1, gene, translation) and as its conformant GFF3 CDS rows (`Gene.rows`, the
`fwdRows` / `revRows` of Props/C14). The two routes build the same `Region`; for a whole annotation
the GFF route returns the stable sort (by smallest position) of the region list the GenBank route
returns, the same intergenic list, hence the same set of mutation records; equal lists when the file lists the
genes by ascending start.
-/
namespace Gofasta.Lemmas.RegionEquiv
open Gofasta Model Gofasta.Props.C14
open Gofasta.Lemmas.GffRowOrder (Ascending sortRows_of_sorted regionFromGFF_eq)

/-! ### one gene, described once -/

/-- a coding gene: segments in ascending genomic order, each continuation row with the phase its GFF row carries;
`k` = bases to skip before the first whole codon (codon_start - 1 = phase of the 5'-most row); `tr` = the text of
the GenBank translation qualifier -/
inductive Gene where
  | fwd (name : String) (k : Nat) (s0 : Nat × Nat) (rest : List ((Nat × Nat) × Nat)) (tr : List Nat)
  | rev (name : String) (k : Nat) (init : List ((Nat × Nat) × Nat)) (last : Nat × Nat) (tr : List Nat)

namespace Gene

def name : Gene → String
  | .fwd n _ _ _ _ => n
  | .rev n _ _ _ _ => n

def k : Gene → Nat
  | .fwd _ k _ _ _ => k
  | .rev _ k _ _ _ => k

def tr : Gene → List Nat
  | .fwd _ _ _ _ t => t
  | .rev _ _ _ _ t => t

def segs : Gene → List (Nat × Nat)
  | .fwd _ _ s0 rest _ => s0 :: rest.map (·.1)
  | .rev _ _ init last _ => init.map (·.1) ++ [last]

def strand : Gene → Int
  | .fwd .. => 1
  | .rev .. => -1

/-- all positions of the location in coding order, before codon_start is applied -/
def all : Gene → List Nat
  | g@(.fwd ..) => locPositions .join g.segs
  | g@(.rev ..) => locPositions .compJoin g.segs

def positions (g : Gene) : List Nat := g.all.drop g.k

def rows : Gene → List GffRow
  | .fwd n k s0 rest _ => fwdRows n k s0 rest
  | .rev n k init last _ => revRows n k init last

/-- the coding strand of the reference over the gene -/
def coding (ref : List Nat) : Gene → List Nat
  | g@(.fwd ..) => refBasesAt ref g.positions
  | g@(.rev ..) => complement (refBasesAt ref g.positions)

/-- the region both routes are expected to build -/
def region (g : Gene) : Region := ⟨g.name, g.strand, g.positions, g.tr ++ [42]⟩

/-- the skipped bases lie inside the 5'-most segment (codon_start is 1, 2 or 3 and segments are longer in practice).
For a reverse gene the GFF reader shortens the last row to `stop - phase` in ℕ; the second conjunct keeps that
subtraction exact (it follows from the first unless the segment starts at base 0). -/
def Offset : Gene → Prop
  | .fwd _ k s0 _ _ => k ≤ s0.2 + 1 - s0.1
  | .rev _ k _ last _ => k ≤ last.2 + 1 - last.1 ∧ k ≤ last.2

/-- the segments (hence the GFF rows) are listed by non-decreasing genomic start: what makes `rows` the order in
which CDSRegion2fromGFF, which sorts the rows of a feature by start (finding F-C14b), reads them -/
def AscStarts (g : Gene) : Prop := g.segs.Pairwise (fun s t => s.1 ≤ t.1)

/-- the location runs in the direction of its strand: what CDSRegion2fromGenbank reads the strand from -/
def Oriented : Gene → Prop
  | g@(.fwd ..) => ∀ a b, g.all.head? = some a → g.all.getLast? = some b → a ≤ b
  | g@(.rev ..) => ∃ a b, g.all.head? = some a ∧ g.all.getLast? = some b ∧ b < a

/-- **the proviso**: the translation qualifier (plus the stop) is the translation of the reference -/
def Faithful (ref : List Nat) (g : Gene) : Prop := translateGo true (g.coding ref) = some (g.tr ++ [42])

end Gene

/-- `f` is a GenBank rendering of `g`: a..b or join(..) for a forward gene; complement(a..b), complement(join(..)) or
join(complement(..),..) (segments then written in coding order) for a reverse gene -/
def Describes (f : GbFeature) (g : Gene) : Prop :=
  f.gene = g.name ∧ f.codonStart = g.k + 1 ∧ f.translation = g.tr ∧
  match g with
  | .fwd .. => (f.form = .range ∨ f.form = .join) ∧ f.segs = g.segs
  | .rev .. => (f.form = .compJoin ∧ f.segs = g.segs) ∨ ((f.form = .comp ∨ f.form = .joinComp) ∧ f.segs = g.segs.reverse)

theorem describes_all (f : GbFeature) (g : Gene) (h : Describes f g) : locPositions f.form f.segs = g.all := by
  obtain ⟨_, _, _, h⟩ := h
  cases g with
  | fwd n k s0 rest t =>
    obtain ⟨hf | hf, hs⟩ := h <;> simp only [hf, hs, Gene.all] <;> rfl
  | rev n k init last t =>
    rcases h with ⟨hf, hs⟩ | ⟨hf | hf, hs⟩
    · simp only [hf, hs, Gene.all]
    · simp only [hf, hs, Gene.all]
      exact pos_joinComp_eq_compJoin _
    · simp only [hf, hs, Gene.all]
      exact pos_joinComp_eq_compJoin _

/-! ### the GenBank route on a described gene -/

/-- how CDSRegion2fromGenbank reads the strand: first position greater than the last -/
def gbRev (all : List Nat) : Bool :=
  match all.head?, all.getLast? with
  | some a, some b => decide (a > b)
  | _, _ => false

theorem regionFromGenbank_eq (f : GbFeature) :
    regionFromGenbank f =
      if ((locPositions f.form f.segs).drop (f.codonStart - 1)).length % 3 ≠ 0 then none else
      some ⟨f.gene, if gbRev (locPositions f.form f.segs) then -1 else 1,
        (locPositions f.form f.segs).drop (f.codonStart - 1), f.translation ++ [42]⟩ := rfl

theorem genbank_strand (g : Gene) (ho : g.Oriented) : (if gbRev g.all then (-1 : Int) else 1) = g.strand := by
  cases g with
  | fwd n k s0 rest t =>
    simp only [Gene.Oriented] at ho
    simp only [Gene.strand]
    have : gbRev (Gene.fwd n k s0 rest t).all = false := by
      unfold gbRev
      split
      · rename_i a b ha hb
        have := ho a b ha hb
        simp only [decide_eq_false_iff_not]
        omega
      · rfl
    simp [this]
  | rev n k init last t =>
    simp only [Gene.Oriented] at ho
    obtain ⟨a, b, ha, hb, hab⟩ := ho
    simp only [Gene.strand, gbRev, ha, hb]
    simp [hab]

theorem genbank_region' (f : GbFeature) (g : Gene) (hd : Describes f g) :
    regionFromGenbank f = if g.positions.length % 3 ≠ 0 then none else
      some ⟨g.name, if gbRev g.all then -1 else 1, g.positions, g.tr ++ [42]⟩ := by
  have hall := describes_all f g hd
  obtain ⟨hn, hk, ht, _⟩ := hd
  rw [regionFromGenbank_eq, hall, hk, Nat.add_sub_cancel, hn, ht]
  rfl

theorem genbank_region (f : GbFeature) (g : Gene) (hd : Describes f g) (ho : g.Oriented) :
    regionFromGenbank f = if g.positions.length % 3 ≠ 0 then none else some g.region := by
  rw [genbank_region' f g hd, genbank_strand g ho]
  rfl

/-! ### the GFF route on one group of rows -/

theorem mem_rows (g : Gene) (r : GffRow) (hr : r ∈ g.rows) :
    ∃ x, r = match g with | .fwd .. => contRow g.name x | .rev .. => revRow g.name x := by
  cases g with
  | fwd n k s0 rest t =>
    rcases List.mem_cons.1 hr with rfl | hr
    · exact ⟨_, rfl⟩
    · obtain ⟨x, _, rfl⟩ := List.mem_map.1 hr; exact ⟨x, rfl⟩
  | rev n k init last t =>
    rcases List.mem_append.1 hr with hr | hr
    · obtain ⟨x, _, rfl⟩ := List.mem_map.1 hr; exact ⟨x, rfl⟩
    · rw [List.mem_singleton.1 hr]; exact ⟨_, rfl⟩

theorem rows_ne (g : Gene) : g.rows ≠ [] := by
  cases g with
  | fwd n k s0 rest t => exact List.cons_ne_nil _ _
  | rev n k init last t => exact List.append_ne_nil_of_right_ne_nil _ (List.cons_ne_nil _ _)

theorem rows_start (g : Gene) : g.rows.map (·.start) = g.segs.map (·.1) := by
  cases g <;> simp [Gene.rows, Gene.segs, fwdRows, revRows, contRow, revRow, Function.comp_def]

theorem rows_ascending (g : Gene) (h : g.AscStarts) : Ascending g.rows := by
  have := List.pairwise_map.2 h
  rw [← rows_start] at this
  exact List.pairwise_map.1 this

theorem gff_region (g : Gene) (ref : List Nat) (hoff : g.Offset) (hst : g.AscStarts) :
    regionFromGFF g.rows ref =
      (translateGo true (g.coding ref)).map (fun tr => ⟨g.name, g.strand, g.positions, tr⟩) := by
  have hasc := rows_ascending g hst
  obtain ⟨r0, hr0⟩ := Option.ne_none_iff_exists'.1 (mt List.head?_eq_none_iff.1 (rows_ne g))
  have hname : r0.name.getD "" = g.name := by
    obtain ⟨x, rfl⟩ := mem_rows g r0 (List.mem_of_head? hr0)
    cases g <;> rfl
  have hstrand := fun r hr => mem_rows g r hr
  cases g with
  | fwd n k s0 rest t =>
    rw [regionFromGFF_plus _ r0 ref hr0 hasc (fun r hr => by obtain ⟨x, rfl⟩ := hstrand r hr; rfl), hname]
    rw [show (Gene.fwd n k s0 rest t).rows = fwdRows n k s0 rest from rfl, positions_equiv_forward n k s0 rest hoff]
    rfl
  | rev n k init last t =>
    rw [regionFromGFF_minus _ r0 ref hr0 hasc (fun r hr => by obtain ⟨x, rfl⟩ := hstrand r hr; rfl), hname]
    rw [show (Gene.rev n k init last t).rows = revRows n k init last from rfl,
      positions_equiv_reverse n k init last hoff.1 hoff.2]
    rfl

theorem coding_length (g : Gene) (ref : List Nat) : (g.coding ref).length = g.positions.length := by
  cases g <;> simp [Gene.coding, refBasesAt, complement]

/-! ### one gene, both ways -/

theorem genbank_region_faithful (f : GbFeature) (g : Gene) (ref : List Nat) (hd : Describes f g) (hor : g.Oriented)
    (hf : g.Faithful ref) : regionFromGenbank f = some g.region := by
  have hm : g.positions.length % 3 = 0 := by
    rw [← coding_length g ref]
    exact Gofasta.Props.C04.translate_strict_mod3 _ _ hf
  rw [genbank_region f g hd hor, if_neg (by omega)]

/-- **C14** — a gene written as a GenBank CDS feature (any of the five location shapes, codon_start = k+1)
and as its conformant GFF3 CDS rows gives the SAME region (name, strand, positions, reference amino acids) by both
routes, provided the translation qualifier is the translation of the reference. -/
theorem region_equiv (f : GbFeature) (g : Gene) (ref : List Nat) (hd : Describes f g) (hoff : g.Offset)
    (hst : g.AscStarts) (hor : g.Oriented) (hf : g.Faithful ref) :
    regionFromGenbank f = some g.region ∧ regionFromGFF g.rows ref = some g.region := by
  refine ⟨genbank_region_faithful f g ref hd hor hf, ?_⟩
  rw [gff_region g ref hoff hst, hf]
  rfl

/-- without the proviso: whenever both routes succeed, positions and name agree; the strand
agrees for an oriented gene; the reference amino acids agree IF AND ONLY IF the translation qualifier is the
translation of the reference (the GenBank route copies the qualifier text, the GFF route translates) -/
theorem fields_equiv (f : GbFeature) (g : Gene) (ref : List Nat) (r1 r2 : Region) (hd : Describes f g)
    (hoff : g.Offset) (hst : g.AscStarts) (h1 : regionFromGenbank f = some r1) (h2 : regionFromGFF g.rows ref = some r2) :
    r1.positions = r2.positions ∧ r1.name = r2.name ∧ (g.Oriented → r1.strand = r2.strand) ∧
      (r1.translation = r2.translation ↔ g.Faithful ref) := by
  rw [genbank_region' f g hd] at h1
  rw [gff_region g ref hoff hst] at h2
  split at h1
  · cases h1
  · simp only [Option.some.injEq] at h1
    subst h1
    cases ht : translateGo true (g.coding ref) with
    | none => rw [ht] at h2; cases h2
    | some t =>
      rw [ht] at h2
      simp only [Option.map_some, Option.some.injEq] at h2
      subst h2
      refine ⟨rfl, rfl, fun ho => genbank_strand g ho, ?_⟩
      simp only [Gene.Faithful, ht, Option.some.injEq]
      exact eq_comm

/-! ### ascending segments are oriented -/

def AscSegs (segs : List (Nat × Nat)) : Prop := segs.Pairwise (fun s t => s.2 < t.1)

theorem asc_pairwise (segs : List (Nat × Nat)) (h : AscSegs segs) :
    (segs.flatMap fun s => rangeUp s.1 s.2).Pairwise (· < ·) := by
  rw [List.pairwise_flatMap]
  refine ⟨fun s _ => List.pairwise_lt_range', ?_⟩
  refine List.Pairwise.imp ?_ h
  intro s t hst x hx y hy
  have := mem_rangeUp _ _ _ hx
  have := mem_rangeUp _ _ _ hy
  omega

theorem oriented_of_asc (g : Gene) (h : AscSegs g.segs) (h2 : g.strand = -1 → 2 ≤ g.all.length) : g.Oriented := by
  cases g with
  | fwd n k s0 rest t =>
    intro a b ha hb
    exact (head_le_last _ (asc_pairwise _ h) a b ha hb).1
  | rev n k init last t =>
    have h2 := h2 rfl
    have hp := asc_pairwise _ h
    show ∃ a b, (locPositions .compJoin _).head? = some a ∧ (locPositions .compJoin _).getLast? = some b ∧ b < a
    have hlen : 2 ≤ (List.flatMap (fun s => rangeUp s.1 s.2) (Gene.rev n k init last t).segs).length := by
      have : (Gene.rev n k init last t).all = (List.flatMap (fun s => rangeUp s.1 s.2) (Gene.rev n k init last t).segs).reverse := rfl
      rw [this, List.length_reverse] at h2
      exact h2
    rw [pos_compJoin, pos_join, List.head?_reverse, List.getLast?_reverse]
    generalize (List.flatMap (fun s => rangeUp s.1 s.2) (Gene.rev n k init last t).segs) = l at hp hlen
    match l, hp, hlen with
    | x :: y :: t, hp, _ =>
      cases hb : (x :: y :: t).getLast? with
      | none => simp at hb
      | some b =>
        exact ⟨b, x, rfl, rfl, (head_le_last _ hp x b rfl hb).2 (by simp)⟩

theorem ascStarts_of_asc (g : Gene) (h : AscSegs g.segs) (hseg : ∀ s ∈ g.segs, s.1 ≤ s.2 + 1) : g.AscStarts := by
  unfold Gene.AscStarts
  unfold AscSegs at h
  refine List.Pairwise.imp_of_mem ?_ h
  intro s t hs _ hst
  have := hseg s hs
  omega

/-- a faithful gene has at least one codon (the stop) -/
theorem faithful_long (g : Gene) (ref : List Nat) (hf : g.Faithful ref) : 3 ≤ g.positions.length := by
  rw [← coding_length g ref]
  unfold Gene.Faithful at hf
  match hc : g.coding ref, hf with
  | [], hf => simp [translateGo] at hf
  | [_], hf => simp [translateGo] at hf
  | [_, _], hf => simp [translateGo] at hf
  | _ :: _ :: _ :: _, _ => simp

theorem oriented_of_asc_faithful (g : Gene) (ref : List Nat) (h : AscSegs g.segs) (hf : g.Faithful ref) : g.Oriented := by
  apply oriented_of_asc g h
  intro _
  have := faithful_long g ref hf
  have hl : g.positions.length ≤ g.all.length := by simp [Gene.positions]
  omega

/-! ### a whole annotation -/

def cdsRows (rows : List GffRow) : List GffRow :=
  rows.filter fun r => r.type == "CDS" || r.type == "mature_protein_region_of_CDS"

/-- the same rows as `GffRowOrder.cds`, in whose terms the reader is described there -/
theorem cdsRows_eq_cds (rows : List GffRow) : cdsRows rows = GffRowOrder.cds rows := rfl

def gid (g : Gene) : String := "cds-" ++ g.name

theorem rows_id (g : Gene) : ∀ r ∈ g.rows, r.id = some (gid g) := by
  intro r hr
  obtain ⟨x, rfl⟩ := mem_rows g r hr
  cases g <;> rfl

theorem rows_cds (g : Gene) : cdsRows g.rows = g.rows := by
  refine List.filter_eq_self.2 fun r hr => ?_
  obtain ⟨x, rfl⟩ := mem_rows g r hr
  cases g <;> rfl

theorem gid_inj (g h : Gene) (e : gid g = gid h) : g.name = h.name := (String.append_right_inj _).1 e

inductive AllDescribe : List GbFeature → List Gene → Prop where
  | nil : AllDescribe [] []
  | cons {f g fs gs} : Describes f g → AllDescribe fs gs → AllDescribe (f :: fs) (g :: gs)

theorem mapM_gff (ref : List Nat) (genes : List Gene) (hoff : ∀ g ∈ genes, g.Offset) (hst : ∀ g ∈ genes, g.AscStarts)
    (hf : ∀ g ∈ genes, g.Faithful ref) :
    (genes.map Gene.rows).mapM (fun g => regionFromGFF g ref) = some (genes.map Gene.region) :=
  mapM_map_eq_some _ _ _ genes fun g hg => by
    rw [gff_region g ref (hoff g hg) (hst g hg), show translateGo true (g.coding ref) = some (g.tr ++ [42]) from hf g hg]
    rfl

theorem mapM_genbank (ref : List Nat) : ∀ (fs : List GbFeature) (genes : List Gene), AllDescribe fs genes →
    (∀ g ∈ genes, g.Oriented) → (∀ g ∈ genes, g.Faithful ref) →
    fs.mapM regionFromGenbank = some (genes.map Gene.region) := by
  intro fs genes h
  induction h with
  | nil => intro _ _; rfl
  | @cons f g fs gs hd _ ih =>
    intro hor hf
    rw [List.mapM_cons, genbank_region_faithful f g ref hd (hor g List.mem_cons_self) (hf g List.mem_cons_self),
      ih (fun g hg => hor g (List.mem_cons_of_mem _ hg)) (fun g hg => hf g (List.mem_cons_of_mem _ hg))]
    rfl

theorem genbank_annotation (fs : List GbFeature) (genes : List Gene) (ref : List Nat) (L : Nat) (hfs : AllDescribe fs genes)
    (hoff : ∀ g ∈ genes, g.Offset) (hor : ∀ g ∈ genes, g.Oriented) (hf : ∀ g ∈ genes, g.Faithful ref) :
    regionsFromGenbank fs L = some (genes.map Gene.region, codes (genes.map Gene.region) L) := by
  have _ := hoff -- plays no part: the GenBank route drops `codon_start - 1` positions wherever they lie
  unfold regionsFromGenbank
  rw [mapM_genbank ref fs genes hfs hor hf]

theorem gid_nodup (genes : List Gene) (hnd : (genes.map Gene.name).Nodup) : (genes.map gid).Nodup :=
  List.pairwise_map.2 ((List.pairwise_map.1 hnd).imp fun hab he => hab (gid_inj _ _ he))

theorem gff_annotation (rows : List GffRow) (genes : List Gene) (ref : List Nat)
    (hrows : cdsRows rows = genes.flatMap Gene.rows)
    (hoff : ∀ g ∈ genes, g.Offset) (hst : ∀ g ∈ genes, g.AscStarts) (hf : ∀ g ∈ genes, g.Faithful ref)
    (hnd : (genes.map Gene.name).Nodup) (hne : ∀ g ∈ genes, g.name ≠ "") :
    regionsFromGFF rows ref = some (sortStable regionStartLt (genes.map Gene.region),
      codes (sortStable regionStartLt (genes.map Gene.region)) ref.length) := by
  rw [GffRowOrder.regionsFromGFF_blocks Gene.rows gid rows_id rows_ne rows ref genes (cdsRows_eq_cds rows ▸ hrows) (gid_nodup genes hnd),
    mapM_gff ref genes hoff hst hf]
  have hnamed : (genes.map Gene.region).filter (fun r => r.name != "") = genes.map Gene.region := by
    rw [List.filter_eq_self]
    intro r hr
    obtain ⟨g, hg, rfl⟩ := List.mem_map.1 hr
    exact bne_iff_ne.2 (hne g hg)
  simp only [hnamed]

/-! ### what the mutation caller receives -/

theorem codes_perm (rs1 rs2 : List Region) (h : rs1.Perm rs2) (L : Nat) : codes rs1 L = codes rs2 L := by
  unfold codes
  congr 1
  funext i
  rw [h.any_eq]

theorem variants_perm (ref q : List Nat) (rs1 rs2 : List Region) (inter : List Nat) (h : rs1.Perm rs2) (v : Variant) :
    v ∈ getVariantsPair ref q rs1 inter ↔ v ∈ getVariantsPair ref q rs2 inter := by
  simp only [mem_getVariantsPair_iff, h.mem_iff]

/-- for an annotation given both ways (same genes, same order; other GFF rows such as gene,
mRNA, exon lines may be interleaved) the GFF route returns the region list of the GenBank route, stably sorted by
smallest position, and the same intergenic list -/
theorem annotation_equiv (fs : List GbFeature) (rows : List GffRow) (genes : List Gene) (ref : List Nat)
    (hfs : AllDescribe fs genes) (hrows : cdsRows rows = genes.flatMap Gene.rows)
    (hoff : ∀ g ∈ genes, g.Offset) (hst : ∀ g ∈ genes, g.AscStarts) (hor : ∀ g ∈ genes, g.Oriented) (hf : ∀ g ∈ genes, g.Faithful ref)
    (hnd : (genes.map Gene.name).Nodup) (hne : ∀ g ∈ genes, g.name ≠ "")
    (rsB interB : _) (hB : regionsFromGenbank fs ref.length = some (rsB, interB))
    (rsF interF : _) (hF : regionsFromGFF rows ref = some (rsF, interF)) :
    rsB = genes.map Gene.region ∧ rsF = sortStable regionStartLt rsB ∧ rsF.Perm rsB ∧ interF = interB := by
  rw [genbank_annotation fs genes ref _ hfs hoff hor hf] at hB
  rw [gff_annotation rows genes ref hrows hoff hst hf hnd hne] at hF
  simp only [Option.some.injEq, Prod.mk.injEq] at hB hF
  obtain ⟨rfl, rfl⟩ := hB
  obtain ⟨rfl, rfl⟩ := hF
  exact ⟨rfl, rfl, sortStable_perm _, codes_perm _ _ (sortStable_perm _) _⟩

/-- hence the two routes report the same set of mutation records for every (reference row,
query row) pair -/
theorem variants_equiv (fs : List GbFeature) (rows : List GffRow) (genes : List Gene) (ref : List Nat)
    (hfs : AllDescribe fs genes) (hrows : cdsRows rows = genes.flatMap Gene.rows)
    (hoff : ∀ g ∈ genes, g.Offset) (hst : ∀ g ∈ genes, g.AscStarts) (hor : ∀ g ∈ genes, g.Oriented) (hf : ∀ g ∈ genes, g.Faithful ref)
    (hnd : (genes.map Gene.name).Nodup) (hne : ∀ g ∈ genes, g.name ≠ "")
    (rsB : List Region) (interB : List Nat) (hB : regionsFromGenbank fs ref.length = some (rsB, interB))
    (rsF : List Region) (interF : List Nat) (hF : regionsFromGFF rows ref = some (rsF, interF))
    (refRow qRow : List Nat) (v : Variant) :
    v ∈ getVariantsPair refRow qRow rsF interF ↔ v ∈ getVariantsPair refRow qRow rsB interB := by
  obtain ⟨_, _, hp, hi⟩ := annotation_equiv fs rows genes ref hfs hrows hoff hst hor hf hnd hne rsB interB hB rsF interF hF
  rw [hi]
  exact variants_perm refRow qRow rsF rsB interB hp v

/-- both routes succeed on a faithful annotation (so the hypotheses hB, hF above are never vacuous) -/
theorem both_succeed (fs : List GbFeature) (rows : List GffRow) (genes : List Gene) (ref : List Nat)
    (hfs : AllDescribe fs genes) (hrows : cdsRows rows = genes.flatMap Gene.rows)
    (hoff : ∀ g ∈ genes, g.Offset) (hst : ∀ g ∈ genes, g.AscStarts) (hor : ∀ g ∈ genes, g.Oriented) (hf : ∀ g ∈ genes, g.Faithful ref)
    (hnd : (genes.map Gene.name).Nodup) (hne : ∀ g ∈ genes, g.name ≠ "") :
    (regionsFromGenbank fs ref.length).isSome = true ∧ (regionsFromGFF rows ref).isSome = true := by
  rw [genbank_annotation fs genes ref _ hfs hoff hor hf, gff_annotation rows genes ref hrows hoff hst hf hnd hne]
  exact ⟨rfl, rfl⟩

/-- when the file lists the genes by non-decreasing smallest coding position (the order
NCBI writes them in), the two routes return literally the same pair (regions, intergenic positions), hence
`getVariantsPair` returns the same list -/
theorem annotation_equal_of_sorted (fs : List GbFeature) (rows : List GffRow) (genes : List Gene) (ref : List Nat)
    (hfs : AllDescribe fs genes) (hrows : cdsRows rows = genes.flatMap Gene.rows)
    (hoff : ∀ g ∈ genes, g.Offset) (hst : ∀ g ∈ genes, g.AscStarts) (hor : ∀ g ∈ genes, g.Oriented) (hf : ∀ g ∈ genes, g.Faithful ref)
    (hnd : (genes.map Gene.name).Nodup) (hne : ∀ g ∈ genes, g.name ≠ "")
    (hs : genes.Pairwise (fun g h => minPos g.positions ≤ minPos h.positions)) :
    regionsFromGFF rows ref = regionsFromGenbank fs ref.length := by
  rw [genbank_annotation fs genes ref _ hfs hoff hor hf, gff_annotation rows genes ref hrows hoff hst hf hnd hne]
  have hsorted : Sorted regionStartLt (genes.map Gene.region) :=
    List.pairwise_map.2 (hs.imp fun {g h} hgh =>
      show decide (minPos h.positions < minPos g.positions) = false from decide_eq_false (by omega))
  rw [sortStable_of_sorted _ hsorted]

theorem cdsRows_genes (genes : List Gene) : cdsRows (genes.flatMap Gene.rows) = genes.flatMap Gene.rows := by
  unfold cdsRows
  rw [List.filter_flatMap]
  congr 1
  funext g
  exact rows_cds g

/-- `variants_equiv` with `AscStarts` and `Oriented` replaced by: segments written in ascending order (`AscSegs`),
each with start ≤ end -/
theorem variants_equiv_asc (fs : List GbFeature) (rows : List GffRow) (genes : List Gene) (ref : List Nat)
    (hfs : AllDescribe fs genes) (hrows : cdsRows rows = genes.flatMap Gene.rows)
    (hoff : ∀ g ∈ genes, g.Offset) (hasc : ∀ g ∈ genes, AscSegs g.segs) (hseg : ∀ g ∈ genes, ∀ s ∈ g.segs, s.1 ≤ s.2)
    (hf : ∀ g ∈ genes, g.Faithful ref)
    (hnd : (genes.map Gene.name).Nodup) (hne : ∀ g ∈ genes, g.name ≠ "")
    (rsB : List Region) (interB : List Nat) (hB : regionsFromGenbank fs ref.length = some (rsB, interB))
    (rsF : List Region) (interF : List Nat) (hF : regionsFromGFF rows ref = some (rsF, interF))
    (refRow qRow : List Nat) (v : Variant) :
    v ∈ getVariantsPair refRow qRow rsF interF ↔ v ∈ getVariantsPair refRow qRow rsB interB :=
  variants_equiv fs rows genes ref hfs hrows hoff
    (fun g hg => ascStarts_of_asc g (hasc g hg) (fun s hs => Nat.le_succ_of_le (hseg g hg s hs)))
    (fun g hg => oriented_of_asc_faithful g ref (hasc g hg) (hf g hg)) hf hnd hne rsB interB hB rsF interF hF refRow qRow v

/-! ### the hypotheses are needed: counterexamples (all checked by evaluation) -/

/-- Oriented (forward): join(10..14,3..6), a gene across the origin of a circular genome. The GenBank route reads the
strand from first > last and says reverse; the GFF rows say '+' -/
example : (regionFromGenbank ⟨"g", .join, [(10, 14), (3, 6)], 1, stringToBytes "KK"⟩).map (·.strand) = some (-1) ∧
    (regionFromGFF (fwdRows "g" 0 (10, 14) [((3, 6), 0)]) (stringToBytes "AAAAAAAAAAAAAAAAAAAA")).map (·.strand) = some 1 := by
  rw [stringToBytes_ofList, stringToBytes_ofList]
  decide +kernel

/-- AscStarts: the same gene, join(10..14,3..6) with rows (10,14) then (3,6). The GenBank route keeps the coding order
10..14,3..6; the GFF route orders the rows by start and reads 3..6,10..14 -/
example : (regionFromGenbank ⟨"g", .join, [(10, 14), (3, 6)], 1, stringToBytes "KK"⟩).map (·.positions) =
      some [10, 11, 12, 13, 14, 3, 4, 5, 6] ∧
    (regionFromGFF (fwdRows "g" 0 (10, 14) [((3, 6), 0)]) (stringToBytes "AAAAAAAAAAAAAAAAAAAA")).map (·.positions) =
      some [3, 4, 5, 6, 10, 11, 12, 13, 14] := by
  rw [stringToBytes_ofList, stringToBytes_ofList]
  decide +kernel

/-- Oriented (reverse): complement(5..5) with codon_start 2 (a one-base location): strands differ, no positions -/
example : (regionFromGenbank ⟨"g", .comp, [(5, 5)], 2, []⟩).map (fun r => (r.strand, r.positions)) = some (1, []) ∧
    (regionFromGFF (revRows "g" 1 [] (5, 5)) (stringToBytes "AAAAAAAAAA")).map (fun r => (r.strand, r.positions)) = some (-1, []) := by
  rw [stringToBytes_ofList]
  decide +kernel

/-- Offset: join(3..3,10..15) with codon_start 3: the GenBank route skips into the second segment, the GFF route
only shortens the first row -/
example : (regionFromGenbank ⟨"g", .join, [(3, 3), (10, 15)], 3, []⟩).map (·.positions) = none ∧
    (regionFromGFF (fwdRows "g" 2 (3, 3) [((10, 15), 0)]) (stringToBytes "AAAAAAAAAAAAAAAAAAAA")).map (·.positions) =
      some [10, 11, 12, 13, 14, 15] := by
  rw [stringToBytes_ofList]
  decide +kernel

def cxRef : List Nat := stringToBytes "CCATGAAATAACC"
def cxF : GbFeature := ⟨"g", .range, [(3, 11)], 1, stringToBytes "MN"⟩

/-- Faithful: the reference reads ATG AAA TAA = MK*, the qualifier says MN. Comparing the reference with itself the
GenBank route reports aa:g:N2K, the GFF route reports nothing -/
example : ((regionFromGenbank cxF).map fun r =>
      (getVariantsPair (cxRef.map (enc false)) (cxRef.map (enc false)) [r] []).map (formatVariant false)) = some ["aa:g:N2K"] ∧
    ((regionFromGFF (fwdRows "g" 0 (3, 11) []) cxRef).map fun r =>
      (getVariantsPair (cxRef.map (enc false)) (cxRef.map (enc false)) [r] []).map (formatVariant false)) = some [] := by
  rw [cxF, cxRef, stringToBytes_ofList, stringToBytes_ofList]
  decide +kernel

/-- Faithful: a reference codon that does not translate (GAN) makes the GFF route fail; the GenBank route never
looks at the reference bases -/
example : (regionFromGenbank cxF).isSome = true ∧
    (regionFromGFF (fwdRows "g" 0 (3, 11) []) (stringToBytes "CCATGANATAACC")).isSome = false := by
  rw [stringToBytes_ofList]
  decide +kernel

/-- distinct names: two genes called B share the ID cds-B, the GFF route merges their rows into one region -/
example : (regionsFromGFF (fwdRows "B" 0 (4, 12) [] ++ fwdRows "B" 0 (1, 3) []) (stringToBytes "ATGATGAAATAACC")).map
      (fun x => x.1.map (·.positions)) = some [[1, 2, 3, 4, 5, 6, 7, 8, 9, 10, 11, 12]] ∧
    (regionsFromGenbank [⟨"B", .range, [(4, 12)], 1, stringToBytes "MK"⟩, ⟨"B", .range, [(1, 3)], 1, []⟩] 14).map
      (fun x => x.1.map (·.positions)) = some [[4, 5, 6, 7, 8, 9, 10, 11, 12], [1, 2, 3]] := by
  rw [stringToBytes_ofList, stringToBytes_ofList]
  decide +kernel

/-- non-empty names: a gene without a name is dropped by the GFF route (its positions become intergenic) and kept by
the GenBank route -/
example : (regionsFromGFF (fwdRows "" 0 (4, 12) []) (stringToBytes "ATGATGAAATAACC")).map
      (fun x => (x.1.length, x.2)) = some (0, [1, 2, 3, 4, 5, 6, 7, 8, 9, 10, 11, 12, 13, 14]) ∧
    (regionsFromGenbank [⟨"", .range, [(4, 12)], 1, stringToBytes "MK"⟩] 14).map
      (fun x => (x.1.length, x.2)) = some (1, [1, 2, 3, 13, 14]) := by
  rw [stringToBytes_ofList, stringToBytes_ofList]
  decide +kernel

/-- order: genes listed by descending start come back in file order from the GenBank route and sorted from the GFF
route (same regions, same intergenic list) -/
example : (regionsFromGFF (fwdRows "A" 0 (4, 12) [] ++ fwdRows "B" 0 (1, 3) []) (stringToBytes "ATGATGAAATAACC")).map
      (fun x => (x.1.map (·.name), x.2)) = some (["B", "A"], [13, 14]) ∧
    (regionsFromGenbank [⟨"A", .range, [(4, 12)], 1, stringToBytes "MK"⟩, ⟨"B", .range, [(1, 3)], 1, []⟩] 14).map
      (fun x => (x.1.map (·.name), x.2)) = some (["A", "B"], [13, 14]) := by
  rw [stringToBytes_ofList, stringToBytes_ofList]
  decide +kernel

/-! ### non-vacuity: a two-gene annotation satisfying every hypothesis -/

/-- positions 2..8,12..14 forward with codon_start 2 (C ATG AAA / TAA), 18..26 reverse (TTATTTCAT) -/
def nvRef : List Nat := stringToBytes "CCATGAAAGGGTAACCCTTATTTCATCC"
def nvA : Gene := .fwd "A" 1 (2, 8) [((12, 14), 0)] (stringToBytes "MK")
def nvB : Gene := .rev "B" 0 [] (18, 26) (stringToBytes "MK")
def nvFs : List GbFeature :=
  [⟨"A", .join, [(2, 8), (12, 14)], 2, stringToBytes "MK"⟩, ⟨"B", .comp, [(18, 26)], 1, stringToBytes "MK"⟩]

theorem forall_nv {P : Gene → Prop} (ha : P nvA) (hb : P nvB) : ∀ g ∈ [nvA, nvB], P g := by
  intro g hg
  simp only [List.mem_cons, List.not_mem_nil, or_false] at hg
  rcases hg with rfl | rfl <;> assumption

theorem nv_hyps : AllDescribe nvFs [nvA, nvB] ∧ (∀ g ∈ [nvA, nvB], g.Offset) ∧ (∀ g ∈ [nvA, nvB], AscSegs g.segs) ∧
    (∀ g ∈ [nvA, nvB], g.Faithful nvRef) ∧ ([nvA, nvB].map Gene.name).Nodup ∧ (∀ g ∈ [nvA, nvB], g.name ≠ "") ∧
    [nvA, nvB].Pairwise (fun g h => minPos g.positions ≤ minPos h.positions) := by
  refine ⟨.cons ⟨rfl, rfl, rfl, Or.inr rfl, rfl⟩ (.cons ⟨rfl, rfl, rfl, Or.inr ⟨Or.inl rfl, rfl⟩⟩ .nil),
    forall_nv (show 1 ≤ 8 + 1 - 2 by omega) (show 0 ≤ 26 + 1 - 18 ∧ 0 ≤ 26 by omega),
    forall_nv (show List.Pairwise _ [(2, 8), (12, 14)] by simp) (show List.Pairwise _ [(18, 26)] by simp),
    forall_nv ?_ ?_, by decide +kernel, forall_nv (by decide +kernel) (by decide +kernel), by decide +kernel⟩
  · show translateGo true (refBasesAt (stringToBytes _) _) = some (stringToBytes _ ++ _)
    rw [stringToBytes_ofList, stringToBytes_ofList]
    decide +kernel
  · show translateGo true (complement (refBasesAt (stringToBytes _) _)) = some (stringToBytes _ ++ _)
    rw [stringToBytes_ofList, stringToBytes_ofList]
    decide +kernel

theorem nv_ascStarts : ∀ g ∈ [nvA, nvB], g.AscStarts :=
  forall_nv (show List.Pairwise _ [(2, 8), (12, 14)] by simp) (show List.Pairwise _ [(18, 26)] by simp)

/-- the theorem applies: both routes return the same pair -/
example : regionsFromGFF ([nvA, nvB].flatMap Gene.rows) nvRef = regionsFromGenbank nvFs nvRef.length := by
  obtain ⟨h1, h2, h3, h4, h5, h6, h7⟩ := nv_hyps
  exact annotation_equal_of_sorted nvFs _ [nvA, nvB] nvRef h1 (cdsRows_genes _) h2 nv_ascStarts
    (fun g hg => oriented_of_asc_faithful g nvRef (h3 g hg) (h4 g hg)) h4 h5 h6 h7

/-- and this is the pair -/
example : (regionsFromGenbank nvFs nvRef.length).map (fun x => x.1.map (fun r => (r.name, r.strand))) =
      some [("A", (1 : Int)), ("B", (-1 : Int))] ∧
    (regionsFromGenbank nvFs nvRef.length).map (fun x => x.1.map (fun r => (r.positions, bytesToString r.translation))) =
      some [([3, 4, 5, 6, 7, 8, 12, 13, 14], "MK*"), ([26, 25, 24, 23, 22, 21, 20, 19, 18], "MK*")] ∧
    (regionsFromGenbank nvFs nvRef.length).map (·.2) = some [1, 2, 9, 10, 11, 15, 16, 17, 27, 28] := by
  rw [nvFs, nvRef, stringToBytes_ofList, stringToBytes_ofList]
  decide +kernel

/-! ### how much of the proviso the caller really uses -/

/-- a step reads the reference amino acid only when it closes a codon, at the index of that codon; and it moves
`3 * aaCounter + codon.length` on by at most one -/
theorem aaStep_congr (ref q cols : List Nat) (n : String) (sd : Int) (ps t1 t2 : List Nat) (N : Nat) (s : AAState) (p : Nat)
    (ht : ∀ i, 3 * i + 3 ≤ N → t1.getD i 0 = t2.getD i 0)
    (hinv : 3 * s.aaCounter + s.codon.length + 1 ≤ N) :
    aaStep ref q cols ⟨n, sd, ps, t1⟩ s p = aaStep ref q cols ⟨n, sd, ps, t2⟩ s p ∧
      3 * (aaStep ref q cols ⟨n, sd, ps, t2⟩ s p).aaCounter + (aaStep ref q cols ⟨n, sd, ps, t2⟩ s p).codon.length ≤
        3 * s.aaCounter + s.codon.length + 1 := by
  unfold aaStep
  cases hl : cols[p - 1]? with
  | none => exact ⟨rfl, Nat.le_succ _⟩
  | some c =>
    dsimp only
    by_cases hc : (s.codon ++ [dec (q.getD c 0)]).length = 3
    · have h2 : s.codon.length = 2 := by simpa using hc
      rw [if_pos hc, if_pos hc, ht s.aaCounter (by omega)]
      refine ⟨rfl, ?_⟩
      simp only [apply_ite AAState.aaCounter, apply_ite AAState.codon, ite_self, List.length_nil]
      omega
    · rw [if_neg hc, if_neg hc]
      refine ⟨rfl, ?_⟩
      dsimp only
      rw [List.length_append, List.length_singleton]
      omega

theorem aaFold_congr (ref q cols : List Nat) (n : String) (sd : Int) (ps t1 t2 : List Nat) (N : Nat)
    (ht : ∀ i, 3 * i + 3 ≤ N → t1.getD i 0 = t2.getD i 0) :
    ∀ (l : List Nat) (s : AAState), 3 * s.aaCounter + s.codon.length + l.length ≤ N →
    l.foldl (aaStep ref q cols ⟨n, sd, ps, t1⟩) s = l.foldl (aaStep ref q cols ⟨n, sd, ps, t2⟩) s := by
  intro l
  induction l with
  | nil => intro s _; rfl
  | cons p t ih =>
    intro s hinv
    rw [List.length_cons] at hinv
    obtain ⟨h1, h2⟩ := aaStep_congr ref q cols n sd ps t1 t2 N s p ht (by omega)
    rw [List.foldl_cons, List.foldl_cons, h1]
    exact ih _ (by omega)

/-- the caller reads the reference amino acids of a region only at the indices of its whole
codons: two regions with the same name, strand and positions whose translations agree there give the same records -/
theorem getAAsPair_congr (ref q cols : List Nat) (r1 r2 : Region) (hn : r1.name = r2.name) (hs : r1.strand = r2.strand)
    (hp : r1.positions = r2.positions)
    (ht : ∀ i, 3 * i + 3 ≤ r1.positions.length → r1.translation.getD i 0 = r2.translation.getD i 0) :
    getAAsPair ref q cols r1 = getAAsPair ref q cols r2 := by
  obtain ⟨n1, s1, p1, t1⟩ := r1
  obtain ⟨n2, s2, p2, t2⟩ := r2
  simp only at hn hs hp ht
  subst hn hs hp
  unfold getAAsPair
  dsimp only
  rw [aaFold_congr ref q cols n1 s1 p1 t1 t2 p1.length ht p1 {} (by simp)]

/-- one gene, both ways, under the weaker proviso "the qualifier agrees with the translation of
the reference on the gene's whole codons" (e.g. a partial CDS without stop codon, where the appended '*' makes the
two translation strings differ): the amino-acid and codon records of the two regions are the same -/
theorem aas_equiv_weak (f : GbFeature) (g : Gene) (ref : List Nat) (r1 r2 : Region) (hd : Describes f g)
    (hoff : g.Offset) (hst : g.AscStarts) (hor : g.Oriented) (h1 : regionFromGenbank f = some r1)
    (h2 : regionFromGFF g.rows ref = some r2)
    (hw : ∀ i, 3 * i + 3 ≤ r1.positions.length → r1.translation.getD i 0 = r2.translation.getD i 0)
    (refRow qRow cols : List Nat) : getAAsPair refRow qRow cols r1 = getAAsPair refRow qRow cols r2 := by
  obtain ⟨hp, hn, hs, _⟩ := fields_equiv f g ref r1 r2 hd hoff hst h1 h2
  exact getAAsPair_congr refRow qRow cols r1 r2 hn (hs hor) hp hw

/-- a CDS without stop codon (3..8 = ATG AAA, qualifier MK): the regions differ in the translation (MK* against MK),
the proviso `Faithful` fails, the weak proviso holds -/
example : (regionFromGenbank ⟨"g", .range, [(3, 8)], 1, stringToBytes "MK"⟩).map (fun r => bytesToString r.translation) = some "MK*" ∧
    (regionFromGFF (fwdRows "g" 0 (3, 8) []) (stringToBytes "CCATGAAACC")).map (fun r => bytesToString r.translation) = some "MK" := by
  rw [stringToBytes_ofList, stringToBytes_ofList]
  decide +kernel

end Gofasta.Lemmas.RegionEquiv
