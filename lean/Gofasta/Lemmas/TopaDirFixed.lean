import Gofasta.Lemmas.TopaCommands
/-
`gofasta sam toPairAlign -o <directory>`: the directory writer of the Go code.  It re-orders the pairs by their input
index exactly like the stdout writer (a pending map keyed by index, a counter, a flush loop) and creates the file of a
pair when the pair is FLUSHED.  The files are therefore created in input order whatever the arrival order, a later
block of the same name replaces the earlier one, and the theorems need no hypothesis on the names.
(`topaDirCfg` of Lemmas/TopaCommands is the writer that creates the file when the pair ARRIVES; its result depends on
the schedule when two blocks share a name, `Examples.topaDupEx` there: finding F-C12d.)
-/
set_option autoImplicit false

namespace Gofasta.Lemmas.TopaDirFixed
open Gofasta Gofasta.Model Gofasta.Driver
open Gofasta.Model.SchedChain Gofasta.Lemmas.SchedChain Gofasta.Lemmas.SchedCommands
open Gofasta.Lemmas.FanoutCommands   -- the namespace of Lemmas/TopaCommands

section generic
variable {α β ε : Type}

/-- state of the directory writer goroutine: the pending map with its counter (`ro`, as in `TextW`) and the directory
(file name to contents) -/
structure DirW (β : Type) where
  ro : Reorder.St β
  dir : List (String × String)

def DirW.start : DirW β := ⟨⟨[], 0, []⟩, []⟩

/-- the loop body: store the record under its index, flush, and create the file of each flushed record, in the
order of the flush -/
def DirW.absorb (file : β → String × String) (st : DirW β) (r : Nat × β) : DirW β :=
  let ro' := Reorder.recv st.ro r
  ⟨ro', ((ro'.out.drop st.ro.out.length).map file).foldl fsWrite st.dir⟩

theorem DirW.absorb_ro (file : β → String × String) (st : DirW β) (r : Nat × β) :
    (DirW.absorb file st r).ro = Reorder.recv st.ro r := rfl

theorem DirW.run (file : β → String × String) (recs : List (Nat × β)) :
    (recs.foldl (DirW.absorb file) DirW.start).ro.out = Reorder.run recs ∧
      (recs.foldl (DirW.absorb file) DirW.start).dir = dirOf ((Reorder.run recs).map file) :=
  ⟨foldl_ro_out DirW.ro _ 0 (fun _ _ => rfl) recs _ rfl,
    foldl_ro_acc DirW.ro DirW.dir (fun dir l => (l.map file).foldl fsWrite dir) _ 0 (fun _ _ => rfl) (fun _ _ => rfl)
      (fun a l l' => by rw [List.map_append, List.foldl_append]) recs _ rfl rfl⟩

end generic

section chain
variable {γ ε : Type}

/-- **any number of pools, re-ordering directory writer, every schedule**: in every reachable state in which main
has returned nil, every item went through all the pools, the writer flushed the results in input order, and the
directory is what creating their files in input order leaves -/
theorem chain_dir_writer_every_schedule {cfg : Cfg γ ε (DirW γ)} {s : State γ ε (DirW γ)}
    (file : γ → String × String) (hN : ∀ P ∈ cfg.pools, 1 ≤ P.N)
    (habs : ∀ st r, cfg.absorb st r = .ok (DirW.absorb file st r))
    (hfin : ∀ st, cfg.finish st = .ok st)
    (hinit : cfg.init = DirW.start)
    (hr : Reach cfg s) (hm : s.main = .ret none) :
    ∃ ys : List γ, cfg.items.map (pass cfg.pools) = ys.map Except.ok ∧ s.wst.ro.out = ys ∧
      s.wst.dir = (ys.map file).foldl fsWrite [] := by
  obtain ⟨ys, hys⟩ := Lemmas.Sched.outputs_exist (complete_of_ret hN hr hm).2.all_ok
  obtain ⟨arr, _, _, hrun, hst⟩ := chain_total_writer hys _ id hN habs hfin hr hm
  exact ⟨ys, hys, by rw [hst, hinit, id, ← hrun]; exact DirW.run file arr⟩

theorem chain_dir_writer_deterministic {cfg : Cfg γ ε (DirW γ)} {s1 s2 : State γ ε (DirW γ)}
    (file : γ → String × String) (hN : ∀ P ∈ cfg.pools, 1 ≤ P.N)
    (habs : ∀ st r, cfg.absorb st r = .ok (DirW.absorb file st r))
    (hfin : ∀ st, cfg.finish st = .ok st)
    (hinit : cfg.init = DirW.start)
    (hr1 : Reach cfg s1) (hm1 : s1.main = .ret none) (hr2 : Reach cfg s2) (hm2 : s2.main = .ret none) :
    s1.wst.dir = s2.wst.dir := by
  obtain ⟨ys1, hys1, _, hd1⟩ := chain_dir_writer_every_schedule file hN habs hfin hinit hr1 hm1
  obtain ⟨ys2, hys2, _, hd2⟩ := chain_dir_writer_every_schedule file hN habs hfin hinit hr2 hm2
  rw [hd1, hd2, map_ok_inj (hys1.symm.trans hys2)]

end chain

/-- `sam toPairAlign -o dir` as a run of the chain with two pools: the writer re-orders the pairs by input index and
creates the file of a pair when the pair is flushed -/
def topaDirFixedCfg (ref : List Nat) (refName : String) (wrap : Int) (omitRef omitIns : Bool) (w : Nat × Nat × Bool)
    (blocks : List (List SamRec)) (N1 N2 cap0 cap1 cap2 : Nat) (rf : Option (Nat × CmdErr)) :
    Cfg PA CmdErr (DirW PA) where
  items := blocks.map .block
  pools := paPools ref omitIns w N1 N2 cap1 cap2
  cap0 := cap0
  readFail := rf
  absorb := fun st r => .ok (DirW.absorb (paFile wrap refName omitRef) st r)
  finish := fun st => .ok st
  init := DirW.start

/-- **sam toPairAlign to a directory, every schedule of the two-pool chain**: whenever the
driver returns nil the directory is what creating the files of the sequential model IN INPUT ORDER leaves - the
same list for every schedule, with no hypothesis on the query names; the file called n holds the text of the last
file called n in input order -/
theorem topa_dir_fixed_every_schedule (ref : List Nat) (refName : String) (start stop wrap : Int) (omitRef omitIns : Bool)
    (recs : List SamRec) (w : Nat × Nat × Bool) (hargs : checkArgs ref.length start stop = some w)
    (N1 N2 cap0 cap1 cap2 : Nat) (rf : Option (Nat × CmdErr)) (hN1 : 1 ≤ N1) (hN2 : 1 ≤ N2) {s : State _ _ _}
    (hr : Reach (topaDirFixedCfg ref refName wrap omitRef omitIns w (samBlocks recs) N1 N2 cap0 cap1 cap2 rf) s)
    (hm : s.main = .ret none) :
    ∃ files, toPairAlign ref refName start stop wrap omitRef omitIns recs = some files ∧
      s.wst.dir = files.foldl fsWrite [] ∧
      (∀ n, List.lookup n s.wst.dir = List.lookup n files.reverse) ∧
      (s.wst.dir.map Prod.fst).Nodup := by
  refine ⟨_, toPairAlign_files ref refName start stop wrap omitRef omitIns recs w hargs, ?_⟩
  obtain ⟨arr, _, _, hrun, hst⟩ := topa_total rfl rfl _ (fun _ _ => rfl) (fun _ => rfl) hN1 hN2 hr hm
  have hd : s.wst.dir = dirOf (((samBlocks recs).map (paBoth ref omitIns w)).map (paFile wrap refName omitRef)) := by
    rw [hst, ← hrun]
    exact (DirW.run _ arr).2
  rw [hd]
  exact ⟨rfl, fun n => lookup_dirOf n _, dirOf_nodup _⟩

theorem topa_dir_fixed_model (ref : List Nat) (refName : String) (start stop wrap : Int) (omitRef omitIns : Bool)
    (recs : List SamRec) (w : Nat × Nat × Bool) (hargs : checkArgs ref.length start stop = some w)
    (N1 N2 cap0 cap1 cap2 : Nat) (rf : Option (Nat × CmdErr)) (hN1 : 1 ≤ N1) (hN2 : 1 ≤ N2) {s : State _ _ _}
    (hr : Reach (topaDirFixedCfg ref refName wrap omitRef omitIns w (samBlocks recs) N1 N2 cap0 cap1 cap2 rf) s)
    (hm : s.main = .ret none) :
    some s.wst.dir = (toPairAlign ref refName start stop wrap omitRef omitIns recs).map dirOf := by
  obtain ⟨files, hf, hd, _⟩ := topa_dir_fixed_every_schedule ref refName start stop wrap omitRef omitIns recs w hargs
    N1 N2 cap0 cap1 cap2 rf hN1 hN2 hr hm
  rw [hf, hd]
  rfl

/-- **determinism**: two reachable states in which the driver has returned nil - the end states of any two
schedules - have literally equal directories (hence equal as lookup functions); any block list, any names, any
window -/
theorem topa_dir_fixed_deterministic (ref : List Nat) (refName : String) (wrap : Int) (omitRef omitIns : Bool)
    (blocks : List (List SamRec)) (w : Nat × Nat × Bool)
    (N1 N2 cap0 cap1 cap2 : Nat) (rf : Option (Nat × CmdErr)) (hN1 : 1 ≤ N1) (hN2 : 1 ≤ N2) {s1 s2 : State _ _ _}
    (hr1 : Reach (topaDirFixedCfg ref refName wrap omitRef omitIns w blocks N1 N2 cap0 cap1 cap2 rf) s1)
    (hm1 : s1.main = .ret none)
    (hr2 : Reach (topaDirFixedCfg ref refName wrap omitRef omitIns w blocks N1 N2 cap0 cap1 cap2 rf) s2)
    (hm2 : s2.main = .ret none) :
    s1.wst.dir = s2.wst.dir ∧ ∀ n, List.lookup n s1.wst.dir = List.lookup n s2.wst.dir := by
  have h := chain_dir_writer_deterministic (paFile wrap refName omitRef) (two_pools_pos hN1 hN2) (fun _ _ => rfl)
    (fun _ => rfl) rfl hr1 hm1 hr2 hm2
  exact ⟨h, fun n => by rw [h]⟩

theorem topa_dir_fixed_runSchedule (ref : List Nat) (refName : String) (start stop wrap : Int) (omitRef omitIns : Bool)
    (recs : List SamRec) (w : Nat × Nat × Bool) (hargs : checkArgs ref.length start stop = some w)
    (N1 N2 cap0 cap1 cap2 : Nat) (hN1 : 1 ≤ N1) (hN2 : 1 ≤ N2) (sched : List Nat)
    (hlen : μ (topaDirFixedCfg ref refName wrap omitRef omitIns w (samBlocks recs) N1 N2 cap0 cap1 cap2 none)
      (init (topaDirFixedCfg ref refName wrap omitRef omitIns w (samBlocks recs) N1 N2 cap0 cap1 cap2 none)) ≤ sched.length) :
    (runSchedule (topaDirFixedCfg ref refName wrap omitRef omitIns w (samBlocks recs) N1 N2 cap0 cap1 cap2 none) sched).main
      = .ret none ∧
    some (runSchedule (topaDirFixedCfg ref refName wrap omitRef omitIns w (samBlocks recs) N1 N2 cap0 cap1 cap2 none) sched).wst.dir
      = (toPairAlign ref refName start stop wrap omitRef omitIns recs).map dirOf := by
  have hm := topa_returns_nil rfl rfl rfl (fun _ _ => ⟨_, rfl⟩) (fun _ => ⟨_, rfl⟩) hN1 hN2 sched hlen
  exact ⟨hm, topa_dir_fixed_model ref refName start stop wrap omitRef omitIns recs w hargs
    N1 N2 cap0 cap1 cap2 none hN1 hN2 (runSchedule_reach _ sched) hm⟩

/-! ## the statements are not vacuous: the input on which the on-arrival writer (`topaDirCfg`) is schedule-dependent -/

namespace Examples
open Gofasta.Lemmas.FanoutCommands.Examples

/-- the input of `topaDupEx` of Lemmas/TopaCommands (blocks called q, r, q), this writer -/
def topaDupFixedEx :=
  topaDirFixedCfg paRef "ref" (-1) true false paW (samBlocks [paRec1, paRec2, paRec4]) 2 2 1 2 2 none

set_option maxRecDepth 100000 in
/-- the two schedules of the counterexample: the pairs still arrive at the writer in the orders 0, 1, 2 and 1, 2, 0,
but both runs leave the same directory - the file q holds the text of the LATER block called q -/
example :
    (samBlocks [paRec1, paRec2, paRec4]).map (fun b => (b.headD default).name) = ["q", "r", "q"] ∧
    (runSchedule topaDupFixedEx csched1).main = .ret none ∧ (runSchedule topaDupFixedEx csched3).main = .ret none ∧
    (runSchedule topaDupFixedEx csched1).arrival.map (·.1) = [0, 1, 2] ∧
    (runSchedule topaDupFixedEx csched3).arrival.map (·.1) = [1, 2, 0] ∧
    (runSchedule topaDupFixedEx csched1).wst.dir = (runSchedule topaDupFixedEx csched3).wst.dir ∧
    (runSchedule topaDupFixedEx csched1).wst.dir = [("q", ">q\nNNNTTT\n"), ("r", ">r\nNGGTAN\n")] ∧
    List.lookup "q" (runSchedule topaDupFixedEx csched1).wst.dir = some ">q\nNNNTTT\n" ∧
    List.lookup "q" (runSchedule topaDupFixedEx csched3).wst.dir = some ">q\nNNNTTT\n" ∧
    some (runSchedule topaDupFixedEx csched1).wst.dir =
      (toPairAlign paRef "ref" 2 7 (-1) true false [paRec1, paRec2, paRec4]).map dirOf := by
  decide +kernel

/-- the on-arrival writer of Lemmas/TopaCommands on the same two schedules, for comparison: different files q -/
example :
    List.lookup "q" (runSchedule topaDupEx csched1).wst ≠ List.lookup "q" (runSchedule topaDupEx csched3).wst := by
  decide +kernel

/-- and the general theorem says the same about every schedule -/
example (sched : List Nat) (h : (runSchedule topaDupFixedEx sched).main = .ret none) :
    (runSchedule topaDupFixedEx sched).wst.dir = [("q", ">q\nNNNTTT\n"), ("r", ">r\nNGGTAN\n")] := by
  have := topa_dir_fixed_model paRef "ref" 2 7 (-1) true false [paRec1, paRec2, paRec4] paW paW_ok 2 2 1 2 2 none
    (by decide) (by decide) (runSchedule_reach _ sched) h
  have hm : (toPairAlign paRef "ref" 2 7 (-1) true false [paRec1, paRec2, paRec4]).map dirOf =
      some [("q", ">q\nNNNTTT\n"), ("r", ">r\nNGGTAN\n")] := by decide +kernel
  rw [hm] at this
  exact Option.some.inj this

end Examples

end Gofasta.Lemmas.TopaDirFixed
