import Gofasta.Props.C16
import Gofasta.Props.C15
/-
What `sam toMultiAlign` prints (`tomaRecordText`, one record after the other) is read back by the encoded FASTA readers
as the records that were written (C11's FASTA route, C15's "--wrap only re-breaks"): the text is one of the layouts of
C16.layout_independent. A written record is a triple `r`: `r.1` the name printed after '>', `r.2.1` the sequence bytes,
`r.2.2` the ID the reader is expected to find in the name (`WriteOk.id`).
-/
namespace Gofasta.Lemmas.FastaWrite
open Gofasta Base Model Spec Lemmas

/-- the sequence lines of a record as the writer breaks them -/
def seqChunks (w : Int) (s : List Nat) : List (List Nat) := if w > 0 then chunk w.toNat s else [s]

theorem wrapLines_bytes (w : Int) (hw : w > 0) (s : List Nat) (h : ∀ b ∈ s, b < 128) :
    stringToBytes (wrapLines w s) = (chunk w.toNat s).flatMap fun l => l ++ [10] := by
  rw [wrapLines, if_neg (by omega), stringToBytes_join, List.map_map, List.flatMap_def]
  congr 1
  apply List.map_congr_left
  intro l hl
  simp only [Function.comp]
  rw [stringToBytes_append, stringToBytes_bytesToString l fun b hb => h b ((Props.C15.chunk_mem w.toNat s l hl).2 b hb)]
  rfl

theorem tomaRecord_bytes (w : Int) (name : String) (s : List Nat) (h : ∀ b ∈ s, b < 128) :
    stringToBytes (tomaRecordText w name s) =
      ((62 :: stringToBytes name) :: seqChunks w s).flatMap fun l => l ++ [10] := by
  have h1 : stringToBytes ">" = [62] := by decide
  have h2 : stringToBytes "\n" = [10] := by decide
  unfold tomaRecordText seqChunks
  rw [stringToBytes_append, stringToBytes_append, stringToBytes_append, h1, h2]
  by_cases hw : w > 0
  · simp only [hw, if_true]
    rw [wrapLines_bytes w hw s h]
    simp
  · simp only [hw, if_false]
    rw [stringToBytes_append, stringToBytes_bytesToString s h, h2]
    simp

def lrecOf (w : Int) (name : String) (s : List Nat) (id : List Nat) : LRec :=
  { id := id, desc := stringToBytes name, chunks := seqChunks w s }

theorem lrecOf_seq (w : Int) (name : String) (s : List Nat) (id : List Nat) : (lrecOf w name s id).seq = s := by
  unfold lrecOf LRec.seq seqChunks
  simp only []
  by_cases hw : w > 0
  · simp only [hw, if_true]
    exact Props.C15.flatten_chunk w.toNat s
  · simp [hw]

/-- the layout: LF line ends, a final newline, each sequence cut by `seqChunks w` -/
theorem file_bytes (w : Int) : ∀ (recs : List (String × List Nat × List Nat)), (∀ r ∈ recs, ∀ b ∈ r.2.1, b < 128) →
    stringToBytes (String.join (recs.map fun r => tomaRecordText w r.1 r.2.1)) =
      renderText false true (renderLines (recs.map fun r => lrecOf w r.1 r.2.1 r.2.2)) := by
  intro recs h
  rw [renderText_lf, stringToBytes_join, List.map_map]
  induction recs with
  | nil => rfl
  | cons r t ih =>
    obtain ⟨hr, ht⟩ := List.forall_mem_cons.1 h
    simp only [List.map_cons, List.flatten_cons, Function.comp]
    rw [ih ht, tomaRecord_bytes w r.1 r.2.1 hr]
    simp [renderLines, LRec.lines, lrecOf, List.flatMap_cons, List.flatMap_append]

/-- a record `(name, sequence, id)` the writer can be given: the name is a valid header (its first field is `id`, no
line-end bytes), the sequence has `W` accepted ASCII symbols -/
structure WriteOk (hard : Bool) (W : Nat) (r : String × List Nat × List Nat) : Prop where
  id : firstField (stringToBytes r.1) = some r.2.2
  hdr : CleanLine (stringToBytes r.1)
  len : r.2.1.length = W
  syms : ∀ b ∈ r.2.1, b < 128 ∧ enc hard b ≠ 0

/-- **C15.wrap / C11 FASTA route** — whatever the wrap width, the text `sam toMultiAlign` writes for a list of records
with non-empty sequences (`hW`) is read back by the encoded reader as exactly those records: same IDs and headers, the
sequences unbroken, in order. The right-hand side mentions `w` through `lrecOf w` only; that the records do not depend
on it is `lrecOf_seq` (`read_back_seq` for the three fields) -/
theorem written_reads_back (hard : Bool) (w : Int) (W : Nat) (hW : 0 < W)
    (r0 : String × List Nat × List Nat) (rs : List (String × List Nat × List Nat))
    (h : ∀ r ∈ r0 :: rs, WriteOk hard W r) :
    readFasta (.encoded hard) (stringToBytes (String.join ((r0 :: rs).map fun r => tomaRecordText w r.1 r.2.1))) =
      .ok (recsFrom (enc hard) ((r0 :: rs).map fun r => lrecOf w r.1 r.2.1 r.2.2) 0) := by
  have hne : ∀ r ∈ r0 :: rs, r.2.1 ≠ [] := fun r hr h0 => by
    have := (h r hr).len
    rw [h0] at this
    exact Nat.ne_of_lt hW this
  rw [file_bytes w (r0 :: rs) (fun r hr b hb => ((h r hr).syms b hb).1)]
  have hall : ∀ {P : LRec → Prop}, (∀ r ∈ r0 :: rs, P (lrecOf w r.1 r.2.1 r.2.2)) →
      ∀ x ∈ (r0 :: rs).map fun r => lrecOf w r.1 r.2.1 r.2.2, P x := List.forall_mem_map.2
  refine Gofasta.Props.C16.layout_independent hard false true W _ _
    ⟨Or.inl hW, hall fun r hr => (h r hr).id, hall fun r hr => (h r hr).hdr, hall fun r hr l hl => ?_,
      hall fun r hr => (congrArg List.length (lrecOf_seq w r.1 r.2.1 r.2.2)).trans (h r hr).len⟩
  -- a line of the record is the whole sequence or one of its chunks
  simp only [lrecOf, seqChunks] at hl
  split at hl
  · have := Props.C15.chunk_mem w.toNat r.2.1 l hl
    exact ⟨this.1, fun b hb => ((h r hr).syms b (this.2 b hb)).2⟩
  · rw [List.mem_singleton.1 hl]
    exact ⟨hne r hr, fun b hb => ((h r hr).syms b hb).2⟩

/-- for an empty sequence too: the proof does not use `hs` -/
theorem read_back_seq (hard : Bool) (w : Int) (r : String × List Nat × List Nat) (k : Nat) (hs : r.2.1 ≠ []) :
    (recOf (enc hard) (lrecOf w r.1 r.2.1 r.2.2) k).seq = r.2.1.map (enc hard) ∧
    (recOf (enc hard) (lrecOf w r.1 r.2.1 r.2.2) k).id = r.2.2 ∧
    (recOf (enc hard) (lrecOf w r.1 r.2.1 r.2.2) k).desc = stringToBytes r.1 := by
  have _ := hs
  refine ⟨?_, rfl, rfl⟩
  rw [recOf, lrecOf_seq w r.1 r.2.1 r.2.2]

end Gofasta.Lemmas.FastaWrite
