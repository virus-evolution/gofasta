import Gofasta.Model.Sort
import Gofasta.Lemmas.ListFacts
/-
L-topK: for any Boolean strict weak order, the streaming bounded catchment equals
"stable-sort everything, take K".

The order axioms are only asked of the elements that satisfy a predicate `P` (`SWOOn`), for lists of such
elements: the comparator of `closest` is a strict weak order on the hits of one kind of distance, not on all
hits (Lemmas/ClosestOrder). `P := fun _ => True` gives the statements for `SWO`. The relative statements are in
namespace `Gofasta.Lemmas.ClosestOrder` (second half of the file), those for `SWO` in `Gofasta.Model`.
-/
namespace Gofasta.Model
variable {α : Type} (lt : α → α → Bool)

/-- strict weak order, as Booleans. `negtrans`: whatever is neither after `a` nor before `b` would make `a` and `b`
incomparable through it, so incomparability is transitive. -/
structure SWO : Prop where
  asymm : ∀ a b, lt a b = true → lt b a = false
  negtrans : ∀ a b c, lt a b = true → lt a c = true ∨ lt c b = true

def Sorted (l : List α) : Prop := l.Pairwise (fun a b => lt b a = false)

variable {lt}

theorem sorted_cons {a : α} {l : List α} : Sorted lt (a :: l) ↔ (∀ b ∈ l, lt b a = false) ∧ Sorted lt l :=
  List.pairwise_cons

theorem Sorted.sublist {l1 l2 : List α} (h : Sorted lt l2) (hs : l1.Sublist l2) : Sorted lt l1 :=
  List.Pairwise.sublist hs h

theorem Sorted.take {l : List α} (h : Sorted lt l) (K : Nat) : Sorted lt (l.take K) := h.sublist (List.take_sublist K l)

@[simp] theorem length_insSorted (x : α) (l : List α) : (insSorted lt x l).length = l.length + 1 := by
  induction l with
  | nil => rfl
  | cons y t ih => simp only [insSorted]; split <;> simp [ih]

theorem insSorted_append_of_not_lt (x : α) (p s : List α) (hp : ∀ y ∈ p, lt x y = false) :
    insSorted lt x (p ++ s) = p ++ insSorted lt x s := by
  induction p with
  | nil => rfl
  | cons y t ih =>
    have hy : lt x y = false := hp y (by simp)
    simp [insSorted, hy, ih (fun z hz => hp z (by simp [hz]))]

theorem insSorted_perm (x : α) (l : List α) : (insSorted lt x l).Perm (x :: l) := by
  induction l with
  | nil => exact List.Perm.refl _
  | cons y t ih =>
    simp only [insSorted]
    split
    · exact List.Perm.refl _
    · exact ((List.Perm.cons y ih).trans (List.Perm.swap x y t))

theorem sortStable_append (l1 l2 : List α) :
    sortStable lt (l1 ++ l2) = l2.foldl (fun acc x => insSorted lt x acc) (sortStable lt l1) := List.foldl_append

theorem sortStable_append_singleton (l : List α) (x : α) : sortStable lt (l ++ [x]) = insSorted lt x (sortStable lt l) :=
  sortStable_append l [x]

@[simp] theorem length_sortStable (l : List α) : (sortStable lt l).length = l.length := by
  induction l using Lemmas.rev_ind with
  | nil => rfl
  | snoc l x ih => simp [sortStable_append_singleton, ih]

theorem sortStable_perm (l : List α) : (sortStable lt l).Perm l := by
  induction l using Lemmas.rev_ind with
  | nil => exact List.Perm.refl _
  | snoc l x ih =>
    rw [sortStable_append_singleton]
    exact (insSorted_perm x _).trans ((List.Perm.cons x ih).trans (List.perm_append_singleton x l).symm)

theorem mem_sortStable (lt : α → α → Bool) (y : α) (l : List α) : y ∈ sortStable lt l ↔ y ∈ l :=
  (sortStable_perm l).mem_iff

theorem foldl_insSorted_cons (m : α) : ∀ (l S : List α), (∀ y ∈ l, lt y m = false) →
    l.foldl (fun acc x => insSorted lt x acc) (m :: S) = m :: l.foldl (fun acc x => insSorted lt x acc) S
  | [], _, _ => rfl
  | z :: t, S, h => by
    rw [List.foldl_cons, List.foldl_cons, insSorted, if_neg (by rw [h z List.mem_cons_self]; exact Bool.false_ne_true)]
    exact foldl_insSorted_cons m t _ fun y hy => h y (List.mem_cons_of_mem _ hy)

/-- `m` is inserted at the head, and nothing that follows is inserted before it -/
theorem sortStable_min_out (l1 l2 : List α) (m : α) (h1 : ∀ y ∈ l1, lt m y = true) (h2 : ∀ y ∈ l2, lt y m = false) :
    sortStable lt (l1 ++ m :: l2) = m :: sortStable lt (l1 ++ l2) := by
  have hm : insSorted lt m (sortStable lt l1) = m :: sortStable lt l1 := by
    cases h : sortStable lt l1 with
    | nil => rfl
    | cons y t => rw [insSorted, if_pos (h1 y ((mem_sortStable lt y l1).1 (h ▸ List.mem_cons_self)))]
  rw [sortStable_append, sortStable_append, List.foldl_cons, hm, foldl_insSorted_cons m l2 _ h2]

theorem map_insSorted {α β : Type} (lt : α → α → Bool) (lt' : β → β → Bool) (f : α → β) (x : α) :
    ∀ (acc : List α), (∀ y ∈ acc, lt x y = lt' (f x) (f y)) →
      (insSorted lt x acc).map f = insSorted lt' (f x) (acc.map f) := by
  intro acc
  induction acc with
  | nil => intro _; rfl
  | cons y t ih =>
    intro h
    have hy := h y List.mem_cons_self
    have ih' := ih (fun z hz => h z (List.mem_cons_of_mem _ hz))
    simp only [insSorted, List.map_cons, ← hy]
    split
    · rfl
    · simp only [List.map_cons, ih']

theorem map_sortStable {α β : Type} (lt : α → α → Bool) (lt' : β → β → Bool) (f : α → β) :
    ∀ (l : List α), l.Pairwise (fun y x => lt x y = lt' (f x) (f y)) →
      (sortStable lt l).map f = sortStable lt' (l.map f) := by
  intro l
  induction l using Lemmas.rev_ind with
  | nil => intro _; rfl
  | snoc l x ih =>
    intro hp
    have hp' := List.pairwise_append.1 hp
    rw [sortStable_append_singleton, List.map_append, List.map_singleton, sortStable_append_singleton,
      ← ih hp'.1]
    apply map_insSorted
    intro y hy
    exact hp'.2.2 y ((sortStable_perm l).mem_iff.1 hy) x (by simp)

theorem sortStable_of_sorted (l : List α) (h : Sorted lt l) : sortStable lt l = l := by
  induction l using Lemmas.rev_ind with
  | nil => rfl
  | snoc l x ih =>
    have hs := List.pairwise_append.1 h
    rw [sortStable_append_singleton, ih hs.1]
    simpa [insSorted] using
      insSorted_append_of_not_lt x l [] fun y hy => hs.2.2 y hy x (List.mem_singleton_self x)

theorem take_insSorted (x : α) : ∀ (l : List α) (K : Nat), (insSorted lt x l).take K = (insSorted lt x (l.take K)).take K := by
  intro l
  induction l with
  | nil => intro K; simp
  | cons y t ih =>
    intro K
    cases K with
    | zero => simp
    | succ k =>
      simp only [insSorted, List.take_succ_cons]
      split
      · cases k <;> simp [List.take_take]
      · simp [ih k]

theorem catchStepG_below {K : Nat} {cat : List α} (x : α) (h : cat.length < K) :
    catchStepG lt K cat x = if cat.length + 1 = K then (sortStable lt (cat ++ [x])).take K else cat ++ [x] := by
  rw [catchStepG, if_pos h]
  simp only [List.length_append, List.length_singleton]

theorem catchStepG_full {K : Nat} {cat : List α} (x : α) {w : α} (h : ¬ cat.length < K) (hw : cat.getLast? = some w) :
    catchStepG lt K cat x = if lt x w then (sortStable lt (cat ++ [x])).take K else cat := by
  rw [catchStepG, if_neg h, hw]

theorem catchStepG_one (b x : α) : catchStepG lt 1 [b] x = if lt x b then [x] else [b] := by
  rw [catchStepG_full x (w := b) (Nat.lt_irrefl 1) rfl]
  by_cases h : lt x b = true
  · rw [if_pos h, if_pos h]
    show (insSorted lt x [b]).take 1 = [x]
    rw [insSorted, if_pos h]
    rfl
  · rw [if_neg h, if_neg h]

theorem catchStepG_subset (K : Nat) (cat : List α) (x : α) : catchStepG lt K cat x ⊆ cat ++ [x] := by
  have key : (sortStable lt (cat ++ [x])).take K ⊆ cat ++ [x] :=
    fun _ h => (mem_sortStable lt _ _).1 (List.mem_of_mem_take h)
  unfold catchStepG
  split
  · dsimp only
    split
    · exact key
    · exact List.Subset.refl _
  · split
    · split
      · exact key
      · exact List.subset_append_left _ _
    · exact List.subset_append_left _ _

theorem foldl_catchStepG_subset (K : Nat) : ∀ (l cat : List α), l.foldl (catchStepG lt K) cat ⊆ cat ++ l
  | [], cat => by simp
  | x :: t, cat => fun y hy => by
    rcases List.mem_append.1 (foldl_catchStepG_subset K t _ hy) with h | h
    · rw [List.append_cons]
      exact List.mem_append_left _ (catchStepG_subset K cat x h)
    · exact List.mem_append_right _ (List.mem_cons_of_mem _ h)

theorem mem_topKG {K : Nat} {l : List α} {y : α} (h : y ∈ topKG lt K l) : y ∈ l := by
  rw [topKG, catchFinishG] at h
  split at h
  · simpa using foldl_catchStepG_subset K l [] ((mem_sortStable lt _ _).1 h)
  · simpa using foldl_catchStepG_subset K l [] h

end Gofasta.Model

namespace Gofasta.Lemmas.ClosestOrder
open Gofasta.Model
variable {α : Type}

structure SWOOn (P : α → Prop) (lt : α → α → Bool) : Prop where
  asymm : ∀ a b, P a → P b → lt a b = true → lt b a = false
  negtrans : ∀ a b c, P a → P b → P c → lt a b = true → lt a c = true ∨ lt c b = true

def AllP (P : α → Prop) (l : List α) : Prop := ∀ x ∈ l, P x

variable {P : α → Prop} {lt : α → α → Bool}

theorem SWO.on (h : SWO lt) : SWOOn P lt :=
  ⟨fun a b _ _ => h.asymm a b, fun a b c _ _ _ => h.negtrans a b c⟩

theorem SWOOn.toSWO (h : SWOOn (fun _ : α => True) lt) : SWO lt :=
  ⟨fun a b => h.asymm a b trivial trivial, fun a b c => h.negtrans a b c trivial trivial trivial⟩

theorem SWOOn.irrefl (h : SWOOn P lt) {a : α} (ha : P a) : lt a a = false := by
  cases hh : lt a a with
  | false => rfl
  | true => have := h.asymm _ _ ha ha hh; rw [hh] at this; cases this

theorem SWOOn.not_lt_trans (h : SWOOn P lt) {a b c : α} (ha : P a) (hb : P b) (hc : P c)
    (hab : lt a b = false) (hbc : lt b c = false) : lt a c = false := by
  cases hac : lt a c with
  | false => rfl
  | true =>
    rcases h.negtrans a c b ha hc hb hac with h1 | h1
    · rw [hab] at h1; cases h1
    · rw [hbc] at h1; cases h1

theorem AllP.nil : AllP P ([] : List α) := by intro x hx; cases hx

theorem AllP.append {l1 l2 : List α} (h1 : AllP P l1) (h2 : AllP P l2) : AllP P (l1 ++ l2) := by
  intro x hx
  rcases List.mem_append.1 hx with h | h
  · exact h1 x h
  · exact h2 x h

theorem AllP.left {l1 l2 : List α} (h : AllP P (l1 ++ l2)) : AllP P l1 :=
  fun x hx => h x (List.mem_append_left _ hx)

theorem AllP.sublist {l1 l2 : List α} (hs : l1.Sublist l2) (h : AllP P l2) : AllP P l1 :=
  fun x hx => h x (hs.subset hx)

theorem AllP.filter {l : List α} (p : α → Bool) (h : AllP P l) : AllP P (l.filter p) :=
  fun x hx => h x (List.mem_filter.1 hx).1

theorem AllP.perm {l1 l2 : List α} (hp : l1.Perm l2) (h : AllP P l2) : AllP P l1 :=
  fun x hx => h x (hp.mem_iff.1 hx)

theorem allP_sortStable {l : List α} (h : AllP P l) : AllP P (sortStable lt l) :=
  AllP.perm (sortStable_perm l) h

/-- inserting keeps the list ordered by every transitive relation `r` that the comparator refines (whichever way
`lt x y` answers, it tells how `r` relates `x` and `y`), strict weak order or not -/
theorem insSorted_pairwise {r : α → α → Prop} (h1 : ∀ x y, P x → P y → lt x y = true → r x y)
    (h2 : ∀ x y, P x → P y → lt x y = false → r y x) (ht : ∀ x y z, P x → P y → P z → r x y → r y z → r x z)
    (x : α) (hx : P x) : ∀ (l : List α), AllP P l → l.Pairwise r → (insSorted lt x l).Pairwise r
  | [], _, _ => List.pairwise_singleton _ _
  | y :: t, hl, h => by
    obtain ⟨hy, htl⟩ := List.pairwise_cons.1 h
    have hPy : P y := hl y List.mem_cons_self
    have hPt : AllP P t := fun z hz => hl z (List.mem_cons_of_mem _ hz)
    rw [insSorted]
    split
    · rename_i hxy
      refine List.pairwise_cons.2 ⟨fun z hz => ?_, h⟩
      rcases List.mem_cons.1 hz with rfl | hz
      · exact h1 _ _ hx hPy hxy
      · exact ht _ _ _ hx hPy (hPt z hz) (h1 _ _ hx hPy hxy) (hy z hz)
    · rename_i hxy
      refine List.pairwise_cons.2 ⟨fun z hz => ?_, insSorted_pairwise h1 h2 ht x hx t hPt htl⟩
      rcases List.mem_cons.1 ((insSorted_perm x t).mem_iff.1 hz) with rfl | hz
      · exact h2 _ _ hx hPy (Bool.eq_false_iff.2 hxy)
      · exact hy z hz

theorem sortStable_pairwise {r : α → α → Prop} (h1 : ∀ x y, P x → P y → lt x y = true → r x y)
    (h2 : ∀ x y, P x → P y → lt x y = false → r y x) (ht : ∀ x y z, P x → P y → P z → r x y → r y z → r x z)
    (l : List α) (hl : AllP P l) : (sortStable lt l).Pairwise r := by
  induction l using rev_ind with
  | nil => exact List.Pairwise.nil
  | snoc l x ih =>
    rw [sortStable_append_singleton]
    exact insSorted_pairwise h1 h2 ht x (hl x (by simp)) _ (allP_sortStable hl.left) (ih hl.left)

theorem sorted_sortStable (hS : SWOOn P lt) (l : List α) (hl : AllP P l) : Sorted lt (sortStable lt l) :=
  sortStable_pairwise (r := fun a b => lt b a = false) (fun a b ha hb h => hS.asymm a b ha hb h) (fun _ _ _ _ h => h)
    (fun _ _ _ ha hb hc hab hbc => hS.not_lt_trans hc hb ha hbc hab) l hl

theorem take_insSorted_of_not_lt_last (hS : SWOOn P lt) (x : α) (l : List α) (K : Nat) (hPx : P x) (hl : AllP P l)
    (hs : Sorted lt l) (hK : K ≤ l.length) (w : α) (hw : (l.take K).getLast? = some w) (hx : lt x w = false) :
    (insSorted lt x l).take K = l.take K := by
  have hlT : AllP P (l.take K) := hl.sublist (List.take_sublist K l)
  have hsT : Sorted lt (l.take K) := hs.take K
  obtain ⟨init, hinit⟩ := List.getLast?_eq_some_iff.1 hw
  have hp : ∀ y ∈ l.take K, lt x y = false := by
    rw [hinit] at hlT hsT ⊢
    intro y hy
    rcases List.mem_append.1 hy with h1 | h1
    · exact hS.not_lt_trans hPx (hlT w (by simp)) (hlT y hy) hx
        ((List.pairwise_append.1 hsT).2.2 y h1 w (List.mem_singleton_self w))
    · rw [List.mem_singleton.1 h1]; exact hx
  have hsplit : insSorted lt x l = l.take K ++ insSorted lt x (l.drop K) := by
    rw [← insSorted_append_of_not_lt x _ _ hp, List.take_append_drop]
  have hlen : (l.take K).length = K := by simp [Nat.min_eq_left hK]
  rw [hsplit, List.take_append_of_le_length (by omega), List.take_take, Nat.min_self]

theorem foldl_catchStepG (hS : SWOOn P lt) (K : Nat) (l : List α) (hl : AllP P l) :
    l.foldl (catchStepG lt K) [] = if l.length < K then l else (sortStable lt l).take K := by
  induction l using rev_ind with
  | nil => simp [sortStable]
  | snoc l x ih =>
    rw [List.foldl_append, List.foldl_cons, List.foldl_nil, ih hl.left, List.length_append, List.length_singleton]
    by_cases hlen : l.length < K
    · rw [if_pos hlen, catchStepG_below x hlen]
      by_cases hlen' : l.length + 1 < K
      · rw [if_neg (by omega), if_pos hlen']
      · rw [if_pos (by omega), if_neg hlen']
    · rw [if_neg hlen, if_neg (by omega)]
      have hsorted := sorted_sortStable hS l hl.left
      have hlenT : ((sortStable lt l).take K).length = K := by simp; omega
      cases hw : ((sortStable lt l).take K).getLast? with
      | none =>
        -- capacity 0: the catchment stays empty
        rw [List.getLast?_eq_none_iff.1 hw] at hlenT
        subst hlenT
        simp [catchStepG]
      | some w =>
        rw [catchStepG_full x (by omega) hw, sortStable_append_singleton (l := l)]
        split
        next => rw [sortStable_append_singleton, sortStable_of_sorted _ (hsorted.take K), ← take_insSorted]
        next hx =>
          exact (take_insSorted_of_not_lt_last hS x (sortStable lt l) K (hl x (by simp)) (allP_sortStable hl.left)
            hsorted (by simp; omega) w hw (by simpa using hx)).symm

/-- L-topK, for every capacity (the catchment of capacity 0 stays empty) -/
theorem topK_spec_on_all (hS : SWOOn P lt) (K : Nat) (l : List α) (hl : AllP P l) :
    topKG lt K l = (sortStable lt l).take K := by
  rw [topKG, foldl_catchStepG hS K l hl, catchFinishG]
  by_cases hlen : l.length < K
  · rw [if_pos hlen, if_pos hlen, List.take_of_length_le (by simp; omega)]
  · rw [if_neg hlen, if_neg (by simp; omega)]

theorem topK_spec_on (hS : SWOOn P lt) (K : Nat) (hK : 0 < K) (l : List α) (hl : AllP P l) :
    topKG lt K l = (sortStable lt l).take K :=
  have _ := hK
  topK_spec_on_all hS K l hl

end Gofasta.Lemmas.ClosestOrder

namespace Gofasta.Model
open Gofasta.Lemmas.ClosestOrder
variable {α : Type} {lt : α → α → Bool}

theorem sorted_sortStable (hS : SWO lt) (l : List α) : Sorted lt (sortStable lt l) :=
  Lemmas.ClosestOrder.sorted_sortStable (P := fun _ => True) (SWO.on hS) l fun _ _ => trivial

theorem topK_spec (hS : SWO lt) (K : Nat) (l : List α) : topKG lt K l = (sortStable lt l).take K :=
  topK_spec_on_all (P := fun _ => True) (SWO.on hS) K l fun _ _ => trivial

end Gofasta.Model
