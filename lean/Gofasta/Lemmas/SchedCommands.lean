import Gofasta.Lemmas.SchedWriters
import Gofasta.Lemmas.AggOrder
import Gofasta.Lemmas.SamVarPipeline
import Gofasta.Model.Updown
import Gofasta.Lemmas.AggVariants
/-
Command-level "every schedule" theorems: the small-step models of the goroutines and channels
(Model/Sched, one worker pool; Model/SchedChain, any number of pools) instantiated with the
functions of the sequential command models (Model/Snps, Model/Updown, Model/Sam, Model/Variants,
Driver/Var, Driver/SamVar).

For every reachable state of the concurrency model in which the driver has returned nil (by
`maximal_run_success`: at the end of every maximal run when nothing fails), the bytes the writer
has written are exactly the value of the sequential command model; when a record makes a worker
fail, no schedule returns nil.

Per command (the writers, without any command, are in Lemmas/SchedWriters): `*_every_schedule` is the text on a nil
return; `*_maximal_run` every run that cannot be extended; `*_runSchedule`, `*_outcome` every executed schedule that is long
enough, `outcome` where `refusesWidths` of Model/Validate decides which way it ends; `*_width_error_reported`,
`*_read_error_reported` the failure direction.  `variants --aggregate` has `every_schedule` and `width_error_reported` only,
`sam variants --aggregate` `every_schedule` only.
Non-vacuity: namespace `Examples` (two schedules with different arrival orders per family).
-/
set_option autoImplicit false

namespace Gofasta.Lemmas.SchedCommands
open Gofasta Gofasta.Model
open Gofasta.Lemmas.Outcome (Complete)

section snps
open Gofasta.Model.Sched Gofasta.Lemmas.Sched

def encItems (hard : Bool) (recs : List (String × List Nat)) : List (String × List Nat) :=
  recs.map fun r => (r.1, r.2.map (enc hard))

theorem encItems_length (hard : Bool) (recs : List (String × List Nat)) : (encItems hard recs).length = recs.length :=
  List.length_map _

theorem forall_encItems {hard : Bool} {ref : List Nat} {recs : List (String × List Nat)}
    (hw : ∀ r ∈ recs, r.2.length = ref.length) :
    ∀ x ∈ encItems hard recs, x.2.length = (ref.map (enc hard)).length := by
  intro x hx
  obtain ⟨r, hr, rfl⟩ := List.mem_map.mp hx
  simp only [List.length_map, hw r hr]

theorem exists_encItems {hard : Bool} {ref : List Nat} {recs : List (String × List Nat)}
    (hbad : ∃ r ∈ recs, r.2.length ≠ ref.length) :
    ∃ x ∈ encItems hard recs, x.2.length ≠ (ref.map (enc hard)).length := by
  obtain ⟨r, hr, hw⟩ := hbad
  exact ⟨_, List.mem_map_of_mem hr, by simpa only [List.length_map] using hw⟩

/-- the worker of snps.SNPs: width check, then getSNPs on the encoded rows -/
def snpsWorker (refE : List Nat) (x : String × List Nat) : Except CmdErr (String × List Snp) :=
  if x.2.length ≠ refE.length then .error .width else .ok (x.1, snpsRowEnc 0 refE x.2)

def snpsRender (y : String × List Snp) : String := snpsLine y.1 y.2

def snpsCfg (hard : Bool) (ref : List Nat) (recs : List (String × List Nat)) (N capIn capOut : Nat)
    (rf : Option (Nat × CmdErr)) : Cfg (String × List Nat) (String × List Snp) CmdErr (TextW (String × List Snp)) where
  items := encItems hard recs
  f := snpsWorker (ref.map (enc hard))
  N := N
  capIn := capIn
  capOut := capOut
  readFail := rf
  absorb := fun st r => .ok (TextW.absorb snpsRender 0 st r)
  finish := fun st => .ok st
  init := TextW.start "query,SNPs\n" 0

theorem snpsWorker_widthChecked (refE : List Nat) :
    WidthChecked (snpsWorker refE) refE.length fun x => (x.1, snpsRowEnc 0 refE x.2) :=
  fun _ => rfl

theorem snps_results {hard : Bool} {ref : List Nat} {recs : List (String × List Nat)} {ys : List (String × List Snp)}
    (hys : (encItems hard recs).map (snpsWorker (ref.map (enc hard))) = ys.map Except.ok) :
    ys = recs.map fun r => (r.1, snpsRow hard ref r.2) := by
  rw [((snpsWorker_widthChecked _).results hys).1, encItems, List.map_map]
  rfl

theorem snps_every_schedule (hard : Bool) (ref : List Nat) (recs : List (String × List Nat)) (N capIn capOut : Nat)
    (rf : Option (Nat × CmdErr)) (hN : 1 ≤ N) {s : State _ _ _ _}
    (hr : Reach (snpsCfg hard ref recs N capIn capOut rf) s) (hm : s.main = .ret none) :
    s.wst.text = snpsOutput hard ref recs := by
  obtain ⟨ys, hys, htext⟩ := text_writer_every_schedule (cfg := snpsCfg hard ref recs N capIn capOut rf)
    snpsRender "query,SNPs\n" 0 hN (fun _ _ => rfl) (fun _ => rfl) rfl hr hm
  rw [htext, snps_results hys, List.map_map]
  rfl

theorem snps_width_error_reported (hard : Bool) (ref : List Nat) (recs : List (String × List Nat)) (N capIn capOut : Nat)
    (rf : Option (Nat × CmdErr)) (hN : 1 ≤ N) (hbad : ∃ r ∈ recs, r.2.length ≠ ref.length) {s : State _ _ _ _}
    (hr : Reach (snpsCfg hard ref recs N capIn capOut rf) s) : s.main ≠ .ret none :=
  (snpsWorker_widthChecked _).error_reported hN (exists_encItems hbad) hr

theorem snps_all_ok (hard : Bool) (ref : List Nat) (recs : List (String × List Nat))
    (hw : ∀ r ∈ recs, r.2.length = ref.length) :
    ∀ x ∈ encItems hard recs, ∃ y, snpsWorker (ref.map (enc hard)) x = .ok y :=
  (snpsWorker_widthChecked _).all_ok (forall_encItems hw)

theorem snps_maximal_run (hard : Bool) (ref : List Nat) (recs : List (String × List Nat)) (N capIn capOut : Nat)
    (hN : 1 ≤ N) (hw : ∀ r ∈ recs, r.2.length = ref.length) {s : State _ _ _ _}
    (hr : Reach (snpsCfg hard ref recs N capIn capOut none) s)
    (hstuck : enabled (snpsCfg hard ref recs N capIn capOut none) s = []) :
    s.main = .ret none ∧ s.wst.text = snpsOutput hard ref recs := by
  have hm := (maximal_run_success (cfg := snpsCfg hard ref recs N capIn capOut none) hN rfl
    (snps_all_ok hard ref recs hw) (fun _ _ => ⟨_, rfl⟩) (fun _ => ⟨_, rfl⟩) hr hstuck).1
  exact ⟨hm, snps_every_schedule hard ref recs N capIn capOut none hN hr hm⟩

end snps

section snpsAggregate
open Gofasta.Model.Sched Gofasta.Lemmas.Sched Gofasta.Lemmas.AggOrder

/-- state of snps.aggregateWriteOutput: the counting map (association list in first-seen order), the number of
records received, the bytes written -/
structure AggW where
  counts : List (Snp × Nat)
  n : Nat
  text : String

/-- the loop body: count every SNP of the row that arrived, count the record -/
def AggW.absorb (st : AggW) (r : Nat × (String × List Snp)) : AggW :=
  { st with counts := r.2.2.foldl (fun m s => countInsert s m) st.counts, n := st.n + 1 }

/-- after the loop: sort by (position, query allele), keep what reaches the threshold, print -/
def AggW.finish (thrNum thrDen : Nat) (st : AggW) : AggW :=
  { st with text := st.text ++ String.join (((sortStable snpLt st.counts).filter fun e =>
      keepFreq e.2 st.n thrNum thrDen).map fun e => fmtSnp e.1 ++ "," ++ fmt9 e.2 st.n ++ "\n") }

def snpsAggCfg (hard : Bool) (thrNum thrDen : Nat) (ref : List Nat) (recs : List (String × List Nat))
    (N capIn capOut : Nat) (rf : Option (Nat × CmdErr)) :
    Cfg (String × List Nat) (String × List Snp) CmdErr AggW where
  items := encItems hard recs
  f := snpsWorker (ref.map (enc hard))
  N := N
  capIn := capIn
  capOut := capOut
  readFail := rf
  absorb := fun st r => .ok (AggW.absorb st r)
  finish := fun st => .ok (AggW.finish thrNum thrDen st)
  init := ⟨[], 0, "SNP,frequency\n"⟩

theorem AggW.foldl_absorb : ∀ (recs : List (Nat × (String × List Snp))) (st : AggW),
    recs.foldl AggW.absorb st =
      ⟨(recs.map (·.2.2)).foldl (fun m row => row.foldl (fun m s => countInsert s m) m) st.counts,
       st.n + recs.length, st.text⟩
  | [], _ => rfl
  | r :: t, st => by
    rw [List.foldl_cons, AggW.foldl_absorb t]
    simp only [AggW.absorb, List.map_cons, List.foldl_cons, List.length_cons, Nat.add_assoc, Nat.add_comm 1]

theorem snps_sorted_any_arrival {hard : Bool} {ref : List Nat} {recs : List (String × List Nat)}
    {arr : List (Nat × (String × List Snp))}
    (hsnd : (arr.map Prod.snd).Perm (recs.map fun r => (r.1, snpsRow hard ref r.2))) :
    arr.length = recs.length ∧ sortStable snpLt (countAll (arr.map (·.2.2))) =
      sortStable snpLt (countAll (recs.map fun r => snpsRow hard ref r.2)) := by
  have hrows : (arr.map (·.2.2)).Perm (recs.map fun r => snpsRow hard ref r.2) := by
    have := hsnd.map (fun y : String × List Snp => y.2)
    rwa [List.map_map, List.map_map] at this
  refine ⟨by simpa only [List.length_map] using hrows.length_eq, snps_aggregate_any_order _ _ hrows ?_⟩
  apply keyDecides_of_rows (ref.map (enc hard))
  intro row hrow
  obtain ⟨r, _, rfl⟩ := List.mem_map.mp (hrows.mem_iff.mp hrow)
  exact ⟨r.2.map (enc hard), rfl⟩

/-- **snps --aggregate**: the table does not depend on the order of arrival at the counting writer. No hypothesis on
the symbols of the rows. -/
theorem snps_aggregate_every_schedule (hard : Bool) (thrNum thrDen : Nat) (ref : List Nat)
    (recs : List (String × List Nat)) (N capIn capOut : Nat) (rf : Option (Nat × CmdErr)) (hN : 1 ≤ N)
    {s : State _ _ _ _}
    (hr : Reach (snpsAggCfg hard thrNum thrDen ref recs N capIn capOut rf) s) (hm : s.main = .ret none) :
    s.wst.text = snpsAggregate hard thrNum thrDen ref recs := by
  obtain ⟨ys, arr, hys, hperm, hgood, (hw : s.wst = _)⟩ := ((SchedRun.sound hr).complete hN hm).total
    AggW.absorb (AggW.finish thrNum thrDen) (fun _ _ => rfl) (fun _ => rfl)
  obtain rfl := snps_results hys
  obtain ⟨hn, hsort⟩ := snps_sorted_any_arrival (snd_perm_of_indexed hperm hgood)
  rw [hw, AggW.foldl_absorb]
  simp only [AggW.finish, snpsAggCfg, Nat.zero_add, hn]
  unfold snpsAggregate
  dsimp only
  rw [← hsort]
  rfl

theorem snps_aggregate_width_error_reported (hard : Bool) (thrNum thrDen : Nat) (ref : List Nat)
    (recs : List (String × List Nat)) (N capIn capOut : Nat) (rf : Option (Nat × CmdErr)) (hN : 1 ≤ N)
    (hbad : ∃ r ∈ recs, r.2.length ≠ ref.length) {s : State _ _ _ _}
    (hr : Reach (snpsAggCfg hard thrNum thrDen ref recs N capIn capOut rf) s) : s.main ≠ .ret none :=
  (snpsWorker_widthChecked _).error_reported hN (exists_encItems hbad) hr

theorem snps_aggregate_maximal_run (hard : Bool) (thrNum thrDen : Nat) (ref : List Nat)
    (recs : List (String × List Nat)) (N capIn capOut : Nat)
    (hN : 1 ≤ N) (hw : ∀ r ∈ recs, r.2.length = ref.length) {s : Sched.State _ _ _ _}
    (hr : Sched.Reach (snpsAggCfg hard thrNum thrDen ref recs N capIn capOut none) s)
    (hstuck : Sched.enabled (snpsAggCfg hard thrNum thrDen ref recs N capIn capOut none) s = []) :
    s.main = .ret none ∧ s.wst.text = snpsAggregate hard thrNum thrDen ref recs := by
  have hm := (maximal_run_success (cfg := snpsAggCfg hard thrNum thrDen ref recs N capIn capOut none) hN rfl
    (snps_all_ok hard ref recs hw) (fun _ _ => ⟨_, rfl⟩) (fun _ => ⟨_, rfl⟩) hr hstuck).1
  exact ⟨hm, snps_aggregate_every_schedule hard thrNum thrDen ref recs N capIn capOut none hN hr hm⟩

theorem snps_aggregate_runSchedule (hard : Bool) (thrNum thrDen : Nat) (ref : List Nat)
    (recs : List (String × List Nat)) (N capIn capOut : Nat)
    (hN : 1 ≤ N) (hw : ∀ r ∈ recs, r.2.length = ref.length) (sched : List Nat)
    (hlen : μ (snpsAggCfg hard thrNum thrDen ref recs N capIn capOut none)
      (init (snpsAggCfg hard thrNum thrDen ref recs N capIn capOut none)) ≤ sched.length) :
    (runSchedule (snpsAggCfg hard thrNum thrDen ref recs N capIn capOut none) sched).main = .ret none ∧
    (runSchedule (snpsAggCfg hard thrNum thrDen ref recs N capIn capOut none) sched).wst.text =
      snpsAggregate hard thrNum thrDen ref recs := by
  have hm := runSchedule_returns_nil (cfg := snpsAggCfg hard thrNum thrDen ref recs N capIn capOut none) hN rfl
    (snps_all_ok hard ref recs hw) (fun _ _ => ⟨_, rfl⟩) (fun _ => ⟨_, rfl⟩) sched hlen
  exact ⟨hm, snps_aggregate_every_schedule hard thrNum thrDen ref recs N capIn capOut none hN (runSchedule_reach _ sched) hm⟩

end snpsAggregate

section updownList
open Gofasta.Model.Sched Gofasta.Lemmas.Sched

/-- the worker of updown.List: width check, then getLines on the encoded rows -/
def udWorker (refE : List Nat) (x : String × List Nat) : Except CmdErr UDLine :=
  if x.2.length ≠ refE.length then .error .width else .ok (getLine x.1 refE x.2)

def udHeaderText : String := "query,SNPs,ambiguities,SNPcount,ambcount\n"

def udListCfg (ref : List Nat) (recs : List (String × List Nat)) (N capIn capOut : Nat)
    (rf : Option (Nat × CmdErr)) : Cfg (String × List Nat) UDLine CmdErr (TextW UDLine) where
  items := encItems false recs
  f := udWorker (ref.map (enc false))
  N := N
  capIn := capIn
  capOut := capOut
  readFail := rf
  absorb := fun st r => .ok (TextW.absorb udRow 0 st r)
  finish := fun st => .ok st
  init := TextW.start udHeaderText 0

theorem udWorker_widthChecked (refE : List Nat) :
    WidthChecked (udWorker refE) refE.length fun x => getLine x.1 refE x.2 :=
  fun _ => rfl

theorem ud_results {ref : List Nat} {recs : List (String × List Nat)} {ys : List UDLine}
    (hys : (encItems false recs).map (udWorker (ref.map (enc false))) = ys.map Except.ok) :
    ys = recs.map fun r => getLine r.1 (ref.map (enc false)) (r.2.map (enc false)) := by
  rw [((udWorker_widthChecked _).results hys).1, encItems, List.map_map]
  rfl

theorem updown_list_every_schedule (ref : List Nat) (recs : List (String × List Nat)) (N capIn capOut : Nat)
    (rf : Option (Nat × CmdErr)) (hN : 1 ≤ N) {s : State _ _ _ _}
    (hr : Reach (udListCfg ref recs N capIn capOut rf) s) (hm : s.main = .ret none) :
    s.wst.text = udListOutput ref recs := by
  obtain ⟨ys, hys, htext⟩ := text_writer_every_schedule (cfg := udListCfg ref recs N capIn capOut rf)
    udRow udHeaderText 0 hN (fun _ _ => rfl) (fun _ => rfl) rfl hr hm
  rw [htext, ud_results hys, List.map_map]
  rfl

theorem updown_list_width_error_reported (ref : List Nat) (recs : List (String × List Nat)) (N capIn capOut : Nat)
    (rf : Option (Nat × CmdErr)) (hN : 1 ≤ N) (hbad : ∃ r ∈ recs, r.2.length ≠ ref.length) {s : State _ _ _ _}
    (hr : Reach (udListCfg ref recs N capIn capOut rf) s) : s.main ≠ .ret none :=
  (udWorker_widthChecked _).error_reported hN (exists_encItems hbad) hr

theorem ud_all_ok (ref : List Nat) (recs : List (String × List Nat)) (hw : ∀ r ∈ recs, r.2.length = ref.length) :
    ∀ x ∈ encItems false recs, ∃ y, udWorker (ref.map (enc false)) x = .ok y :=
  (udWorker_widthChecked _).all_ok (forall_encItems hw)

theorem updown_list_maximal_run (ref : List Nat) (recs : List (String × List Nat)) (N capIn capOut : Nat)
    (hN : 1 ≤ N) (hw : ∀ r ∈ recs, r.2.length = ref.length) {s : State _ _ _ _}
    (hr : Reach (udListCfg ref recs N capIn capOut none) s)
    (hstuck : enabled (udListCfg ref recs N capIn capOut none) s = []) :
    s.main = .ret none ∧ s.wst.text = udListOutput ref recs := by
  have hm := (maximal_run_success (cfg := udListCfg ref recs N capIn capOut none) hN rfl (ud_all_ok ref recs hw)
    (fun _ _ => ⟨_, rfl⟩) (fun _ => ⟨_, rfl⟩) hr hstuck).1
  exact ⟨hm, updown_list_every_schedule ref recs N capIn capOut none hN hr hm⟩

end updownList

section toMultiAlign
open Gofasta.Model.Sched Gofasta.Lemmas.Sched

/-- the worker of sam.ToMultiAlign: one block of records of a query to one FASTA record (name, sequence);
`a` = what toma.checkArgs returned: first column, last column, whether to trim -/
def tomaWorker (refLen : Nat) (pad : Bool) (a : Nat × Nat × Bool) (b : List SamRec) : String × List Nat :=
  ((b.headD default).name, fastaRecordSeq (seqFromBlock b refLen) a.2.2 pad a.1 a.2.1)

def tomaRender (wrap : Int) (y : String × List Nat) : String := tomaRecordText wrap y.1 y.2

/-- the pipeline of `sam toMultiAlign` once checkArgs has accepted the window: the reader groups the records into
blocks, the workers flatten a block into a row, the writer prints FASTA records in input order -/
def tomaCfg (refLen : Nat) (o : TomaOpts) (recs : List SamRec) (a : Nat × Nat × Bool) (N capIn capOut : Nat)
    (rf : Option (Nat × CmdErr)) : Cfg (List SamRec) (String × List Nat) CmdErr (TextW (String × List Nat)) where
  items := samBlocks recs
  f := fun b => .ok (tomaWorker refLen o.pad a b)
  N := N
  capIn := capIn
  capOut := capOut
  readFail := rf
  absorb := fun st r => .ok (TextW.absorb (tomaRender o.wrap) 0 st r)
  finish := fun st => .ok st
  init := TextW.start "" 0

theorem toma_every_schedule (refLen : Nat) (o : TomaOpts) (recs : List SamRec) (a : Nat × Nat × Bool)
    (hargs : checkArgs refLen o.start o.stop = some a) (N capIn capOut : Nat)
    (rf : Option (Nat × CmdErr)) (hN : 1 ≤ N) {s : State _ _ _ _}
    (hr : Reach (tomaCfg refLen o recs a N capIn capOut rf) s) (hm : s.main = .ret none) :
    toMultiAlign refLen o recs = some s.wst.text := by
  obtain ⟨ys, hys, htext⟩ := text_writer_every_schedule (cfg := tomaCfg refLen o recs a N capIn capOut rf)
    (tomaRender o.wrap) "" 0 hN (fun _ _ => rfl) (fun _ => rfl) rfl hr hm
  have hys' : ys = (samBlocks recs).map (tomaWorker refLen o.pad a) :=
    map_ok_eq (fun _ _ h => (Except.ok.inj h).symm) hys
  obtain ⟨a1, a2, a3⟩ := a
  rw [htext, hys', String.empty_append, List.map_map]
  unfold toMultiAlign
  rw [hargs]
  rfl

/-- checkArgs refuses the window: the sequential model has no text. In toma.go the reader goroutine is running by then
(main has taken the header from it); writer, workers and waiter are started only after checkArgs has accepted, which
is why `tomaCfg` takes the accepted window `a` -/
theorem toma_refused (refLen : Nat) (o : TomaOpts) (recs : List SamRec)
    (hargs : checkArgs refLen o.start o.stop = none) : toMultiAlign refLen o recs = none := by
  unfold toMultiAlign; rw [hargs]

theorem toma_maximal_run (refLen : Nat) (o : TomaOpts) (recs : List SamRec) (a : Nat × Nat × Bool)
    (hargs : checkArgs refLen o.start o.stop = some a) (N capIn capOut : Nat) (hN : 1 ≤ N)
    {s : Sched.State _ _ _ _}
    (hr : Sched.Reach (tomaCfg refLen o recs a N capIn capOut none) s)
    (hstuck : Sched.enabled (tomaCfg refLen o recs a N capIn capOut none) s = []) :
    s.main = .ret none ∧ toMultiAlign refLen o recs = some s.wst.text := by
  have hm := (maximal_run_success (cfg := tomaCfg refLen o recs a N capIn capOut none) hN rfl
    (fun _ _ => ⟨_, rfl⟩) (fun _ _ => ⟨_, rfl⟩) (fun _ => ⟨_, rfl⟩) hr hstuck).1
  exact ⟨hm, toma_every_schedule refLen o recs a hargs N capIn capOut none hN hr hm⟩

theorem toma_runSchedule (refLen : Nat) (o : TomaOpts) (recs : List SamRec) (a : Nat × Nat × Bool)
    (hargs : checkArgs refLen o.start o.stop = some a) (N capIn capOut : Nat) (hN : 1 ≤ N) (sched : List Nat)
    (hlen : μ (tomaCfg refLen o recs a N capIn capOut none) (init (tomaCfg refLen o recs a N capIn capOut none)) ≤ sched.length) :
    (runSchedule (tomaCfg refLen o recs a N capIn capOut none) sched).main = .ret none ∧
    toMultiAlign refLen o recs = some (runSchedule (tomaCfg refLen o recs a N capIn capOut none) sched).wst.text := by
  have hm := runSchedule_returns_nil (cfg := tomaCfg refLen o recs a N capIn capOut none) hN rfl
    (fun _ _ => ⟨_, rfl⟩) (fun _ _ => ⟨_, rfl⟩) (fun _ => ⟨_, rfl⟩) sched hlen
  exact ⟨hm, toma_every_schedule refLen o recs a hargs N capIn capOut none hN (runSchedule_reach _ sched) hm⟩

/-- the reader fails on some record: a malformed SAM line -/
theorem toma_read_error_reported (refLen : Nat) (o : TomaOpts) (recs : List SamRec) (a : Nat × Nat × Bool)
    (N capIn capOut : Nat) (k : Nat) (e : CmdErr) (hN : 1 ≤ N) {s : State _ _ _ _}
    (hr : Reach (tomaCfg refLen o recs a N capIn capOut (some (k, e))) s) : s.main ≠ .ret none :=
  error_reported (cfg := tomaCfg refLen o recs a N capIn capOut (some (k, e))) hN (Or.inl (fun h => nomatch h)) hr

end toMultiAlign

section variants
open Gofasta.Model.Sched Gofasta.Lemmas.Sched Gofasta.Driver Gofasta.Lemmas.SamVarPipeline

/-- the annotation of `variants` over the reference row (as in `Driver.varCommand`) -/
def varRegions (vi : VarIn) (refRow : List Nat) : Option (List Region × List Nat) :=
  if vi.annfmt == "gb" then
    (if (degapUpper refRow).length != vi.origin.length then none
     else regionsFromGenbank vi.gb (degapUpper refRow).length)
  else regionsFromGFF vi.gff (degapUpper refRow)

/-- the worker of variants.Variants: width check, then the caller on (reference row, query row) -/
def varWorker (pairFn : List Nat → List Nat → List Region → List Nat → List Variant) (refRow : List Nat)
    (regions : List Region) (inter : List Nat) (r : String × List Nat) : Except CmdErr (String × List Variant) :=
  if r.2.length ≠ refRow.length then .error .width else .ok (r.1, pairFn refRow r.2 regions inter)

/-- variants.WriteVariants prints nothing for the record named like the reference (its index is still consumed) -/
def varRender (vi : VarIn) (refID : String) (y : String × List Variant) : String :=
  if y.1 != refID then variantsLine vi.append vi.start vi.stop y.1 y.2 else ""

/-- `gofasta variants` as a run of the one-pool pipeline. `first` is the index the reader gives the first row it
sends and the value the writer's counter starts from: 1 when the reader has consumed the reference itself (reference
from standard input), 0 otherwise. The reader of Model/Sched numbers from 0, so the writer adds `first`. -/
def varCfg (vi : VarIn) (pairFn : List Nat → List Nat → List Region → List Nat → List Variant)
    (refRow : List Nat) (rows : List (String × List Nat)) (refID : String) (regions : List Region) (inter : List Nat)
    (first N capIn capOut : Nat) (rf : Option (Nat × CmdErr)) :
    Cfg (String × List Nat) (String × List Variant) CmdErr (TextW (String × List Variant)) where
  items := rows
  f := varWorker pairFn refRow regions inter
  N := N
  capIn := capIn
  capOut := capOut
  readFail := rf
  absorb := fun st r => .ok (TextW.absorb (varRender vi refID) first st r)
  finish := fun st => .ok st
  init := TextW.start "query,mutations\n" first

theorem varWorker_widthChecked (pairFn : List Nat → List Nat → List Region → List Nat → List Variant)
    (refRow : List Nat) (regions : List Region) (inter : List Nat) :
    WidthChecked (varWorker pairFn refRow regions inter) refRow.length fun x => (x.1, pairFn refRow x.2 regions inter) :=
  fun _ => rfl

/-! `Driver.varCommand` on an input whose annotation and reference row are given (`varRegions` above is the annotation
step of its body, tied to it by `varCommand_unfold`) -/

theorem varCommand_unfold (vi : VarIn) (pairFn : List Nat → List Nat → List Region → List Nat → List Variant)
    (refRow : List Nat) (rows : List (String × List Nat)) (refID : String) (regions : List Region) (inter : List Nat)
    (hra : refAndRows vi = some (refRow, rows, refID)) (hregs : varRegions vi refRow = some (regions, inter)) :
    varCommand vi pairFn =
      if rows.any (fun r => r.2.length != refRow.length) then "!error" else
      if vi.agg then variantsAggregate vi.append vi.start vi.stop vi.thrn vi.thrd refID
          (rows.map fun r => (r.1, pairFn refRow r.2 regions inter))
      else variantsOutput vi.append vi.start vi.stop refID (rows.map fun r => (r.1, pairFn refRow r.2 regions inter)) := by
  unfold varCommand
  rw [hra]
  dsimp only
  unfold varRegions at hregs
  rw [hregs]

theorem varCommand_of_widths {vi : VarIn} {pairFn : List Nat → List Nat → List Region → List Nat → List Variant}
    {refRow : List Nat} {rows : List (String × List Nat)} {refID : String} {regions : List Region} {inter : List Nat}
    (hra : refAndRows vi = some (refRow, rows, refID)) (hregs : varRegions vi refRow = some (regions, inter))
    (hw : ∀ r ∈ rows, r.2.length = refRow.length) :
    varCommand vi pairFn =
      if vi.agg then variantsAggregate vi.append vi.start vi.stop vi.thrn vi.thrd refID
          (rows.map fun r => (r.1, pairFn refRow r.2 regions inter))
      else variantsOutput vi.append vi.start vi.stop refID (rows.map fun r => (r.1, pairFn refRow r.2 regions inter)) := by
  rw [varCommand_unfold vi pairFn refRow rows refID regions inter hra hregs, if_neg]
  rw [Bool.not_eq_true, List.any_eq_false]
  intro r hr
  rw [hw r hr, bne_self_eq_false]
  exact Bool.false_ne_true

theorem varCommand_of_bad {vi : VarIn} {pairFn : List Nat → List Nat → List Region → List Nat → List Variant}
    {refRow : List Nat} {rows : List (String × List Nat)} {refID : String} {regions : List Region} {inter : List Nat}
    (hra : refAndRows vi = some (refRow, rows, refID)) (hregs : varRegions vi refRow = some (regions, inter))
    (hbad : ∃ r ∈ rows, r.2.length ≠ refRow.length) : varCommand vi pairFn = "!error" := by
  rw [varCommand_unfold vi pairFn refRow rows refID regions inter hra hregs, if_pos]
  rw [List.any_eq_true]
  exact hbad.imp fun r h => ⟨h.1, bne_iff_ne.mpr h.2⟩

theorem variantsOutput_eq_render (vi : VarIn) (refID : String) (lists : List (String × List Variant)) :
    variantsOutput vi.append vi.start vi.stop refID lists =
      "query,mutations\n" ++ String.join (lists.map (varRender vi refID)) := by
  unfold variantsOutput
  rw [join_filter_map]
  rfl

/-- **variants**: for every caller `pairFn` (the model's `modelPair`, the specification's), whichever way the reference
is given, and whatever `first` is -/
theorem variants_every_schedule (vi : VarIn) (pairFn : List Nat → List Nat → List Region → List Nat → List Variant)
    (refRow : List Nat) (rows : List (String × List Nat)) (refID : String) (regions : List Region) (inter : List Nat)
    (hra : refAndRows vi = some (refRow, rows, refID)) (hregs : varRegions vi refRow = some (regions, inter))
    (hagg : vi.agg = false) (first N capIn capOut : Nat) (rf : Option (Nat × CmdErr)) (hN : 1 ≤ N)
    {s : State _ _ _ _}
    (hr : Reach (varCfg vi pairFn refRow rows refID regions inter first N capIn capOut rf) s)
    (hm : s.main = .ret none) :
    s.wst.text = varCommand vi pairFn := by
  obtain ⟨ys, hys, htext⟩ := text_writer_every_schedule
    (cfg := varCfg vi pairFn refRow rows refID regions inter first N capIn capOut rf)
    (varRender vi refID) "query,mutations\n" first hN (fun _ _ => rfl) (fun _ => rfl) rfl hr hm
  obtain ⟨hys', hw⟩ := (varWorker_widthChecked pairFn refRow regions inter).results hys
  rw [varCommand_of_widths hra hregs hw, hagg, if_neg Bool.false_ne_true, variantsOutput_eq_render, htext, hys']
  rfl

theorem variants_width_error_reported (vi : VarIn)
    (pairFn : List Nat → List Nat → List Region → List Nat → List Variant)
    (refRow : List Nat) (rows : List (String × List Nat)) (refID : String) (regions : List Region) (inter : List Nat)
    (hra : refAndRows vi = some (refRow, rows, refID)) (hregs : varRegions vi refRow = some (regions, inter))
    (first N capIn capOut : Nat) (rf : Option (Nat × CmdErr)) (hN : 1 ≤ N)
    (hbad : ∃ r ∈ rows, r.2.length ≠ refRow.length) {s : State _ _ _ _}
    (hr : Reach (varCfg vi pairFn refRow rows refID regions inter first N capIn capOut rf) s) :
    s.main ≠ .ret none ∧ varCommand vi pairFn = "!error" :=
  ⟨(varWorker_widthChecked pairFn refRow regions inter).error_reported hN hbad hr,
   varCommand_of_bad hra hregs hbad⟩

theorem variants_maximal_run (vi : VarIn) (pairFn : List Nat → List Nat → List Region → List Nat → List Variant)
    (refRow : List Nat) (rows : List (String × List Nat)) (refID : String) (regions : List Region) (inter : List Nat)
    (hra : refAndRows vi = some (refRow, rows, refID)) (hregs : varRegions vi refRow = some (regions, inter))
    (hagg : vi.agg = false) (first N capIn capOut : Nat) (hN : 1 ≤ N)
    (hw : ∀ r ∈ rows, r.2.length = refRow.length) {s : Sched.State _ _ _ _}
    (hr : Sched.Reach (varCfg vi pairFn refRow rows refID regions inter first N capIn capOut none) s)
    (hstuck : Sched.enabled (varCfg vi pairFn refRow rows refID regions inter first N capIn capOut none) s = []) :
    s.main = .ret none ∧ s.wst.text = varCommand vi pairFn := by
  have hm := (maximal_run_success
    (cfg := varCfg vi pairFn refRow rows refID regions inter first N capIn capOut none) hN rfl
    ((varWorker_widthChecked pairFn refRow regions inter).all_ok hw)
    (fun _ _ => ⟨_, rfl⟩) (fun _ => ⟨_, rfl⟩) hr hstuck).1
  exact ⟨hm, variants_every_schedule vi pairFn refRow rows refID regions inter hra hregs hagg first N capIn capOut
    none hN hr hm⟩

end variants

section samVariants
open Gofasta.Model.SchedChain Gofasta.Lemmas.SchedChain Gofasta.Driver Gofasta.Lemmas.SamVarPipeline Gofasta.Base

/-- what travels on the three channels of sam.Variants (the chain model has one value type for all channels) -/
inductive SV where
  | block (b : List SamRec)                       -- cSR: the records of one query
  | pair (name : String) (p : List Nat × List Nat)  -- cPairAlign: (reference row, query row)
  | vars (name : String) (vs : List Variant)      -- cVariants: the mutation list of the query

/-- pool 0: block to pairwise alignment -/
def svPair (pairOf : List SamRec → List Nat → List Nat × List Nat) (refU : List Nat) : SV → Except CmdErr SV
  | .block b => .ok (.pair (qnameOf b) (pairOf b refU))
  | _ => .error .stage

/-- pool 1: pairwise alignment to mutation list -/
def svCall (caller : List Nat → List Nat → List Region → List Nat → List Variant) (regions : List Region)
    (inter : List Nat) : SV → Except CmdErr SV
  | .pair n p => .ok (.vars n (caller p.1 p.2 regions inter))
  | _ => .error .stage

/-- the writer prints mutation lists (nothing else reaches it: `sv_arrival_rows`) -/
def svRender (vi : VarIn) (refID : String) : SV → String
  | .vars n vs => varRender vi refID (n, vs)
  | _ => ""

def samVarCfg (vi : VarIn) (refID : String) (refRaw : List Nat) (blocks : List (List SamRec))
    (pairOf : List SamRec → List Nat → List Nat × List Nat)
    (caller : List Nat → List Nat → List Region → List Nat → List Variant)
    (regions : List Region) (inter : List Nat) (N1 N2 cap0 cap1 cap2 : Nat) (rf : Option (Nat × CmdErr)) :
    Cfg SV CmdErr (TextW SV) where
  items := blocks.map .block
  pools := [⟨N1, svPair pairOf (refRaw.map upper), cap1⟩, ⟨N2, svCall caller regions inter, cap2⟩]
  cap0 := cap0
  readFail := rf
  absorb := fun st r => .ok (TextW.absorb (svRender vi refID) 0 st r)
  finish := fun st => .ok st
  init := TextW.start "query,mutations\n" 0

/-- what the two pools make of a block (`sv_items_pass`) -/
def svBoth (refRaw : List Nat) (pairOf : List SamRec → List Nat → List Nat × List Nat)
    (caller : List Nat → List Nat → List Region → List Nat → List Variant) (regions : List Region)
    (inter : List Nat) (b : List SamRec) : SV :=
  .vars (qnameOf b) (caller (pairOf b (refRaw.map upper)).1 (pairOf b (refRaw.map upper)).2 regions inter)

/-- the record the one-pool writers would receive; off `vars` a dummy, so what is said through `svRow` carries
"every arrival is a `vars`" -/
def svRow : SV → String × List Variant
  | .vars n vs => (n, vs)
  | _ => ("", [])

theorem sv_items_pass (refRaw : List Nat) (blocks : List (List SamRec))
    (pairOf : List SamRec → List Nat → List Nat × List Nat)
    (caller : List Nat → List Nat → List Region → List Nat → List Variant)
    (regions : List Region) (inter : List Nat) (N1 N2 cap1 cap2 : Nat) :
    (blocks.map SV.block).map (pass [⟨N1, svPair pairOf (refRaw.map upper), cap1⟩, ⟨N2, svCall caller regions inter, cap2⟩]) =
    (blocks.map (svBoth refRaw pairOf caller regions inter)).map Except.ok := by
  rw [List.map_map, List.map_map]
  rfl

theorem sv_all_ok (refRaw : List Nat) (blocks : List (List SamRec))
    (pairOf : List SamRec → List Nat → List Nat × List Nat)
    (caller : List Nat → List Nat → List Region → List Nat → List Variant)
    (regions : List Region) (inter : List Nat) (N1 N2 cap1 cap2 : Nat) :
    ∀ x ∈ blocks.map SV.block, ∃ y,
      pass [⟨N1, svPair pairOf (refRaw.map upper), cap1⟩, ⟨N2, svCall caller regions inter, cap2⟩] x = .ok y :=
  all_ok_of_map (sv_items_pass refRaw blocks pairOf caller regions inter N1 N2 cap1 cap2)

section
variable {vi : VarIn} {refRaw : List Nat} {regions : List Region} {inter : List Nat} (refID : String)
  (blocks : List (List SamRec)) (pairOf : List SamRec → List Nat → List Nat × List Nat)
  (caller : List Nat → List Nat → List Region → List Nat → List Variant)
  (hregs : samRegions vi refRaw = some (regions, inter))
include hregs

theorem samVarOn_eq_render (hagg : vi.agg = false) :
    samVarOn vi refID refRaw blocks pairOf caller = "query,mutations\n" ++
      String.join ((blocks.map (svBoth refRaw pairOf caller regions inter)).map (svRender vi refID)) := by
  unfold samVarOn
  rw [hregs]
  simp only [hagg, Bool.false_eq_true, if_false]
  rw [variantsOutput_eq_render, List.map_map, List.map_map]
  rfl

theorem samVarOn_eq_aggregate (hagg : vi.agg = true) :
    samVarOn vi refID refRaw blocks pairOf caller =
      variantsAggregate vi.append vi.start vi.stop vi.thrn vi.thrd refID (blocks.map fun b =>
        (qnameOf b, caller (pairOf b (refRaw.map upper)).1 (pairOf b (refRaw.map upper)).2 regions inter)) := by
  unfold samVarOn
  rw [hregs]
  simp only [hagg, if_true]

end

theorem sam_variants_every_schedule (vi : VarIn) (refID : String) (refRaw : List Nat) (blocks : List (List SamRec))
    (pairOf : List SamRec → List Nat → List Nat × List Nat)
    (caller : List Nat → List Nat → List Region → List Nat → List Variant)
    (regions : List Region) (inter : List Nat) (hregs : samRegions vi refRaw = some (regions, inter))
    (hagg : vi.agg = false) (N1 N2 cap0 cap1 cap2 : Nat) (rf : Option (Nat × CmdErr))
    (hN1 : 1 ≤ N1) (hN2 : 1 ≤ N2) {s : State _ _ _}
    (hr : Reach (samVarCfg vi refID refRaw blocks pairOf caller regions inter N1 N2 cap0 cap1 cap2 rf) s)
    (hm : s.main = .ret none) :
    s.wst.text = samVarOn vi refID refRaw blocks pairOf caller := by
  obtain ⟨ys, hys, htext⟩ := chain_text_writer_every_schedule
    (cfg := samVarCfg vi refID refRaw blocks pairOf caller regions inter N1 N2 cap0 cap1 cap2 rf)
    (svRender vi refID) "query,mutations\n" 0 (two_pools_pos hN1 hN2) (fun _ _ => rfl) (fun _ => rfl) rfl hr hm
  cases map_ok_inj (hys.symm.trans (sv_items_pass refRaw blocks pairOf caller regions inter N1 N2 cap1 cap2))
  rw [htext, samVarOn_eq_render refID blocks pairOf caller hregs hagg]

/-- **sam variants, the whole command**: for the function the test harness executes, `Driver.samVarCommand`
(as `samVarCore` on structured arguments: `samVarCommand_eq`) -/
theorem sam_variants_command_every_schedule (vi : VarIn) (recs : List SamRec) (refFromFile : Bool)
    (refBytes : List Nat) (rname : String) (blocksFn : List SamRec → List (List SamRec))
    (pairOf : List SamRec → List Nat → List Nat × List Nat)
    (caller : List Nat → List Nat → List Region → List Nat → List Variant)
    (regions : List Region) (inter : List Nat)
    (hregs : samRegions vi (refRawOf vi refFromFile refBytes) = some (regions, inter))
    (hagg : vi.agg = false) (N1 N2 cap0 cap1 cap2 : Nat) (rf : Option (Nat × CmdErr))
    (hN1 : 1 ≤ N1) (hN2 : 1 ≤ N2) {s : State _ _ _}
    (hr : Reach (samVarCfg vi (refIDOf refFromFile rname) (refRawOf vi refFromFile refBytes) (blocksFn recs)
      pairOf caller regions inter N1 N2 cap0 cap1 cap2 rf) s)
    (hm : s.main = .ret none) :
    s.wst.text = samVarCore vi recs refFromFile refBytes rname blocksFn pairOf caller :=
  sam_variants_every_schedule vi _ _ _ pairOf caller regions inter hregs hagg N1 N2 cap0 cap1 cap2 rf hN1 hN2 hr hm

theorem sam_variants_maximal_run (vi : VarIn) (refID : String) (refRaw : List Nat) (blocks : List (List SamRec))
    (pairOf : List SamRec → List Nat → List Nat × List Nat)
    (caller : List Nat → List Nat → List Region → List Nat → List Variant)
    (regions : List Region) (inter : List Nat) (hregs : samRegions vi refRaw = some (regions, inter))
    (hagg : vi.agg = false) (N1 N2 cap0 cap1 cap2 : Nat) (hN1 : 1 ≤ N1) (hN2 : 1 ≤ N2)
    {s : SchedChain.State _ _ _}
    (hr : SchedChain.Reach (samVarCfg vi refID refRaw blocks pairOf caller regions inter N1 N2 cap0 cap1 cap2 none) s)
    (hstuck : SchedChain.enabled
      (samVarCfg vi refID refRaw blocks pairOf caller regions inter N1 N2 cap0 cap1 cap2 none) s = []) :
    s.main = .ret none ∧ s.wst.text = samVarOn vi refID refRaw blocks pairOf caller := by
  have hm := (chain_maximal_run_success
    (cfg := samVarCfg vi refID refRaw blocks pairOf caller regions inter N1 N2 cap0 cap1 cap2 none)
    (two_pools_pos hN1 hN2) rfl (sv_all_ok refRaw blocks pairOf caller regions inter N1 N2 cap1 cap2)
    (fun _ _ => ⟨_, rfl⟩) (fun _ => ⟨_, rfl⟩) hr hstuck).1
  exact ⟨hm, sam_variants_every_schedule vi refID refRaw blocks pairOf caller regions inter hregs hagg
    N1 N2 cap0 cap1 cap2 none hN1 hN2 hr hm⟩

theorem sam_variants_runSchedule (vi : VarIn) (refID : String) (refRaw : List Nat) (blocks : List (List SamRec))
    (pairOf : List SamRec → List Nat → List Nat × List Nat)
    (caller : List Nat → List Nat → List Region → List Nat → List Variant)
    (regions : List Region) (inter : List Nat) (hregs : samRegions vi refRaw = some (regions, inter))
    (hagg : vi.agg = false) (N1 N2 cap0 cap1 cap2 : Nat) (hN1 : 1 ≤ N1) (hN2 : 1 ≤ N2) (sched : List Nat)
    (hlen : μ (samVarCfg vi refID refRaw blocks pairOf caller regions inter N1 N2 cap0 cap1 cap2 none)
      (init (samVarCfg vi refID refRaw blocks pairOf caller regions inter N1 N2 cap0 cap1 cap2 none)) ≤ sched.length) :
    (runSchedule (samVarCfg vi refID refRaw blocks pairOf caller regions inter N1 N2 cap0 cap1 cap2 none) sched).main
      = .ret none ∧
    (runSchedule (samVarCfg vi refID refRaw blocks pairOf caller regions inter N1 N2 cap0 cap1 cap2 none) sched).wst.text
      = samVarOn vi refID refRaw blocks pairOf caller := by
  have hm := chain_runSchedule_returns_nil
    (cfg := samVarCfg vi refID refRaw blocks pairOf caller regions inter N1 N2 cap0 cap1 cap2 none)
    (two_pools_pos hN1 hN2) rfl (sv_all_ok refRaw blocks pairOf caller regions inter N1 N2 cap1 cap2)
    (fun _ _ => ⟨_, rfl⟩) (fun _ => ⟨_, rfl⟩) sched hlen
  exact ⟨hm, sam_variants_every_schedule vi refID refRaw blocks pairOf caller regions inter hregs hagg
    N1 N2 cap0 cap1 cap2 none hN1 hN2 (runSchedule_reach _ sched) hm⟩

theorem sam_variants_read_error_reported (vi : VarIn) (refID : String) (refRaw : List Nat) (blocks : List (List SamRec))
    (pairOf : List SamRec → List Nat → List Nat × List Nat)
    (caller : List Nat → List Nat → List Region → List Nat → List Variant)
    (regions : List Region) (inter : List Nat) (N1 N2 cap0 cap1 cap2 : Nat) (k : Nat) (e : CmdErr)
    (hN1 : 1 ≤ N1) (hN2 : 1 ≤ N2) {s : State _ _ _}
    (hr : Reach (samVarCfg vi refID refRaw blocks pairOf caller regions inter N1 N2 cap0 cap1 cap2 (some (k, e))) s) :
    s.main ≠ .ret none :=
  chain_error_reported
    (cfg := samVarCfg vi refID refRaw blocks pairOf caller regions inter N1 N2 cap0 cap1 cap2 (some (k, e)))
    (two_pools_pos hN1 hN2) (Or.inl (fun h => nomatch h)) hr

/-- **sam variants and C11 together**: for a SAM file and reference meeting `SamVarOk`, what any schedule of the two-pool
pipeline of `sam variants` has written when the driver returns nil is the header followed, in file order, by the
row that `gofasta variants` prints for the pair file of each query (`sam_variants_rows`) -/
theorem sam_variants_every_schedule_rows (vi : VarIn) (recs : List SamRec) (refFromFile : Bool) (refBytes : List Nat)
    (rname mode : String) (printed : List SamRec → List Nat × List Nat)
    (regions : List Region) (inter : List Nat)
    (hregs : samRegions vi (refRawOf vi refFromFile refBytes) = some (regions, inter)) (hagg : vi.agg = false)
    (hmode : mode ≠ "ann") (hok : SamVarOk vi recs refFromFile refBytes)
    (hP : ∀ b ∈ samBlocks recs, PrintedOk (refRawOf vi refFromFile refBytes) b (printed b))
    (N1 N2 cap0 cap1 cap2 : Nat) (rf : Option (Nat × CmdErr)) (hN1 : 1 ≤ N1) (hN2 : 1 ≤ N2)
    {s : SchedChain.State _ _ _}
    (hr : SchedChain.Reach (samVarCfg vi (refIDOf refFromFile rname) (refRawOf vi refFromFile refBytes) (samBlocks recs)
      (fun b r => blockToSeqPair b r) modelPair regions inter N1 N2 cap0 cap1 cap2 rf) s)
    (hm : s.main = .ret none) :
    s.wst.text = header ++ String.join ((samBlocks recs).map
        (queryRow vi (refIDOf refFromFile rname) (refRawOf vi refFromFile refBytes) regions inter)) ∧
    ∀ b ∈ samBlocks recs,
      varCommand (pairVarIn vi mode (refIDOf refFromFile rname) (qnameOf b) (printed b).1 (printed b).2) modelPair =
        header ++ queryRow vi (refIDOf refFromFile rname) (refRawOf vi refFromFile refBytes) regions inter b := by
  have h := sam_variants_rows vi recs refFromFile refBytes rname mode printed regions inter hregs hagg hmode hok hP
  refine ⟨?_, h.2⟩
  rw [← h.1]
  exact sam_variants_command_every_schedule vi recs refFromFile refBytes rname samBlocks
    (fun b r => blockToSeqPair b r) modelPair regions inter hregs hagg N1 N2 cap0 cap1 cap2 rf hN1 hN2 hr hm

end samVariants

section variantsAggregate
open Gofasta.Model.Sched Gofasta.Lemmas.Sched Gofasta.Driver Gofasta.Lemmas.SamVarPipeline
open Gofasta.Lemmas.AggVariants

/-- state of the aggregating writer of variants: the counting map (association list in first-seen order), the number
of records counted (the one named like the reference is not), the bytes written -/
structure VAggW where
  counts : List (AggKey × Nat)
  n : Nat
  text : String

/-- the loop body: a record not named like the reference is counted, and so is each of its mutations inside the window -/
def VAggW.absorb (vi : VarIn) (refID : String) (st : VAggW) (r : Nat × (String × List Variant)) : VAggW :=
  if r.2.1 != refID then
    { st with
      counts := (r.2.2.filter (inWindow vi.start vi.stop)).foldl (fun m v =>
        aggInsert { v := { v with snps := "" }, rep := formatVariant vi.append v } m) st.counts,
      n := st.n + 1 }
  else st

/-- after the loop: sort, keep what reaches the threshold, print -/
def VAggW.finish (vi : VarIn) (st : VAggW) : VAggW :=
  { st with text := st.text ++ String.join (((sortStable aggLt st.counts).filter fun e =>
      e.2 * vi.thrd ≥ vi.thrn * st.n).map fun e => e.1.rep ++ "," ++ fmt9 e.2 st.n ++ "\n") }

def varAggCfg (vi : VarIn) (pairFn : List Nat → List Nat → List Region → List Nat → List Variant)
    (refRow : List Nat) (rows : List (String × List Nat)) (refID : String) (regions : List Region) (inter : List Nat)
    (N capIn capOut : Nat) (rf : Option (Nat × CmdErr)) :
    Cfg (String × List Nat) (String × List Variant) CmdErr VAggW where
  items := rows
  f := varWorker pairFn refRow regions inter
  N := N
  capIn := capIn
  capOut := capOut
  readFail := rf
  absorb := fun st r => .ok (VAggW.absorb vi refID st r)
  finish := fun st => .ok (VAggW.finish vi st)
  init := ⟨[], 0, "mutation,frequency\n"⟩

theorem VAggW.foldl_absorb (vi : VarIn) (refID : String) : ∀ (arr : List (Nat × (String × List Variant))) (st : VAggW),
    arr.foldl (VAggW.absorb vi refID) st =
      ⟨((arr.map (·.2)).filter fun r => r.1 != refID).foldl (fun m r =>
          (r.2.filter (inWindow vi.start vi.stop)).foldl (fun m v =>
            aggInsert { v := { v with snps := "" }, rep := formatVariant vi.append v } m) m) st.counts,
       st.n + ((arr.map (·.2)).filter fun r => r.1 != refID).length, st.text⟩
  | [], _ => rfl
  | r :: t, st => by
    rw [List.foldl_cons, VAggW.foldl_absorb vi refID t, List.map_cons, List.filter_cons, VAggW.absorb]
    split
    · simp only [List.foldl_cons, List.length_cons, Nat.add_assoc, Nat.add_comm 1]
    · rfl

theorem VAggW.finish_text (vi : VarIn) (refID : String) (arr : List (Nat × (String × List Variant))) :
    (VAggW.finish vi (arr.foldl (VAggW.absorb vi refID) ⟨[], 0, "mutation,frequency\n"⟩)).text =
      variantsAggregate vi.append vi.start vi.stop vi.thrn vi.thrd refID (arr.map (·.2)) := by
  rw [VAggW.foldl_absorb]
  simp only [VAggW.finish, Nat.zero_add]
  rfl

/-- **variants --aggregate**: provided two different counters that occur are never tied under the sort key of the table
(`Separated`; discharged for the model's caller in `variants_aggregate_model_every_schedule`) -/
theorem variants_aggregate_every_schedule (vi : VarIn)
    (pairFn : List Nat → List Nat → List Region → List Nat → List Variant)
    (refRow : List Nat) (rows : List (String × List Nat)) (refID : String) (regions : List Region) (inter : List Nat)
    (hra : refAndRows vi = some (refRow, rows, refID)) (hregs : varRegions vi refRow = some (regions, inter))
    (hagg : vi.agg = true)
    (hsep : Separated (aggKeys vi.append vi.start vi.stop refID
      (rows.map fun r => (r.1, pairFn refRow r.2 regions inter))))
    (N capIn capOut : Nat) (rf : Option (Nat × CmdErr)) (hN : 1 ≤ N) {s : State _ _ _ _}
    (hr : Reach (varAggCfg vi pairFn refRow rows refID regions inter N capIn capOut rf) s)
    (hm : s.main = .ret none) :
    s.wst.text = varCommand vi pairFn := by
  obtain ⟨ys, arr, hys, hperm, hgood, (hw : s.wst = _)⟩ := ((SchedRun.sound hr).complete hN hm).total
    (VAggW.absorb vi refID) (VAggW.finish vi) (fun _ _ => rfl) (fun _ => rfl)
  obtain ⟨rfl, hwid⟩ := (varWorker_widthChecked pairFn refRow regions inter).results (items := rows) hys
  rw [varCommand_of_widths hra hregs hwid, hagg, if_pos rfl, hw,
    variants_aggregate_any_order vi.append vi.start vi.stop vi.thrn vi.thrd refID _ _
      (snd_perm_of_indexed hperm hgood).symm hsep]
  exact VAggW.finish_text vi refID arr

theorem variants_aggregate_width_error_reported (vi : VarIn)
    (pairFn : List Nat → List Nat → List Region → List Nat → List Variant)
    (refRow : List Nat) (rows : List (String × List Nat)) (refID : String) (regions : List Region) (inter : List Nat)
    (hra : refAndRows vi = some (refRow, rows, refID)) (hregs : varRegions vi refRow = some (regions, inter))
    (N capIn capOut : Nat) (rf : Option (Nat × CmdErr)) (hN : 1 ≤ N)
    (hbad : ∃ r ∈ rows, r.2.length ≠ refRow.length) {s : State _ _ _ _}
    (hr : Reach (varAggCfg vi pairFn refRow rows refID regions inter N capIn capOut rf) s) :
    s.main ≠ .ret none ∧ varCommand vi pairFn = "!error" :=
  ⟨(varWorker_widthChecked pairFn refRow regions inter).error_reported hN hbad hr,
   varCommand_of_bad hra hregs hbad⟩

/-- **variants --aggregate, the model's caller, no hypothesis about ties**: with `modelPair` and an annotation whose
feature names contain no colon and whose translations are bytes (`RegionsOk`) -/
theorem variants_aggregate_model_every_schedule (vi : VarIn)
    (refRow : List Nat) (rows : List (String × List Nat)) (refID : String) (regions : List Region) (inter : List Nat)
    (hra : refAndRows vi = some (refRow, rows, refID)) (hregs : varRegions vi refRow = some (regions, inter))
    (hagg : vi.agg = true) (hreg : RegionsOk regions)
    (N capIn capOut : Nat) (rf : Option (Nat × CmdErr)) (hN : 1 ≤ N) {s : State _ _ _ _}
    (hr : Reach (varAggCfg vi modelPair refRow rows refID regions inter N capIn capOut rf) s)
    (hm : s.main = .ret none) :
    s.wst.text = varCommand vi modelPair := by
  apply variants_aggregate_every_schedule vi modelPair refRow rows refID regions inter hra hregs hagg _
    N capIn capOut rf hN hr hm
  have : (rows.map fun r => (r.1, modelPair refRow r.2 regions inter)) =
      modelRows (refRow.map (enc false)) regions inter (rows.map fun r => (r.1, r.2.map (enc false))) := by
    rw [modelRows, List.map_map]
    rfl
  rw [this]
  exact separated_model _ _ _ _ _ _ _ _ hreg

end variantsAggregate

section samVariantsAggregate
open Gofasta.Model.SchedChain Gofasta.Lemmas.SchedChain Gofasta.Driver Gofasta.Lemmas.SamVarPipeline Gofasta.Base
open Gofasta.Lemmas.AggVariants

/-- the aggregating writer at the end of the chain: it ranges over cVariants -/
def svAggAbsorb (vi : VarIn) (refID : String) (st : VAggW) (r : Nat × SV) : VAggW :=
  match r.2 with
  | .vars n vs => VAggW.absorb vi refID st (r.1, (n, vs))
  | _ => st

def samVarAggCfg (vi : VarIn) (refID : String) (refRaw : List Nat) (blocks : List (List SamRec))
    (pairOf : List SamRec → List Nat → List Nat × List Nat)
    (caller : List Nat → List Nat → List Region → List Nat → List Variant)
    (regions : List Region) (inter : List Nat) (N1 N2 cap0 cap1 cap2 : Nat) (rf : Option (Nat × CmdErr)) :
    Cfg SV CmdErr VAggW where
  items := blocks.map .block
  pools := [⟨N1, svPair pairOf (refRaw.map upper), cap1⟩, ⟨N2, svCall caller regions inter, cap2⟩]
  cap0 := cap0
  readFail := rf
  absorb := fun st r => .ok (svAggAbsorb vi refID st r)
  finish := fun st => .ok (VAggW.finish vi st)
  init := ⟨[], 0, "mutation,frequency\n"⟩

theorem sv_foldl {σ : Type} {f : σ → Nat × SV → σ} {g : σ → Nat × (String × List Variant) → σ}
    (hf : ∀ st i n vs, f st (i, .vars n vs) = g st (i, (n, vs))) :
    ∀ (arr : List (Nat × SV)) (st : σ), (∀ r ∈ arr, ∃ n vs, r.2 = .vars n vs) →
      arr.foldl f st = (arr.map fun r => (r.1, svRow r.2)).foldl g st
  | [], _, _ => rfl
  | (i, y) :: t, st, h => by
    obtain ⟨n, vs, hy⟩ := h (i, y) List.mem_cons_self
    cases (hy : y = .vars n vs)
    rw [List.foldl_cons, List.map_cons, List.foldl_cons, hf,
      sv_foldl hf t _ fun r' hr' => h r' (List.mem_cons_of_mem _ hr')]
    rfl

theorem sv_arrival_rows {refRaw : List Nat} {blocks : List (List SamRec)}
    {pairOf : List SamRec → List Nat → List Nat × List Nat}
    {caller : List Nat → List Nat → List Region → List Nat → List Variant} {regions : List Region} {inter : List Nat}
    {arr : List (Nat × SV)}
    (hsnd : (arr.map Prod.snd).Perm (blocks.map (svBoth refRaw pairOf caller regions inter))) :
    (∀ r ∈ arr, ∃ n vs, r.2 = .vars n vs) ∧
    ((arr.map fun r => (r.1, svRow r.2)).map (·.2)).Perm (blocks.map fun b =>
      (qnameOf b, caller (pairOf b (refRaw.map upper)).1 (pairOf b (refRaw.map upper)).2 regions inter)) := by
  refine ⟨fun r hr => ?_, ?_⟩
  · obtain ⟨b, _, hb⟩ := List.mem_map.mp (hsnd.mem_iff.mp (List.mem_map_of_mem (f := Prod.snd) hr))
    exact ⟨_, _, hb.symm⟩
  · have := hsnd.map svRow
    rw [List.map_map, List.map_map] at this
    rw [List.map_map]
    exact this

theorem sam_variants_aggregate_every_schedule (vi : VarIn) (refID : String) (refRaw : List Nat)
    (blocks : List (List SamRec))
    (pairOf : List SamRec → List Nat → List Nat × List Nat)
    (caller : List Nat → List Nat → List Region → List Nat → List Variant)
    (regions : List Region) (inter : List Nat) (hregs : samRegions vi refRaw = some (regions, inter))
    (hagg : vi.agg = true)
    (hsep : Separated (aggKeys vi.append vi.start vi.stop refID (blocks.map fun b =>
      (qnameOf b, caller (pairOf b (refRaw.map upper)).1 (pairOf b (refRaw.map upper)).2 regions inter))))
    (N1 N2 cap0 cap1 cap2 : Nat) (rf : Option (Nat × CmdErr))
    (hN1 : 1 ≤ N1) (hN2 : 1 ≤ N2) {s : State _ _ _}
    (hr : Reach (samVarAggCfg vi refID refRaw blocks pairOf caller regions inter N1 N2 cap0 cap1 cap2 rf) s)
    (hm : s.main = .ret none) :
    s.wst.text = samVarOn vi refID refRaw blocks pairOf caller := by
  obtain ⟨arr, hperm, hgood, _, hw⟩ := chain_total_writer
    (sv_items_pass refRaw blocks pairOf caller regions inter N1 N2 cap1 cap2) (svAggAbsorb vi refID) (VAggW.finish vi)
    (two_pools_pos hN1 hN2) (fun _ _ => rfl) (fun _ => rfl) hr hm
  obtain ⟨hvars, hrows⟩ := sv_arrival_rows (snd_perm_of_indexed hperm hgood)
  rw [hw, sv_foldl (f := svAggAbsorb vi refID) (g := VAggW.absorb vi refID) (fun _ _ _ _ => rfl) arr _ hvars,
    samVarOn_eq_aggregate refID blocks pairOf caller hregs hagg,
    variants_aggregate_any_order vi.append vi.start vi.stop vi.thrn vi.thrd refID _ _ hrows.symm hsep]
  exact VAggW.finish_text vi refID _

end samVariantsAggregate

/-! ## the width validation of Model/Validate decides the outcome of every executed schedule -/

section outcomes
open Gofasta.Model.Sched Gofasta.Lemmas.Sched Gofasta.Driver

theorem snps_outcome (hard : Bool) (ref : List Nat) (recs : List (String × List Nat)) (N capIn capOut : Nat)
    (hN : 1 ≤ N) (sched : List Nat)
    (hlen : μ (snpsCfg hard ref recs N capIn capOut none) (init (snpsCfg hard ref recs N capIn capOut none)) ≤ sched.length) :
    if refusesWidths ref.length (recs.map fun r => r.2.length) then
      (runSchedule (snpsCfg hard ref recs N capIn capOut none) sched).main = .ret (some .width)
    else
      (runSchedule (snpsCfg hard ref recs N capIn capOut none) sched).main = .ret none ∧
      (runSchedule (snpsCfg hard ref recs N capIn capOut none) sched).wst.text = snpsOutput hard ref recs :=
  refusesWidths_cases ref.length recs
    (fun hbad => runSchedule_returns_width (cfg := snpsCfg hard ref recs N capIn capOut none)
      (snpsWorker_widthChecked _) hN rfl (fun _ _ => ⟨_, rfl⟩) (fun _ => ⟨_, rfl⟩) (exists_encItems hbad) sched hlen)
    (fun hw => by
      have hm := runSchedule_returns_nil (cfg := snpsCfg hard ref recs N capIn capOut none) hN rfl
        (snps_all_ok hard ref recs hw) (fun _ _ => ⟨_, rfl⟩) (fun _ => ⟨_, rfl⟩) sched hlen
      exact ⟨hm, snps_every_schedule hard ref recs N capIn capOut none hN (runSchedule_reach _ sched) hm⟩)

theorem updown_list_outcome (ref : List Nat) (recs : List (String × List Nat)) (N capIn capOut : Nat)
    (hN : 1 ≤ N) (sched : List Nat)
    (hlen : μ (udListCfg ref recs N capIn capOut none) (init (udListCfg ref recs N capIn capOut none)) ≤ sched.length) :
    if refusesWidths ref.length (recs.map fun r => r.2.length) then
      (runSchedule (udListCfg ref recs N capIn capOut none) sched).main = .ret (some .width)
    else
      (runSchedule (udListCfg ref recs N capIn capOut none) sched).main = .ret none ∧
      (runSchedule (udListCfg ref recs N capIn capOut none) sched).wst.text = udListOutput ref recs :=
  refusesWidths_cases ref.length recs
    (fun hbad => runSchedule_returns_width (cfg := udListCfg ref recs N capIn capOut none)
      (udWorker_widthChecked _) hN rfl (fun _ _ => ⟨_, rfl⟩) (fun _ => ⟨_, rfl⟩) (exists_encItems hbad) sched hlen)
    (fun hw => by
      have hm := runSchedule_returns_nil (cfg := udListCfg ref recs N capIn capOut none) hN rfl
        (ud_all_ok ref recs hw) (fun _ _ => ⟨_, rfl⟩) (fun _ => ⟨_, rfl⟩) sched hlen
      exact ⟨hm, updown_list_every_schedule ref recs N capIn capOut none hN (runSchedule_reach _ sched) hm⟩)

theorem variants_outcome (vi : VarIn) (pairFn : List Nat → List Nat → List Region → List Nat → List Variant)
    (refRow : List Nat) (rows : List (String × List Nat)) (refID : String) (regions : List Region) (inter : List Nat)
    (hra : refAndRows vi = some (refRow, rows, refID)) (hregs : varRegions vi refRow = some (regions, inter))
    (hagg : vi.agg = false) (first N capIn capOut : Nat) (hN : 1 ≤ N) (sched : List Nat)
    (hlen : μ (varCfg vi pairFn refRow rows refID regions inter first N capIn capOut none)
      (init (varCfg vi pairFn refRow rows refID regions inter first N capIn capOut none)) ≤ sched.length) :
    if refusesWidths refRow.length (rows.map fun r => r.2.length) then
      (runSchedule (varCfg vi pairFn refRow rows refID regions inter first N capIn capOut none) sched).main
        = .ret (some .width) ∧ varCommand vi pairFn = "!error"
    else
      (runSchedule (varCfg vi pairFn refRow rows refID regions inter first N capIn capOut none) sched).main = .ret none ∧
      (runSchedule (varCfg vi pairFn refRow rows refID regions inter first N capIn capOut none) sched).wst.text =
        varCommand vi pairFn :=
  refusesWidths_cases refRow.length rows
    (fun hbad => ⟨runSchedule_returns_width
      (cfg := varCfg vi pairFn refRow rows refID regions inter first N capIn capOut none)
      (varWorker_widthChecked pairFn refRow regions inter) hN rfl (fun _ _ => ⟨_, rfl⟩) (fun _ => ⟨_, rfl⟩) hbad
      sched hlen, varCommand_of_bad hra hregs hbad⟩)
    (fun hw => by
      have hm := runSchedule_returns_nil
        (cfg := varCfg vi pairFn refRow rows refID regions inter first N capIn capOut none) hN rfl
        ((varWorker_widthChecked pairFn refRow regions inter).all_ok hw)
        (fun _ _ => ⟨_, rfl⟩) (fun _ => ⟨_, rfl⟩) sched hlen
      exact ⟨hm, variants_every_schedule vi pairFn refRow rows refID regions inter hra hregs hagg first N capIn capOut
        none hN (runSchedule_reach _ sched) hm⟩)

end outcomes

/-! ## the statements are not vacuous: concrete inputs, two schedules each -/

namespace Examples
open Gofasta.Driver Gofasta.Lemmas.SamVarPipeline Gofasta.Base

/-- two schedules (the k-th number picks the enabled step number k modulo the count of enabled steps) -/
def sched1 : List Nat := List.replicate 30 0
def sched2 : List Nat := [0, 0, 0, 1, 2, 2, 0, 3, 1, 1, 0, 1] ++ List.replicate 20 0

/-- reference ACGT; three rows: ACGA, TCNT, ACGA -/
def exRef : List Nat := [65, 67, 71, 84]
def exRecs : List (String × List Nat) :=
  [("q1", [65, 67, 71, 65]), ("q2", [84, 67, 78, 84]), ("q3", [65, 67, 71, 65])]

/-! ### snps, snps --aggregate, updown list, sam toMultiAlign: two workers, cIn of capacity 1, cOut of capacity 2 -/

def snpsEx := snpsCfg false exRef exRecs 2 1 2 none

example :
    (Model.Sched.runSchedule snpsEx sched1).arrival.map (·.1) = [0, 1, 2] ∧
    (Model.Sched.runSchedule snpsEx sched2).arrival.map (·.1) = [1, 0, 2] ∧
    (Model.Sched.runSchedule snpsEx sched1).main = .ret none ∧
    (Model.Sched.runSchedule snpsEx sched2).main = .ret none ∧
    (Model.Sched.runSchedule snpsEx sched1).wst.text = snpsOutput false exRef exRecs ∧
    (Model.Sched.runSchedule snpsEx sched2).wst.text = snpsOutput false exRef exRecs ∧
    snpsOutput false exRef exRecs = "query,SNPs\nq1,T4A\nq2,A1T\nq3,T4A\n" := by
  decide +kernel

example (sched : List Nat) (h : (Model.Sched.runSchedule snpsEx sched).main = .ret none) :
    (Model.Sched.runSchedule snpsEx sched).wst.text = "query,SNPs\nq1,T4A\nq2,A1T\nq3,T4A\n" := by
  exact (snps_every_schedule false exRef exRecs 2 1 2 none (by decide +kernel)
    (Lemmas.Sched.runSchedule_reach snpsEx sched) h).trans (by decide +kernel)

example :
    (Model.Sched.runSchedule (snpsCfg false exRef [("q1", [65, 67, 71, 65]), ("q2", [84, 67])] 2 1 2 none) sched1).main
      = .ret (some .width) := by
  decide +kernel

def aggEx := snpsAggCfg false 0 1 exRef exRecs 2 1 2 none

/-- the two schedules leave the counting map in two different orders; the table printed is the same -/
example :
    (Model.Sched.runSchedule aggEx sched1).wst.counts = [((4, 84, 65), 2), ((1, 65, 84), 1)] ∧
    (Model.Sched.runSchedule aggEx sched2).wst.counts = [((1, 65, 84), 1), ((4, 84, 65), 2)] ∧
    (Model.Sched.runSchedule aggEx sched1).main = .ret none ∧
    (Model.Sched.runSchedule aggEx sched2).main = .ret none ∧
    (Model.Sched.runSchedule aggEx sched1).wst.text = snpsAggregate false 0 1 exRef exRecs ∧
    (Model.Sched.runSchedule aggEx sched2).wst.text = snpsAggregate false 0 1 exRef exRecs ∧
    snpsAggregate false 0 1 exRef exRecs = "SNP,frequency\nA1T,0.333333333\nT4A,0.666666667\n" := by
  decide +kernel

def udEx := udListCfg exRef exRecs 2 1 2 none

/-- `udRow` quotes the ID with `String.any` and `String.replace`, which the kernel does not evaluate; so the two
executed schedules are compared on the records the writer has emitted (in order) rather than on the bytes -/
example :
    (Model.Sched.runSchedule udEx sched1).arrival.map (·.1) = [0, 1, 2] ∧
    (Model.Sched.runSchedule udEx sched2).arrival.map (·.1) = [1, 0, 2] ∧
    (Model.Sched.runSchedule udEx sched1).main = .ret none ∧
    (Model.Sched.runSchedule udEx sched2).main = .ret none ∧
    (Model.Sched.runSchedule udEx sched1).wst.ro.out =
      exRecs.map (fun r => getLine r.1 (exRef.map (enc false)) (r.2.map (enc false))) ∧
    (Model.Sched.runSchedule udEx sched2).wst.ro.out =
      exRecs.map (fun r => getLine r.1 (exRef.map (enc false)) (r.2.map (enc false))) ∧
    exRecs.map (fun r => getLine r.1 (exRef.map (enc false)) (r.2.map (enc false))) =
      [⟨"q1", [(4, 84, 65)], [], 1, 0⟩, ⟨"q2", [(1, 65, 84)], [(3, 3)], 1, 1⟩, ⟨"q3", [(4, 84, 65)], [], 1, 0⟩] := by
  decide +kernel

/-- and the bytes, for every schedule, by the theorem -/
example (sched : List Nat) (h : (Model.Sched.runSchedule udEx sched).main = .ret none) :
    (Model.Sched.runSchedule udEx sched).wst.text = udListOutput exRef exRecs :=
  updown_list_every_schedule exRef exRecs 2 1 2 none (by decide +kernel) (Lemmas.Sched.runSchedule_reach udEx sched) h

/-- three queries; the second has two records (the second one supplementary), the third a deletion -/
def exSam : List SamRec :=
  [⟨"a", 0, 0, [(0, 4)], [65, 67, 71, 84]⟩, ⟨"b", 0, 1, [(0, 2)], [67, 67]⟩, ⟨"b", 2048, 3, [(0, 1)], [84]⟩,
   ⟨"c", 0, 0, [(0, 2), (2, 1), (0, 1)], [65, 67, 84]⟩]

def tomaEx := tomaCfg 4 {} exSam (1, 4, false) 2 1 2 none

example :
    checkArgs 4 (-1) (-1) = some (1, 4, false) ∧
    (Model.Sched.runSchedule tomaEx sched1).arrival.map (·.1) = [0, 1, 2] ∧
    (Model.Sched.runSchedule tomaEx sched2).arrival.map (·.1) = [1, 0, 2] ∧
    (Model.Sched.runSchedule tomaEx sched1).main = .ret none ∧
    (Model.Sched.runSchedule tomaEx sched2).main = .ret none ∧
    toMultiAlign 4 {} exSam = some (Model.Sched.runSchedule tomaEx sched1).wst.text ∧
    toMultiAlign 4 {} exSam = some (Model.Sched.runSchedule tomaEx sched2).wst.text ∧
    toMultiAlign 4 {} exSam = some ">a\nACGT\n>b\n-CCT\n>c\nAC-T\n" := by
  decide +kernel

/-! ### variants: reference ATGGCATTTTAACC with one CDS over 1..12, given as the first record (standard input),
so the writer's counter starts at 1; and the same alignment with the reference found by name (counter from 0, the
reference's own record skipped by the writer) -/

def exRows : List (String × List Nat) :=
  [("q1", [65, 84, 71, 71, 67, 65, 84, 84, 84, 84, 65, 65, 67, 67]),
   ("q2", [65, 84, 71, 71, 84, 65, 84, 84, 84, 84, 65, 65, 67, 84]),
   ("q3", [65, 84, 71, 45, 67, 65, 84, 84, 84, 84, 65, 65, 67, 67])]

-- after the records: --append-snps, no --start, no --end, `agg`, threshold 0 / 1
def exVi (mode : String) (agg : Bool) : VarIn :=
  ⟨"gff", [], [pvGff], mode, "ref", [], ("ref", pvRef) :: exRows, true, 0, 0, agg, 0, 1⟩

def exRegs : List Region × List Nat := (varRegions (exVi "stdin" false) pvRef).getD ([], [])

theorem some_getD_of_isSome {τ : Type} {o : Option τ} (d : τ) (h : o.isSome = true) : o = some (o.getD d) := by
  cases o with
  | none => cases h
  | some v => rfl

theorem exRegs_ok (mode : String) (agg : Bool) : varRegions (exVi mode agg) pvRef = some exRegs :=
  -- `varRegions` does not look at `mode` and `agg`: the statement for any of them is the one for "stdin", false by unfolding
  some_getD_of_isSome (o := varRegions (exVi "stdin" false) pvRef) ([], []) (by decide +kernel)

example : exRegs.1.map (·.positions) = [[1, 2, 3, 4, 5, 6, 7, 8, 9, 10, 11, 12]] ∧ exRegs.2 = [13, 14] := by decide +kernel

theorem exRows_stdin (agg : Bool) : refAndRows (exVi "stdin" agg) = some (pvRef, exRows, "ref") := by
  cases agg <;> decide +kernel

theorem exRows_msa (agg : Bool) : refAndRows (exVi "msa" agg) = some (pvRef, ("ref", pvRef) :: exRows, "ref") := by
  cases agg <;> decide +kernel

def varEx := varCfg (exVi "stdin" false) modelPair pvRef exRows "ref" exRegs.1 exRegs.2 1 2 1 2 none
def varExMsa :=
  varCfg (exVi "msa" false) modelPair pvRef (("ref", pvRef) :: exRows) "ref" exRegs.1 exRegs.2 0 2 1 2 none

set_option maxRecDepth 100000 in
example :
    (Model.Sched.runSchedule varEx sched1).arrival.map (·.1) = [0, 1, 2] ∧
    (Model.Sched.runSchedule varEx sched2).arrival.map (·.1) = [1, 0, 2] ∧
    (Model.Sched.runSchedule varEx sched1).main = .ret none ∧
    (Model.Sched.runSchedule varEx sched2).main = .ret none ∧
    (Model.Sched.runSchedule varEx sched1).wst.text = varCommand (exVi "stdin" false) modelPair ∧
    (Model.Sched.runSchedule varEx sched2).wst.text = varCommand (exVi "stdin" false) modelPair ∧
    varCommand (exVi "stdin" false) modelPair =
      "query,mutations\nq1,\nq2,aa:g:A2V(nuc:C5T)|nuc:C14T\nq3,del:4:1\n" := by
  decide +kernel

set_option maxRecDepth 100000 in
example :
    (Model.Sched.runSchedule varExMsa (sched1 ++ sched1)).arrival.map (·.1) = [0, 1, 2, 3] ∧
    (Model.Sched.runSchedule varExMsa (sched2 ++ sched1)).arrival.map (·.1) = [1, 0, 2, 3] ∧
    (Model.Sched.runSchedule varExMsa (sched1 ++ sched1)).main = .ret none ∧
    (Model.Sched.runSchedule varExMsa (sched2 ++ sched1)).main = .ret none ∧
    (Model.Sched.runSchedule varExMsa (sched1 ++ sched1)).wst.text = varCommand (exVi "msa" false) modelPair ∧
    (Model.Sched.runSchedule varExMsa (sched2 ++ sched1)).wst.text = varCommand (exVi "msa" false) modelPair ∧
    varCommand (exVi "msa" false) modelPair =
      "query,mutations\nq1,\nq2,aa:g:A2V(nuc:C5T)|nuc:C14T\nq3,del:4:1\n" := by
  decide +kernel

set_option maxRecDepth 100000 in
example (sched : List Nat) (h : (Model.Sched.runSchedule varEx sched).main = .ret none) :
    (Model.Sched.runSchedule varEx sched).wst.text =
      "query,mutations\nq1,\nq2,aa:g:A2V(nuc:C5T)|nuc:C14T\nq3,del:4:1\n" := by
  exact (variants_every_schedule (exVi "stdin" false) modelPair pvRef exRows "ref" exRegs.1 exRegs.2
    (exRows_stdin false) (exRegs_ok _ _) rfl 1 2 1 2 none (by decide +kernel)
    (Lemmas.Sched.runSchedule_reach varEx sched) h).trans (by decide +kernel)

open Gofasta.Lemmas.AggVariants in
theorem exRegs_regionsOk : RegionsOk exRegs.1 := by
  unfold RegionsOk ValidBytes
  decide +kernel

def varAggEx := varAggCfg (exVi "stdin" true) modelPair pvRef exRows "ref" exRegs.1 exRegs.2 2 1 2 none

/-- a schedule in which record 2 overtakes record 1 -/
def sched3 : List Nat := [1, 2, 0, 3, 1, 1, 0, 1] ++ List.replicate 30 0

set_option maxRecDepth 100000 in
example :
    (Model.Sched.runSchedule varAggEx sched1).arrival.map (·.1) = [0, 1, 2] ∧
    (Model.Sched.runSchedule varAggEx sched3).arrival.map (·.1) = [0, 2, 1] ∧
    (Model.Sched.runSchedule varAggEx sched1).wst.counts.map (·.1.rep) = ["aa:g:A2V(nuc:C5T)", "nuc:C14T", "del:4:1"] ∧
    (Model.Sched.runSchedule varAggEx sched3).wst.counts.map (·.1.rep) = ["del:4:1", "aa:g:A2V(nuc:C5T)", "nuc:C14T"] ∧
    (Model.Sched.runSchedule varAggEx sched1).main = .ret none ∧
    (Model.Sched.runSchedule varAggEx sched3).main = .ret none ∧
    (Model.Sched.runSchedule varAggEx sched1).wst.text = varCommand (exVi "stdin" true) modelPair ∧
    (Model.Sched.runSchedule varAggEx sched3).wst.text = varCommand (exVi "stdin" true) modelPair ∧
    varCommand (exVi "stdin" true) modelPair =
      "mutation,frequency\naa:g:A2V(nuc:C5T),0.333333333\ndel:4:1,0.333333333\nnuc:C14T,0.333333333\n" := by
  decide +kernel

/-- the general theorem on this input (its hypothesis `RegionsOk` holds here) -/
example (sched : List Nat) (h : (Model.Sched.runSchedule varAggEx sched).main = .ret none) :
    (Model.Sched.runSchedule varAggEx sched).wst.text = varCommand (exVi "stdin" true) modelPair :=
  variants_aggregate_model_every_schedule (exVi "stdin" true) pvRef exRows "ref" exRegs.1 exRegs.2
    (exRows_stdin true) (exRegs_ok _ _) rfl exRegs_regionsOk 2 1 2 none (by decide +kernel)
    (Lemmas.Sched.runSchedule_reach varAggEx sched) h

/-! ### sam variants: two pools of two workers -/

def pvRec2 : SamRec := ⟨"r", 0, 2, [(0, 4)], [71, 71, 84, 65]⟩
def pvRec3 : SamRec := ⟨"t", 0, 0, [(0, 3)], [65, 84, 71]⟩
def svRegs : List Region × List Nat := (samRegions (pvVi "gff" false) pvRef).getD ([], [])
theorem svRegs_ok : samRegions (pvVi "gff" false) pvRef = some svRegs :=
  some_getD_of_isSome _ (by decide +kernel)

def samVarEx := samVarCfg (pvVi "gff" false) "ref" pvRef (samBlocks [pvRec, pvRec2, pvRec3])
  (fun b r => blockToSeqPair b r) modelPair svRegs.1 svRegs.2 2 2 1 2 2 none

def csched1 : List Nat := List.replicate 50 0
def csched2 : List Nat := [0, 0, 0, 1, 2, 1, 1, 2, 1, 1, 1, 1] ++ List.replicate 40 0

set_option maxRecDepth 100000 in
example :
    (Model.SchedChain.runSchedule samVarEx csched1).arrival.map (·.1) = [0, 1, 2] ∧
    (Model.SchedChain.runSchedule samVarEx csched2).arrival.map (·.1) = [1, 0, 2] ∧
    (Model.SchedChain.runSchedule samVarEx csched1).main = .ret none ∧
    (Model.SchedChain.runSchedule samVarEx csched2).main = .ret none ∧
    (Model.SchedChain.runSchedule samVarEx csched1).wst.text =
      samVarOn (pvVi "gff" false) "ref" pvRef (samBlocks [pvRec, pvRec2, pvRec3]) (fun b r => blockToSeqPair b r) modelPair ∧
    (Model.SchedChain.runSchedule samVarEx csched2).wst.text =
      samVarOn (pvVi "gff" false) "ref" pvRef (samBlocks [pvRec, pvRec2, pvRec3]) (fun b r => blockToSeqPair b r) modelPair ∧
    samVarOn (pvVi "gff" false) "ref" pvRef (samBlocks [pvRec, pvRec2, pvRec3]) (fun b r => blockToSeqPair b r) modelPair =
      "query,mutations\nq,aa:g:A2E(nuc:C5A)|ins:4:1|del:8:2\nr,aa:g:A2V(nuc:C5T)\nt,\n" := by
  decide +kernel

def samVarAggEx := samVarAggCfg (pvVi "gff" true) "ref" pvRef (samBlocks [pvRec, pvRec2, pvRec3])
  (fun b r => blockToSeqPair b r) modelPair svRegs.1 svRegs.2 2 2 1 2 2 none

set_option maxRecDepth 100000 in
example :
    (Model.SchedChain.runSchedule samVarAggEx csched1).arrival.map (·.1) = [0, 1, 2] ∧
    (Model.SchedChain.runSchedule samVarAggEx csched2).arrival.map (·.1) = [1, 0, 2] ∧
    (Model.SchedChain.runSchedule samVarAggEx csched1).wst.counts.map (·.1.rep) =
      ["aa:g:A2E(nuc:C5A)", "ins:4:1", "del:8:2", "aa:g:A2V(nuc:C5T)"] ∧
    (Model.SchedChain.runSchedule samVarAggEx csched2).wst.counts.map (·.1.rep) =
      ["aa:g:A2V(nuc:C5T)", "aa:g:A2E(nuc:C5A)", "ins:4:1", "del:8:2"] ∧
    (Model.SchedChain.runSchedule samVarAggEx csched1).main = .ret none ∧
    (Model.SchedChain.runSchedule samVarAggEx csched2).main = .ret none ∧
    (Model.SchedChain.runSchedule samVarAggEx csched1).wst.text =
      samVarOn (pvVi "gff" true) "ref" pvRef (samBlocks [pvRec, pvRec2, pvRec3]) (fun b r => blockToSeqPair b r) modelPair ∧
    (Model.SchedChain.runSchedule samVarAggEx csched2).wst.text =
      samVarOn (pvVi "gff" true) "ref" pvRef (samBlocks [pvRec, pvRec2, pvRec3]) (fun b r => blockToSeqPair b r) modelPair ∧
    samVarOn (pvVi "gff" true) "ref" pvRef (samBlocks [pvRec, pvRec2, pvRec3]) (fun b r => blockToSeqPair b r) modelPair =
      "mutation,frequency\naa:g:A2E(nuc:C5A),0.333333333\naa:g:A2V(nuc:C5T),0.333333333\nins:4:1,0.333333333\ndel:8:2,0.333333333\n" := by
  decide +kernel

end Examples

end Gofasta.Lemmas.SchedCommands
