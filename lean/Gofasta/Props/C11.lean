import Gofasta.Lemmas.Enc
import Gofasta.Model.Sam
import Gofasta.Model.Variants
/-
C11 — sam variants and variants agree on the same alignment.
Both commands hand an encoded (reference row, query row) pair to the same caller. Here: printing an accepted row and
encoding it again gives the same codes (`row_roundtrip`, `same_caller`). The commands themselves, and the text of the
pair file read back by the FASTA reader, are in Lemmas/SamVarPipeline.
-/
namespace Gofasta.Props.C11
open Gofasta Base Model Lemmas

/-- every byte of the row is one the encoding array with soft gaps (`enc false`) accepts: its code is not 0, the mark of an invalid byte -/
def Accepted (s : List Nat) : Prop := ∀ b ∈ s, b < 256 ∧ enc false b ≠ 0

theorem reencode (b : Nat) (hb : b < 256) (he : enc false b ≠ 0) : enc false (dec (enc false b)) = enc false b := by
  have _ := hb
  rw [dec_enc false b he, enc_upper false b]

/-- **C11.row_roundtrip** — the row that `sam toPairAlign` prints (decoded characters) re-encodes to the row that
`sam variants` passes to the caller, for rows of any length -/
theorem row_roundtrip (s : List Nat) (h : Accepted s) :
    ((s.map (enc false)).map dec).map (enc false) = s.map (enc false) := by
  rw [List.map_map, List.map_map]
  apply List.map_congr_left
  intro b hb
  exact reencode b (h b hb).1 (h b hb).2

/-- hence the mutation list computed from the FASTA form of a pair is the one computed from the pair itself -/
theorem same_caller (r q : List Nat) (hr : Accepted r) (hq : Accepted q) (regions : List Region) (inter : List Nat) :
    getVariantsPair (((r.map (enc false)).map dec).map (enc false)) (((q.map (enc false)).map dec).map (enc false)) regions inter =
      getVariantsPair (r.map (enc false)) (q.map (enc false)) regions inter := by
  rw [row_roundtrip r hr, row_roundtrip q hq]

/-- upper-casing is all that the text route does to an accepted row -/
theorem printed_row (s : List Nat) (h : Accepted s) : (s.map (enc false)).map dec = s.map upper := by
  rw [List.map_map]
  apply List.map_congr_left
  intro b hb
  exact dec_enc false b (h b hb).2

end Gofasta.Props.C11
