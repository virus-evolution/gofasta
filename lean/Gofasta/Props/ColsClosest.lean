import Gofasta.Gen.ColsClosest
import Gofasta.Model.Closest
/-
The per-column code of the comparison loops of pkg/closest, regenerated from the Go source on every run by the go/ast
translator `cols.go` (harness) into `Gen/ColsClosest.lean`: for `rawDistance`, `snpDistance`, `tn93Distance` the whole
loop body as a function from the two column codes to the counter increments; for `findClosest` the condition under which
a column is appended to the SNP list. The theorems below say, for all natural numbers (no bound on the codes), what the
generated functions compute in terms of `encDiffer` and `encResolved`, and, for the three distances, that the model's
counting loops are folds of the generated steps - so those loops are the source's loops, not a hand copy of them. For
`findClosest` only the condition is identified (`closest_append`): that `closestSnps` of Model/Closest tests the same
`encDiffer q t` is read off its definition. A change of any of these conditions or increments in the source changes the
generated definitions and breaks an obligation here. The other packages are
treated in the same way in Props/ColsSnps, ColsUpdown, ColsVariants and ColsSam.
-/
namespace Gofasta.Props.Cols
open Gofasta Gofasta.Model Gofasta.Gen.Cols

def b2n (b : Bool) : Nat := if b then 1 else 0

/-- rawDistance, one column: n counts a differing column, d counts it too and also a column where the query is resolved
and equal to the target -/
theorem raw_col (q t : Nat) :
    closest_rawDistance q t = [b2n (encDiffer q t), b2n (encDiffer q t) + b2n (encResolved q && q == t)] := by
  unfold closest_rawDistance encDiffer encResolved b2n
  generalize decide ((q &&& t) < 16) = a; generalize ((q &&& 8) == 8) = b; generalize (q == t) = c
  cases a <;> cases b <;> cases c <;> rfl

theorem snp_col (q t : Nat) : closest_snpDistance q t = [b2n (encDiffer q t)] := by
  unfold closest_snpDistance encDiffer b2n
  generalize decide ((q &&& t) < 16) = a
  cases a <;> rfl

/-- tn93Distance, one column: (P1, P2, d, L) -/
theorem tn93_col (q t : Nat) :
    closest_tn93Distance q t =
      (if encDiffer q t && encResolved q && encResolved t then
        [b2n ((q ||| t) == 200), b2n (!((q ||| t) == 200) && (q ||| t) == 56), 1, 1]
       else if encResolved q && q == t then [0, 0, 0, 1] else [0, 0, 0, 0]) := by
  unfold closest_tn93Distance encDiffer encResolved b2n
  generalize decide ((q &&& t) < 16) = a; generalize ((q &&& 8) == 8) = b; generalize ((t &&& 8) == 8) = c
  generalize ((q ||| t) == 200) = d; generalize ((q ||| t) == 56) = e; generalize (q == t) = f
  cases a <;> cases b <;> cases c <;> cases d <;> cases e <;> cases f <;> rfl

theorem snpCount_cons (q t : Nat) (qs ts : List Nat) :
    snpCount (q :: qs) (t :: ts) = (closest_snpDistance q t).getD 0 0 + snpCount qs ts := by
  rw [snp_col]; simp [snpCount, b2n]

theorem rawCounts_cons (q t : Nat) (qs ts : List Nat) :
    rawCounts (q :: qs) (t :: ts) =
      ((rawCounts qs ts).1 + (closest_rawDistance q t).getD 0 0, (rawCounts qs ts).2 + (closest_rawDistance q t).getD 1 0) := by
  rw [raw_col]; simp [rawCounts, b2n, Nat.add_assoc]

theorem tnCounts_cons (q t : Nat) (qs ts : List Nat) :
    let c := closest_tn93Distance q t
    let r := tnCounts qs ts
    tnCounts (q :: qs) (t :: ts) = { p1 := r.p1 + c.getD 0 0, p2 := r.p2 + c.getD 1 0, d := r.d + c.getD 2 0, l := r.l + c.getD 3 0 } := by
  intro c r
  show tnCounts (q :: qs) (t :: ts) = _
  simp only [c, tn93_col, tnCounts]
  by_cases h : (encDiffer q t && encResolved q && encResolved t) = true
  · simp [h, b2n, r]
  · by_cases h2 : (encResolved q && q == t) = true
    · simp [h, h2, r]
    · simp [h, h2, r]

/-- the three places where findClosest rebuilds the SNP list use the same test -/
theorem closest_append (q t : Nat) : closest_findClosest q t = [encDiffer q t, encDiffer q t, encDiffer q t] := by
  simp [closest_findClosest, encDiffer]

/-- not vacuous: a differing column, an equal resolved one, one with an unresolved query; a transition, a
transversion of each kind -/
example : closest_rawDistance 136 72 = [1, 1] ∧ closest_rawDistance 136 136 = [0, 1] ∧ closest_rawDistance 136 240 = [0, 0] := by decide
example : closest_tn93Distance 136 72 = [1, 0, 1, 1] ∧ closest_tn93Distance 40 24 = [0, 1, 1, 1] ∧ closest_tn93Distance 136 24 = [0, 0, 1, 1] := by decide

end Gofasta.Props.Cols
