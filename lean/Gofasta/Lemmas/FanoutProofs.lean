import Gofasta.Model.Fanout
import Gofasta.Lemmas.ListFacts
import Gofasta.Lemmas.Run
/-
Every-schedule theorems about the fan-out half of `closest` (Model/Fanout.lean).

The step function is first read through the relation `Move` (one constructor per way a label fires, with its guards as
hypotheses; `move_of_step`, `step?_of_move`).  The invariant `Inv` reads everything the splitter has done so far off its program
counter (`expH`, `expC`).  `inv_move` and `μ_move` are case analyses over `Move`; `Inv.progress` follows main through its
stages and exhibits a move in each; everything else follows from these three.  `Demo` at the end: the statements are not
vacuous, and with two forwarders on cIn the result depends on the schedule (`stepTwoForwarders_schedule_dependent`).
-/
namespace Gofasta.Lemmas.Fanout
open Gofasta.Model.Fanout
open Gofasta.Model.Sched (Chan)

variable {τ ρ : Type}

theorem foldAcc_eq_foldl (acc : Nat → Option ρ → τ → ρ) (i : Nat) (b : Option ρ) (l : List τ) :
    foldAcc acc i b l = l.foldl (fun b t => some (acc i b t)) b := by
  induction l generalizing b with
  | nil => rfl
  | cons t ts ih => exact ih _

theorem foldAcc_getD (acc : Nat → Option ρ → τ → ρ) (i : Nat) (d : ρ) (step : ρ → τ → ρ)
    (h : ∀ b t, acc i b t = step (b.getD d) t) (b : Option ρ) (l : List τ) :
    (foldAcc acc i b l).getD d = l.foldl step (b.getD d) := by
  induction l generalizing b with
  | nil => rfl
  | cons t ts ih => rw [foldAcc, ih, Option.getD_some, h]; rfl

theorem foldAcc_append (acc : Nat → Option ρ → τ → ρ) (i : Nat) (b : Option ρ) (l1 l2 : List τ) :
    foldAcc acc i b (l1 ++ l2) = foldAcc acc i (foldAcc acc i b l1) l2 := by
  simp only [foldAcc_eq_foldl, List.foldl_append]

theorem foldAcc_snoc (acc : Nat → Option ρ → τ → ρ) (i : Nat) (b : Option ρ) (l : List τ) (t : τ) :
    foldAcc acc i b (l ++ [t]) = some (acc i (foldAcc acc i b l) t) := by
  rw [foldAcc_append]; rfl

def isExited : QPc ρ → Bool
  | .exited => true
  | _ => false

def ex (p : QPc ρ) : Nat := if isExited p then 1 else 0

/-- the invariant equates it with the number of results main has received (`Inv.cnt`) -/
def exitedCount : List (QPc ρ) → Nat
  | [] => 0
  | p :: ps => ex p + exitedCount ps

theorem exitedCount_set {l : List (QPc ρ)} {i : Nat} {p q : QPc ρ} (h : l[i]? = some p) :
    exitedCount (l.set i q) + ex p = exitedCount l + ex q :=
  posSum_set (F := fun _ => exitedCount) (g := fun _ => ex) (fun _ _ _ => rfl) h q 0

theorem ex_le_one (p : QPc ρ) : ex p ≤ 1 := by
  unfold ex; split <;> omega

theorem exitedCount_le (l : List (QPc ρ)) : exitedCount l ≤ l.length := by
  induction l with
  | nil => exact Nat.le_refl _
  | cons a as ih => have := ex_le_one a; simp only [exitedCount, List.length_cons]; omega

theorem exitedCount_lt {l : List (QPc ρ)} {i : Nat} {p : QPc ρ} (h : l[i]? = some p)
    (hp : isExited p = false) : exitedCount l < l.length := by
  have h1 := exitedCount_set (q := QPc.exited) h
  have h2 := exitedCount_le (l.set i .exited)
  have e0 : ex p = 0 := by rw [ex, hp]; rfl
  have e1 : ex (QPc.exited : QPc ρ) = 1 := rfl
  rw [List.length_set] at h2
  omega

theorem all_exited_of_count {l : List (QPc ρ)} (h : exitedCount l = l.length) {i : Nat} {p : QPc ρ}
    (hi : l[i]? = some p) : p = .exited := by
  cases p with
  | exited => rfl
  | recv b => have := exitedCount_lt hi rfl; omega
  | sendRes b => have := exitedCount_lt hi rfl; omega

theorem exists_not_exited {l : List (QPc ρ)} (h : exitedCount l < l.length) :
    ∃ (i : Nat) (p : QPc ρ), l[i]? = some p ∧ isExited p = false := by
  induction l with
  | nil => cases h
  | cons a as ih =>
    cases ha : isExited a with
    | false => exact ⟨0, a, rfl, ha⟩
    | true =>
      have e1 : ex a = 1 := by rw [ex, ha]; rfl
      simp only [exitedCount, List.length_cons] at h
      obtain ⟨i, p, h1, h2⟩ := ih (by omega)
      exact ⟨i + 1, p, h1, h2⟩

theorem exitedCount_replicate (n : Nat) (b : Option ρ) : exitedCount (List.replicate n (QPc.recv b)) = 0 := by
  induction n with
  | zero => rfl
  | succ n ih => rw [List.replicate_succ, exitedCount, ih]; rfl

/-- how many targets the reader has sent -/
def rpos (cfg : Cfg τ ρ) : RPc → Nat
  | .sending j => j
  | _ => cfg.targets.length

/-- how many targets query i has been handed, read off the splitter's program counter -/
def expH (taken : Nat) : SPc τ → Nat → Nat
  | .sending _ j, i => if i < j then taken else taken - 1
  | _, _ => taken

/-- whether QChan[i] is closed, read off the splitter's program counter -/
def expC : SPc τ → Nat → Bool
  | .closing j, i => decide (i < j)
  | .doneS, _ => true
  | .exited, _ => true
  | _, _ => false

/-- the splitter has left its `range cIn` loop -/
def sDone : SPc τ → Bool
  | .closing _ => true
  | .doneS => true
  | .exited => true
  | _ => false

/-- the splitter's counter is in range, and in the inner loop it holds the target taken last -/
def SOk (cfg : Cfg τ ρ) (taken : Nat) : SPc τ → Prop
  | .sending t j => j < cfg.nQ ∧ 1 ≤ taken ∧ cfg.targets[taken - 1]? = some t
  | .closing j => j < cfg.nQ
  | _ => True

/-- what query i holds and what its result slot `r` holds, by the query's program counter.  The last case also pins the
    splitter: a query exits only in the rendezvous with main, and main collects only after `<-cSplitDone`; `Inv.hq_move`
    needs its hypothesis `hE` for that case -/
def QOk (cfg : Cfg τ ρ) (i taken : Nat) (sp : SPc τ) (r : Option (Option (Option ρ))) : QPc ρ → Prop
  | .recv b => b = foldAcc cfg.acc i none (cfg.targets.take (expH taken sp i)) ∧ r = some none
  | .sendRes b => b = expected cfg i ∧ expC sp i = true ∧ r = some none
  | .exited => r = some (some (expected cfg i)) ∧ sp = .exited

/-- main is past its second select (`<-cSplitDone`) -/
def after2 : MPc → Bool
  | .collecting _ => true
  | .ret => true
  | _ => false

/-- how many results main has received -/
def mcount (cfg : Cfg τ ρ) : MPc → Nat
  | .collecting k => k
  | .ret => cfg.nQ
  | _ => 0

/-- the reader, the buffer and `taken` account for a prefix of the targets (`tk`, `dr`); main's stage tells which
    goroutines are gone (`cl`, `m1`, `m2`, `cnt`); what the splitter has done for query i (targets handed, channel
    closed) is read off its program counter (`so`, `hh`, `hc`), and that fixes what query i holds (`hq`) -/
structure Inv (cfg : Cfg τ ρ) (s : State τ ρ) : Prop where
  np : s.panicked = false
  lq : s.queries.length = cfg.nQ
  lr : s.results.length = cfg.nQ
  cap : s.cIn.queue.length ≤ cfg.cap
  rj : ∀ j, s.reader = .sending j → j < cfg.targets.length
  tk : s.taken + s.cIn.queue.length = rpos cfg s.reader
  dr : cfg.targets.drop s.taken = s.cIn.queue ++ cfg.targets.drop (rpos cfg s.reader)
  cl : s.cIn.closed = true ↔ s.reader = .exited
  m1 : s.main = .stage1 ↔ s.reader ≠ .exited
  m2 : after2 s.main = true ↔ s.splitter = .exited
  mkk : ∀ k, s.main = .collecting k → k < cfg.nQ
  cnt : exitedCount s.queries = mcount cfg s.main
  sd : sDone s.splitter = true → s.taken = cfg.targets.length ∧ s.reader = .exited
  so : SOk cfg s.taken s.splitter
  hh : ∀ i, i < cfg.nQ → s.handed[i]? = some (expH s.taken s.splitter i)
  hc : ∀ i, i < cfg.nQ → s.qClosed[i]? = some (expC s.splitter i)
  hq : ∀ i, i < cfg.nQ → ∃ p, s.queries[i]? = some p ∧ QOk cfg i s.taken s.splitter s.results[i]? p

theorem rnext_facts (cfg : Cfg τ ρ) (j : Nat) (hj : j ≤ cfg.targets.length) :
    (∀ k, rnext cfg j = .sending k → k < cfg.targets.length) ∧ rnext cfg j ≠ .exited ∧
      rpos cfg (rnext cfg j) = j := by
  unfold rnext
  split
  · next h => exact ⟨fun k hk => by cases hk; exact h, nofun, rfl⟩
  · next h => exact ⟨nofun, nofun, Nat.le_antisymm (Nat.le_of_not_lt h) hj⟩

theorem mnext_facts (cfg : Cfg τ ρ) (k : Nat) (hk : k ≤ cfg.nQ) :
    mnext cfg k ≠ .stage1 ∧ after2 (mnext cfg k) = true ∧ (∀ k', mnext cfg k = .collecting k' → k' < cfg.nQ) ∧
      mcount cfg (mnext cfg k) = k := by
  unfold mnext
  split
  · next h => exact ⟨nofun, rfl, fun k' e => by cases e; exact h, rfl⟩
  · next h => exact ⟨nofun, rfl, nofun, Nat.le_antisymm (Nat.le_of_not_lt h) hk⟩

theorem snext_ne_exited (cfg : Cfg τ ρ) (t : τ) (k : Nat) : snext cfg t k ≠ .exited := by
  unfold snext; split <;> nofun

theorem sDone_snext (cfg : Cfg τ ρ) (t : τ) (k : Nat) : sDone (snext cfg t k) = false := by
  unfold snext; split <;> rfl

theorem expC_snext (cfg : Cfg τ ρ) (t : τ) (k i : Nat) : expC (snext cfg t k) i = false := by
  unfold snext; split <;> rfl

theorem SOk_snext (cfg : Cfg τ ρ) {t : τ} {taken : Nat} (k : Nat) (h1 : 1 ≤ taken)
    (ht : cfg.targets[taken - 1]? = some t) : SOk cfg taken (snext cfg t k) := by
  unfold snext
  split
  · next h => exact ⟨h, h1, ht⟩
  · trivial

theorem expH_snext_zero (cfg : Cfg τ ρ) (t : τ) (taken : Nat) {i : Nat} (hi : i < cfg.nQ) :
    expH (taken + 1) (snext cfg t 0) i = taken := by
  unfold snext; rw [if_pos (Nat.zero_lt_of_lt hi)]; rfl

theorem expH_snext_self (cfg : Cfg τ ρ) (t : τ) (taken j : Nat) : expH taken (snext cfg t (j + 1)) j = taken := by
  unfold snext
  split
  · exact if_pos (Nat.lt_succ_self j)
  · rfl

theorem expH_snext_other (cfg : Cfg τ ρ) (t : τ) (taken : Nat) {i j : Nat} (hi : i < cfg.nQ) (hne : i ≠ j) :
    expH taken (snext cfg t (j + 1)) i = expH taken (.sending t j) i := by
  unfold snext
  split
  · have : (i < j + 1) = (i < j) := propext ⟨fun h => by omega, fun h => by omega⟩
    simp only [expH, this]
  · exact (if_pos (by omega)).symm

theorem cnext_ne_exited (cfg : Cfg τ ρ) (k : Nat) : cnext cfg k ≠ .exited := by
  unfold cnext; split <;> nofun

theorem sDone_cnext (cfg : Cfg τ ρ) (k : Nat) : sDone (cnext cfg k) = true := by
  unfold cnext; split <;> rfl

theorem expH_cnext (cfg : Cfg τ ρ) (taken k i : Nat) : expH taken (cnext cfg k) i = taken := by
  unfold cnext; split <;> rfl

theorem expC_cnext (cfg : Cfg τ ρ) {k i : Nat} (hi : i < cfg.nQ) :
    expC (cnext cfg k) i = decide (i < k) := by
  unfold cnext
  split
  · rfl
  · next h => exact (decide_eq_true (by omega : i < k)).symm

theorem SOk_cnext (cfg : Cfg τ ρ) (taken k : Nat) : SOk cfg taken (cnext cfg k) := by
  unfold cnext
  split
  · next h => exact h
  · trivial

theorem expC_true {sp : SPc τ} {i : Nat} (h : expC sp i = true) (taken : Nat) :
    sDone sp = true ∧ expH taken sp i = taken := by
  cases sp with
  | closing _ | doneS | exited => exact ⟨rfl, rfl⟩
  | recv | sending _ _ => cases h

theorem expH_le (taken : Nat) (sp : SPc τ) (i : Nat) : expH taken sp i ≤ taken := by
  cases sp <;> simp only [expH, Nat.le_refl]
  split <;> omega

section at_splitter
variable {cfg : Cfg τ ρ} {s : State τ ρ} {sp : SPc τ} (h : Inv cfg s) (hsp : s.splitter = sp)
include h hsp

theorem Inv.so_at : SOk cfg s.taken sp := hsp ▸ h.so

theorem Inv.hh_at {i : Nat} (hi : i < cfg.nQ) : s.handed[i]? = some (expH s.taken sp i) := hsp ▸ h.hh i hi

theorem Inv.hc_at {i : Nat} (hi : i < cfg.nQ) : s.qClosed[i]? = some (expC sp i) := hsp ▸ h.hc i hi

theorem Inv.hq_at {i : Nat} (hi : i < cfg.nQ) :
    ∃ p, s.queries[i]? = some p ∧ QOk cfg i s.taken sp s.results[i]? p := hsp ▸ h.hq i hi

theorem Inv.hh_move {i taken' : Nat} {sp' : SPc τ} (hi : i < cfg.nQ) (hH : expH taken' sp' i = expH s.taken sp i) :
    s.handed[i]? = some (expH taken' sp' i) := hH ▸ h.hh_at hsp hi

theorem Inv.hc_move {i : Nat} {sp' : SPc τ} (hi : i < cfg.nQ) (hC : expC sp' i = expC sp i) :
    s.qClosed[i]? = some (expC sp' i) := hC ▸ h.hc_at hsp hi
theorem Inv.hq_move {i taken' : Nat} {sp' : SPc τ} (hi : i < cfg.nQ) (hH : expH taken' sp' i = expH s.taken sp i)
    (hC : expC sp i = true → expC sp' i = true) (hE : sp = .exited → sp' = .exited) :
    ∃ p, s.queries[i]? = some p ∧ QOk cfg i taken' sp' s.results[i]? p := by
  obtain ⟨p, hp, hok⟩ := h.hq_at hsp hi
  refine ⟨p, hp, ?_⟩
  cases p with
  | recv b => simp only [QOk] at hok ⊢; rw [hH]; exact hok
  | sendRes b => exact ⟨hok.1, hC hok.2.1, hok.2.2⟩
  | exited => exact ⟨hok.1, hE hok.2⟩

theorem Inv.m2_move {sp' : SPc τ} (hne : sp ≠ .exited) (hne' : sp' ≠ .exited) :
    after2 s.main = true ↔ sp' = .exited :=
  ⟨fun e => absurd (hsp ▸ h.m2.mp e) hne, fun e => absurd e hne'⟩

end at_splitter

theorem Inv.reader_exited {cfg : Cfg τ ρ} {s : State τ ρ} (h : Inv cfg s) (hm : s.main ≠ .stage1) :
    s.reader = .exited :=
  Decidable.byContradiction fun e => hm (h.m1.mpr e)

/-- QChan[i] is closed only after the last target: what query i holds then is the fold over all of them -/
theorem Inv.sendRes_expected {cfg : Cfg τ ρ} {s : State τ ρ} (h : Inv cfg s) {i : Nat} (hC : expC s.splitter i = true) :
    foldAcc cfg.acc i none (cfg.targets.take (expH s.taken s.splitter i)) = expected cfg i := by
  obtain ⟨hD, hH⟩ := expC_true hC s.taken
  rw [hH, (h.sd hD).1, List.take_length]; rfl

theorem inv_init (cfg : Cfg τ ρ) : Inv cfg (init cfg) := by
  obtain ⟨r1, r2, r3⟩ := rnext_facts cfg 0 (Nat.zero_le _)
  have hrep : ∀ {α : Type} (a : α) {i : Nat}, i < cfg.nQ → (List.replicate cfg.nQ a)[i]? = some a :=
    fun a i hi => by rw [List.getElem?_replicate, if_pos hi]
  exact {
    np := rfl
    lq := List.length_replicate
    lr := List.length_replicate
    cap := Nat.zero_le _
    rj := r1
    tk := r3.symm
    dr := by rw [show rpos cfg (init cfg).reader = 0 from r3]; rfl
    cl := ⟨nofun, fun e => absurd e r2⟩
    m1 := ⟨fun _ => r2, fun _ => rfl⟩
    m2 := ⟨nofun, nofun⟩
    mkk := nofun
    cnt := exitedCount_replicate _ _
    sd := nofun
    so := trivial
    hh := fun i hi => hrep 0 hi
    hc := fun i hi => hrep false hi
    hq := fun i hi => ⟨.recv none, hrep _ hi, rfl, hrep none hi⟩ }

/-- the four ways a step panics, by label: a send on the closed cIn, a send on or a close of a closed QChan[i],
    a second close of cIn -/
def Panics (s : State τ ρ) : Label → Prop
  | .readerSend => ∃ j, s.reader = .sending j ∧ s.cIn.closed = true
  | .splitSend => ∃ t i, s.splitter = .sending t i ∧ s.qClosed[i]? = some true
  | .splitClose => ∃ i, s.splitter = .closing i ∧ s.qClosed[i]? = some true
  | .mainReadDone => s.main = .stage1 ∧ s.reader = .doneS ∧ s.cIn.closed = true
  | _ => False

inductive Move (cfg : Cfg τ ρ) (s : State τ ρ) : Label → State τ ρ → Prop where
  | panic {l : Label} : Panics s l → Move cfg s l { s with panicked := true }
  | readerSend {j : Nat} {x : τ} : s.reader = .sending j → s.cIn.closed = false → cfg.targets[j]? = some x →
      s.cIn.queue.length < cfg.cap →
      Move cfg s .readerSend { s with reader := rnext cfg (j + 1), cIn := { s.cIn with queue := s.cIn.queue ++ [x] } }
  | splitRecv {t : τ} {rest : List τ} : s.splitter = .recv → s.cIn.queue = t :: rest →
      Move cfg s .splitRecv { s with splitter := snext cfg t 0, cIn := { s.cIn with queue := rest }, taken := s.taken + 1 }
  | handIn {j : Nat} {x : τ} : s.reader = .sending j → s.splitter = .recv → s.cIn.closed = false → cfg.cap = 0 →
      cfg.targets[j]? = some x →
      Move cfg s .handIn { s with reader := rnext cfg (j + 1), splitter := snext cfg x 0, taken := s.taken + 1 }
  | splitClosed : s.splitter = .recv → s.cIn.closed = true → s.cIn.queue = [] →
      Move cfg s .splitClosed { s with splitter := cnext cfg 0 }
  | splitSend {t : τ} {i : Nat} {b : Option ρ} : s.splitter = .sending t i → s.qClosed[i]? = some false →
      s.queries[i]? = some (.recv b) →
      Move cfg s .splitSend { s with splitter := snext cfg t (i + 1),
                                     queries := s.queries.set i (.recv (some (cfg.acc i b t))),
                                     handed := s.handed.set i (s.handed.getD i 0 + 1) }
  | splitClose {i : Nat} : s.splitter = .closing i → s.qClosed[i]? = some false →
      Move cfg s .splitClose { s with splitter := cnext cfg (i + 1), qClosed := s.qClosed.set i true }
  | queryClosed {i : Nat} {b : Option ρ} : s.queries[i]? = some (.recv b) → s.qClosed[i]? = some true →
      Move cfg s (.queryClosed i) { s with queries := s.queries.set i (.sendRes b) }
  | handRes {i k : Nat} {b : Option ρ} : s.queries[i]? = some (.sendRes b) → s.main = .collecting k →
      Move cfg s (.handRes i) { s with queries := s.queries.set i .exited, main := mnext cfg (k + 1),
                                       results := s.results.set i (some b) }
  | mainReadDone : s.main = .stage1 → s.reader = .doneS → s.cIn.closed = false →
      Move cfg s .mainReadDone { s with main := .stage2, reader := .exited, cIn := { s.cIn with closed := true } }
  | mainSplitDone : s.main = .stage2 → s.splitter = .doneS →
      Move cfg s .mainSplitDone { s with main := mnext cfg 0, splitter := .exited }

theorem move_of_step {cfg : Cfg τ ρ} {s s' : State τ ρ} {l : Label} (hs : step? cfg s l = some s') :
    s.panicked = false ∧ Move cfg s l s' := by
  unfold step? at hs
  split at hs
  · cases hs
  next hnf =>
  refine ⟨by cases hp : s.panicked <;> simp [State.final, hp] at hnf ⊢, ?_⟩
  cases l <;> simp only at hs
  · unfold stepReaderSend at hs
    split at hs
    · next hr hc => cases hs; exact .panic ⟨_, hr, hc⟩
    · next hr hc =>
      split at hs
      · next hx =>
        split at hs
        · next hcap => cases hs; exact .readerSend hr hc hx hcap
        · cases hs
      · cases hs
    · cases hs
  · unfold stepSplitRecv at hs
    split at hs
    · next hsp hq => cases hs; exact .splitRecv hsp hq
    · cases hs
  · unfold stepHandIn at hs
    split at hs
    · next hr hsp hc hcap =>
      split at hs
      · next hx => cases hs; exact .handIn hr hsp hc hcap hx
      · cases hs
    · cases hs
  · unfold stepSplitClosed at hs
    split at hs
    · next hsp hc hq => cases hs; exact .splitClosed hsp hc hq
    · cases hs
  · unfold stepSplitSend at hs
    split at hs
    · next hsp =>
      split at hs
      · next hc => cases hs; exact .panic ⟨_, _, hsp, hc⟩
      · next hc hq => cases hs; exact .splitSend hsp hc hq
      · cases hs
    · cases hs
  · unfold stepSplitClose at hs
    split at hs
    · next hsp =>
      split at hs
      · next hc => cases hs; exact .panic ⟨_, hsp, hc⟩
      · next hc => cases hs; exact .splitClose hsp hc
      · cases hs
    · cases hs
  · unfold stepQueryClosed at hs
    split at hs
    · next hq hc => cases hs; exact .queryClosed hq hc
    · cases hs
  · unfold stepHandRes at hs
    split at hs
    · next hq hm => cases hs; exact .handRes hq hm
    · cases hs
  · unfold stepMainReadDone at hs
    split at hs
    · next hm hr =>
      split at hs
      · next hc => cases hs; exact .panic ⟨hm, hr, hc⟩
      · next hc => cases hs; exact .mainReadDone hm hr (by simpa using hc)
    · cases hs
  · unfold stepMainSplitDone at hs
    split at hs
    · next hm hsp => cases hs; exact .mainSplitDone hm hsp
    · cases hs

/-- under the invariant no guard of a panic holds: cIn is closed only after the reader has exited, and
    QChan[i] is closed only once the splitter is past `close(QChan[i])` -/
theorem not_panics {cfg : Cfg τ ρ} {s : State τ ρ} (h : Inv cfg s) (l : Label) : ¬ Panics s l := by
  intro hp
  cases l with
  | readerSend => obtain ⟨j, hr, hc⟩ := hp; have := h.cl.mp hc; rw [hr] at this; cases this
  | splitSend =>
    obtain ⟨t, i, hsp, hc⟩ := hp
    have := h.hc_at hsp (h.so_at hsp).1; rw [hc] at this; cases this
  | splitClose =>
    obtain ⟨i, hsp, hc⟩ := hp
    have := h.hc_at hsp (h.so_at hsp); rw [hc] at this
    simp only [expC, Nat.lt_irrefl, decide_false] at this; cases this
  | mainReadDone => obtain ⟨_, hr, hc⟩ := hp; have := h.cl.mp hc; rw [hr] at this; cases this
  | _ => exact hp

theorem step?_of_move {cfg : Cfg τ ρ} {s s' : State τ ρ} {l : Label} (hm : Move cfg s l s') (h : Inv cfg s)
    (hnf : s.final = false) : step? cfg s l = some s' := by
  cases hm with
  | panic hp => exact absurd hp (not_panics h _)
  | _ =>
    simp [step?, stepReaderSend, stepSplitRecv, stepHandIn, stepSplitClosed, stepSplitSend, stepSplitClose,
      stepQueryClosed, stepHandRes, stepMainReadDone, stepMainSplitDone, *]

theorem inv_move {cfg : Cfg τ ρ} {s s' : State τ ρ} {l : Label} (h : Inv cfg s) (hm : Move cfg s l s') :
    Inv cfg s' := by
  cases hm with
  | panic hp => exact absurd hp (not_panics h _)
  | @readerSend j x hr hc hx hcap =>
    obtain ⟨r1, r2, r3⟩ := rnext_facts cfg (j + 1) (h.rj j hr)
    have htk : s.taken + s.cIn.queue.length = j := by have := h.tk; rwa [hr] at this
    have hdr : cfg.targets.drop s.taken = s.cIn.queue ++ cfg.targets.drop j := by have := h.dr; rwa [hr] at this
    exact { h with
      cap := by simp only [List.length_append, List.length_singleton]; omega
      rj := r1
      tk := by simp only [List.length_append, List.length_singleton, r3]; omega
      dr := by simp only [r3]; rw [hdr, List.drop_eq_getElem?_toList_append, hx, List.append_assoc]; rfl
      cl := ⟨fun e => absurd (hc.symm.trans e) nofun, fun e => absurd e r2⟩
      m1 := ⟨fun _ => r2, fun _ => h.m1.mpr (hr ▸ nofun)⟩
      sd := fun e => absurd (hr ▸ (h.sd e).2) nofun }
  | @splitRecv t rest hsp hq =>
    have htk := h.tk
    have hdr := h.dr
    have hcap := h.cap
    rw [hq] at htk hdr hcap
    obtain ⟨d1, d2⟩ := drop_cons_inv hdr
    exact { h with
      cap := Nat.le_of_succ_le hcap
      tk := by rw [← htk]; simp only [List.length_cons]; omega
      dr := d2
      m2 := h.m2_move hsp nofun (snext_ne_exited cfg t 0)
      sd := fun e => absurd ((sDone_snext cfg t 0).symm.trans e) nofun
      so := SOk_snext cfg 0 (Nat.le_add_left ..) d1
      hh := fun i hi => h.hh_move hsp hi (expH_snext_zero cfg t _ hi)
      hc := fun i hi => h.hc_move hsp hi (expC_snext cfg t 0 i)
      hq := fun i hi => h.hq_move hsp hi (expH_snext_zero cfg t _ hi) nofun nofun }
  | @handIn j x hr hsp hc hcap hx =>
    obtain ⟨r1, r2, r3⟩ := rnext_facts cfg (j + 1) (h.rj j hr)
    have hq0 : s.cIn.queue = [] := List.eq_nil_of_length_eq_zero (Nat.le_zero.mp (hcap ▸ h.cap))
    have htk := h.tk
    have hdr := h.dr
    rw [hr, hq0] at htk hdr
    have htk : s.taken = j := htk
    exact { h with
      rj := r1
      tk := by rw [r3, hq0, htk]; rfl
      dr := by rw [r3, hq0, htk]; rfl
      cl := ⟨fun e => absurd (hc.symm.trans e) nofun, fun e => absurd e r2⟩
      m1 := ⟨fun _ => r2, fun _ => h.m1.mpr (hr ▸ nofun)⟩
      m2 := h.m2_move hsp nofun (snext_ne_exited cfg x 0)
      sd := fun e => absurd ((sDone_snext cfg x 0).symm.trans e) nofun
      so := SOk_snext cfg 0 (Nat.le_add_left ..) (htk ▸ hx)
      hh := fun i hi => h.hh_move hsp hi (expH_snext_zero cfg x _ hi)
      hc := fun i hi => h.hc_move hsp hi (expC_snext cfg x 0 i)
      hq := fun i hi => h.hq_move hsp hi (expH_snext_zero cfg x _ hi) nofun nofun }
  | splitClosed hsp hc hq =>
    have hre := h.cl.mp hc
    have htk := h.tk
    rw [hre, hq] at htk
    exact { h with
      m2 := h.m2_move hsp nofun (cnext_ne_exited cfg 0)
      sd := fun _ => ⟨htk, hre⟩
      so := SOk_cnext cfg _ 0
      hh := fun i hi => h.hh_move hsp hi (expH_cnext cfg _ 0 i)
      hc := fun i hi => h.hc_move hsp hi ((expC_cnext cfg hi).trans (decide_eq_false (Nat.not_lt_zero i)))
      hq := fun i hi => h.hq_move hsp hi (expH_cnext cfg _ 0 i) nofun nofun }
  | @splitSend t j b hsp hc hqj =>
    obtain ⟨hj, htk1, hget⟩ := h.so_at hsp
    have hhj : s.handed[j]? = some (s.taken - 1) :=
      (h.hh_at hsp hj).trans (by simp only [expH, Nat.lt_irrefl, if_false])
    have hjl : j < s.handed.length := (List.getElem?_eq_some_iff.mp hhj).1
    have hjq : j < s.queries.length := (List.getElem?_eq_some_iff.mp hqj).1
    exact { h with
      lq := (List.length_set ..).trans h.lq
      m2 := h.m2_move hsp nofun (snext_ne_exited cfg t (j + 1))
      cnt := by
        have := exitedCount_set (q := QPc.recv (some (cfg.acc j b t))) hqj
        exact (Nat.add_right_cancel this).trans h.cnt
      sd := fun e => absurd ((sDone_snext cfg t (j + 1)).symm.trans e) nofun
      so := SOk_snext cfg (j + 1) htk1 hget
      hh := fun i hi => by
        dsimp only
        by_cases hij : i = j
        · subst hij
          rw [expH_snext_self, List.getElem?_set_self hjl, List.getD_eq_getElem?_getD, hhj]
          exact congrArg some (Nat.sub_add_cancel htk1)
        · rw [expH_snext_other cfg t s.taken hi hij, List.getElem?_set_ne (Ne.symm hij)]
          exact h.hh_at hsp hi
      hc := fun i hi => h.hc_move hsp hi (expC_snext cfg t (j + 1) i)
      hq := fun i hi => by
        dsimp only
        by_cases hij : i = j
        · subst hij
          obtain ⟨p, hp, hok⟩ := h.hq_at hsp hi
          rw [hqj] at hp; cases hp
          simp only [QOk, expH, Nat.lt_irrefl, if_false] at hok
          refine ⟨_, List.getElem?_set_self hjq, ?_, hok.2⟩
          -- the targets taken so far are those handed to i before, and t
          have e : cfg.targets.take s.taken = cfg.targets.take (s.taken - 1) ++ [t] := by
            have := List.take_add_one (l := cfg.targets) (i := s.taken - 1)
            rwa [hget, Nat.sub_add_cancel htk1] at this
          rw [expH_snext_self, e, foldAcc_snoc, ← hok.1]
        · rw [List.getElem?_set_ne (Ne.symm hij)]
          exact h.hq_move hsp hi (expH_snext_other cfg t s.taken hi hij) nofun nofun }
  | @splitClose j hsp hc =>
    have hj : j < cfg.nQ := h.so_at hsp
    have hjl : j < s.qClosed.length := (List.getElem?_eq_some_iff.mp hc).1
    exact { h with
      m2 := h.m2_move hsp nofun (cnext_ne_exited cfg (j + 1))
      sd := fun _ => h.sd (hsp ▸ rfl)
      so := SOk_cnext cfg _ _
      hh := fun i hi => h.hh_move hsp hi (expH_cnext cfg _ (j + 1) i)
      hc := fun i hi => by
        dsimp only
        rw [expC_cnext cfg hi]
        by_cases hij : i = j
        · subst hij; rw [List.getElem?_set_self hjl, decide_eq_true (Nat.lt_succ_self i)]
        · rw [List.getElem?_set_ne (Ne.symm hij), h.hc_at hsp hi]
          have : (i < j) = (i < j + 1) := propext ⟨fun h => by omega, fun h => by omega⟩
          simp only [expC, this]
      hq := fun i hi => h.hq_move hsp hi (expH_cnext cfg _ (j + 1) i)
        (fun e => by rw [expC_cnext cfg hi]; simp only [expC, decide_eq_true_eq] at e ⊢; omega) nofun }
  | @queryClosed i b hqi hci =>
    have hi : i < cfg.nQ := h.lq ▸ lt_of_getElem? hqi
    have hjq : i < s.queries.length := (List.getElem?_eq_some_iff.mp hqi).1
    have hC : expC s.splitter i = true := (Option.some.inj ((h.hc i hi).symm.trans hci))
    exact { h with
      lq := (List.length_set ..).trans h.lq
      cnt := by
        have := exitedCount_set (q := QPc.sendRes b) hqi
        exact (Nat.add_right_cancel this).trans h.cnt
      hq := fun k hk => by
        dsimp only
        by_cases hki : k = i
        · subst hki
          obtain ⟨p, hp, hok⟩ := h.hq k hk
          rw [hqi] at hp; cases hp
          refine ⟨_, List.getElem?_set_self hjq, ?_, hC, hok.2⟩
          exact hok.1.trans (h.sendRes_expected hC)
        · rw [List.getElem?_set_ne (Ne.symm hki)]; exact h.hq k hk }
  | @handRes i k b hqi hm =>
    have hi : i < cfg.nQ := h.lq ▸ lt_of_getElem? hqi
    have hjq : i < s.queries.length := (List.getElem?_eq_some_iff.mp hqi).1
    have hir : i < s.results.length := h.lr ▸ hi
    obtain ⟨n1, n2, n3, n4⟩ := mnext_facts cfg (k + 1) (h.mkk k hm)
    have hsp : s.splitter = .exited := h.m2.mp (hm ▸ rfl)
    obtain ⟨p, hp, hok⟩ := h.hq i hi
    rw [hqi] at hp; cases hp
    exact { h with
      lq := (List.length_set ..).trans h.lq
      lr := (List.length_set ..).trans h.lr
      m1 := ⟨fun e => absurd e n1, fun e => absurd (h.reader_exited (hm ▸ nofun)) e⟩
      m2 := ⟨fun _ => hsp, fun _ => n2⟩
      mkk := n3
      cnt := by
        have := exitedCount_set (q := QPc.exited) hqi
        have h2 : exitedCount s.queries = k := by have := h.cnt; rwa [hm] at this
        have e0 : ex (QPc.sendRes b) = 0 := rfl
        have e1 : ex (QPc.exited : QPc ρ) = 1 := rfl
        dsimp only
        omega
      hq := fun j hj => by
        dsimp only
        by_cases hji : j = i
        · subst hji
          exact ⟨_, List.getElem?_set_self hjq,
            (List.getElem?_set_self hir).trans (congrArg (some ∘ some) hok.1), hsp⟩
        · rw [List.getElem?_set_ne (Ne.symm hji), List.getElem?_set_ne (Ne.symm hji)]; exact h.hq j hj }
  | mainReadDone hm hr hc =>
    have htk := h.tk
    have hdr := h.dr
    rw [hr] at htk hdr
    exact { h with
      rj := nofun
      tk := htk
      dr := hdr
      cl := ⟨fun _ => rfl, fun _ => rfl⟩
      m1 := ⟨nofun, fun e => absurd rfl e⟩
      m2 := ⟨nofun, fun e => absurd (hm ▸ h.m2.mpr e) nofun⟩
      mkk := nofun
      cnt := by have := h.cnt; rwa [hm] at this
      sd := fun e => ⟨(h.sd e).1, rfl⟩ }
  | mainSplitDone hm hsp =>
    obtain ⟨n1, n2, n3, n4⟩ := mnext_facts cfg 0 (Nat.zero_le _)
    exact { h with
      m1 := ⟨fun e => absurd e n1, fun e => absurd (h.reader_exited (hm ▸ nofun)) e⟩
      m2 := ⟨fun _ => rfl, fun _ => n2⟩
      mkk := n3
      cnt := by have := h.cnt; rw [hm] at this; exact this.trans n4.symm
      sd := fun _ => h.sd (hsp ▸ rfl)
      so := trivial
      hh := fun i hi => h.hh_at hsp hi
      hc := fun i hi => h.hc_at hsp hi
      hq := fun i hi => h.hq_move hsp hi rfl (fun _ => rfl) nofun }

theorem reach_inv {cfg : Cfg τ ρ} {s : State τ ρ} (h : Reach cfg s) : Inv cfg s := by
  induction h with
  | init => exact inv_init cfg
  | step l _ hs ih => exact inv_move ih (move_of_step hs).2

/-! ### what the queries hold and what main returns; the safety corollaries -/

theorem rpos_le {cfg : Cfg τ ρ} {s : State τ ρ} (h : Inv cfg s) : rpos cfg s.reader ≤ cfg.targets.length := by
  cases hr : s.reader with
  | sending j => exact Nat.le_of_lt (h.rj j hr)
  | doneS => exact Nat.le_refl _
  | exited => exact Nat.le_refl _

/-- whatever the schedule, what query i holds is the fold of `acc i` over a PREFIX of `targets`
    in file order; the length of the prefix is the number of targets the splitter has handed to i. -/
theorem fanout_in_order {cfg : Cfg τ ρ} {s : State τ ρ} (hr : Reach cfg s) {i : Nat} (hi : i < cfg.nQ) :
    ∃ k, s.handed[i]? = some k ∧ k ≤ s.taken ∧ s.taken ≤ cfg.targets.length ∧
      ∀ b, (s.queries[i]? = some (.recv b) ∨ s.queries[i]? = some (.sendRes b)) →
        b = foldAcc cfg.acc i none (cfg.targets.take k) := by
  have h := reach_inv hr
  refine ⟨_, h.hh i hi, expH_le _ _ _, ?_, ?_⟩
  · have := h.tk; have := rpos_le h; omega
  · intro b hb
    obtain ⟨p, hp, hok⟩ := h.hq i hi
    rcases hb with hb | hb <;> (rw [hb] at hp; cases hp)
    · exact hok.1
    · exact hok.1.trans (h.sendRes_expected hok.2.1).symm

/-- the splitter hands every target to query 0 first: the prefixes differ by at most one target -/
theorem fanout_lockstep {cfg : Cfg τ ρ} {s : State τ ρ} (hr : Reach cfg s) {i j : Nat} (hij : i ≤ j)
    (hj : j < cfg.nQ) : ∃ a b, s.handed[i]? = some a ∧ s.handed[j]? = some b ∧ b ≤ a ∧ a ≤ b + 1 := by
  have h := reach_inv hr
  refine ⟨_, _, h.hh i (by omega), h.hh j hj, ?_⟩
  cases s.splitter <;> simp only [expH, Nat.le_refl, Nat.le_add_right, and_self]
  split <;> split <;> omega

/-- when main has returned, slot i of the results holds the fold of `acc i` over ALL of `targets`
    in file order, for every i: the output does not depend on the schedule. -/
theorem fanout_result {cfg : Cfg τ ρ} {s : State τ ρ} (hr : Reach cfg s) (hm : s.main = .ret) :
    ∀ i, i < cfg.nQ → s.results[i]? = some (some (foldAcc cfg.acc i none cfg.targets)) := by
  intro i hi
  have h := reach_inv hr
  have hc : exitedCount s.queries = s.queries.length := by rw [h.cnt, hm, h.lq]; rfl
  obtain ⟨p, hp, hok⟩ := h.hq i hi
  cases all_exited_of_count hc hp
  exact hok.1

theorem fanout_result_eq {cfg : Cfg τ ρ} {s : State τ ρ} (hr : Reach cfg s) (hm : s.main = .ret) :
    s.results = (List.range cfg.nQ).map (fun i => some (expected cfg i)) := by
  apply List.ext_getElem?
  intro i
  by_cases hi : i < cfg.nQ
  · rw [fanout_result hr hm i hi, List.getElem?_map, List.getElem?_range hi]; rfl
  · rw [List.getElem?_eq_none (by rw [(reach_inv hr).lr]; omega),
      List.getElem?_eq_none (by rw [List.length_map, List.length_range]; omega)]

/-- a slot is filled only with the final answer, also before main returns -/
theorem fanout_slot {cfg : Cfg τ ρ} {s : State τ ρ} (hr : Reach cfg s) {i : Nat} {v : Option ρ}
    (hv : s.results[i]? = some (some v)) : v = expected cfg i := by
  have h := reach_inv hr
  obtain ⟨p, hp, hok⟩ := h.hq i (h.lr ▸ (List.getElem?_eq_some_iff.mp hv).1)
  cases p with
  | recv b => have := hok.2; rw [hv] at this; cases this
  | sendRes b => have := hok.2.2; rw [hv] at this; cases this
  | exited => have := hok.1; rw [hv] at this; cases this; rfl

/-- no send on a closed channel, no double close -/
theorem no_panic {cfg : Cfg τ ρ} {s : State τ ρ} (hr : Reach cfg s) : s.panicked = false :=
  (reach_inv hr).np

theorem buffer_bounded {cfg : Cfg τ ρ} {s : State τ ρ} (hr : Reach cfg s) : s.cIn.queue.length ≤ cfg.cap :=
  (reach_inv hr).cap

/-! ### the measure `μ` of Model/Fanout: every step lowers it -/

theorem qsμ_set {l : List (QPc ρ)} {i : Nat} {p q : QPc ρ} (h : l[i]? = some p) :
    qsμ (l.set i q) + qμ p = qsμ l + qμ q :=
  posSum_set (F := fun _ => qsμ) (g := fun _ => qμ) (fun _ _ _ => rfl) h q 0

theorem rμ_rnext (cfg : Cfg τ ρ) {j : Nat} (hj : j < cfg.targets.length) :
    rμ cfg (rnext cfg (j + 1)) + (cfg.nQ + 3) ≤ rμ cfg (.sending j) := by
  obtain ⟨d, hd⟩ : ∃ d, cfg.targets.length - j = d + 1 := ⟨cfg.targets.length - j - 1, by omega⟩
  have hd' : cfg.targets.length - (j + 1) = d := by omega
  unfold rnext
  split <;> simp only [rμ, hd, hd', Nat.mul_succ] <;> omega

theorem sμ_recv (cfg : Cfg τ ρ) : sμ cfg (.recv : SPc τ) = cfg.nQ + 4 := rfl
theorem sμ_sending (cfg : Cfg τ ρ) (t : τ) (i : Nat) : sμ cfg (.sending t i) = cfg.nQ + 5 + (cfg.nQ - i) := rfl
theorem sμ_closing (cfg : Cfg τ ρ) (i : Nat) : sμ cfg (.closing i : SPc τ) = 3 + (cfg.nQ - i) := rfl
theorem sμ_doneS (cfg : Cfg τ ρ) : sμ cfg (.doneS : SPc τ) = 1 := rfl
theorem sμ_exited (cfg : Cfg τ ρ) : sμ cfg (.exited : SPc τ) = 0 := rfl
theorem mμ_stage1 (cfg : Cfg τ ρ) : mμ cfg .stage1 = cfg.nQ + 3 := rfl
theorem mμ_stage2 (cfg : Cfg τ ρ) : mμ cfg .stage2 = cfg.nQ + 2 := rfl
theorem mμ_collecting (cfg : Cfg τ ρ) (k : Nat) : mμ cfg (.collecting k) = 1 + (cfg.nQ - k) := rfl
theorem rμ_doneS (cfg : Cfg τ ρ) : rμ cfg .doneS = 1 := rfl
theorem rμ_exited (cfg : Cfg τ ρ) : rμ cfg .exited = 0 := rfl

theorem sμ_snext (cfg : Cfg τ ρ) (t : τ) (k : Nat) : sμ cfg (snext cfg t k) ≤ cfg.nQ + 5 + (cfg.nQ - k) := by
  unfold snext; split <;> simp only [sμ] <;> omega

theorem sμ_snext_succ (cfg : Cfg τ ρ) (t : τ) (k : Nat) : sμ cfg (snext cfg t (k + 1)) < cfg.nQ + 5 + (cfg.nQ - k) := by
  unfold snext; split <;> simp only [sμ] <;> omega

theorem sμ_cnext (cfg : Cfg τ ρ) (k : Nat) : sμ cfg (cnext cfg k) ≤ 3 + cfg.nQ := by
  unfold cnext; split <;> simp only [sμ] <;> omega

theorem sμ_cnext_succ (cfg : Cfg τ ρ) (k : Nat) : sμ cfg (cnext cfg (k + 1)) < 3 + (cfg.nQ - k) := by
  unfold cnext; split <;> simp only [sμ] <;> omega

theorem mμ_mnext (cfg : Cfg τ ρ) (k : Nat) : mμ cfg (mnext cfg k) ≤ 1 + cfg.nQ := by
  unfold mnext; split <;> simp only [mμ] <;> omega

theorem mμ_mnext_succ (cfg : Cfg τ ρ) (k : Nat) : mμ cfg (mnext cfg (k + 1)) < 1 + (cfg.nQ - k) := by
  unfold mnext; split <;> simp only [mμ] <;> omega

/-- a goroutine advances (its summand drops by more than what a successor state or a longer queue adds), or the panic
    flag is raised -/
theorem μ_move {cfg : Cfg τ ρ} {s s' : State τ ρ} {l : Label} (hp : s.panicked = false) (hm : Move cfg s l s') :
    μ cfg s' < μ cfg s := by
  cases hm with
  | panic _ => simp only [μ, hp, Bool.false_eq_true, if_true, if_false]; omega
  | @readerSend j x hr _ hx _ =>
    have := rμ_rnext cfg (List.getElem?_eq_some_iff.mp hx).1
    simp only [μ, hr, List.length_append, List.length_singleton, Nat.mul_succ]; omega
  | @splitRecv t _ hsp hq =>
    have := sμ_snext cfg t 0
    simp only [μ, hsp, hq, sμ_recv, List.length_cons, Nat.mul_succ]; omega
  | @handIn j x hr hsp _ _ hx =>
    have := rμ_rnext cfg (List.getElem?_eq_some_iff.mp hx).1
    have := sμ_snext cfg x 0
    simp only [μ, hr, hsp, sμ_recv]; omega
  | splitClosed hsp _ _ =>
    have := sμ_cnext cfg 0
    simp only [μ, hsp, sμ_recv]; omega
  | @splitSend t i b hsp _ hqi =>
    have := sμ_snext_succ cfg t i
    have := qsμ_set (q := QPc.recv (some (cfg.acc i b t))) hqi
    simp only [qμ] at this
    simp only [μ, hsp, sμ_sending]; omega
  | @splitClose i hsp _ =>
    have := sμ_cnext_succ cfg i
    simp only [μ, hsp, sμ_closing]; omega
  | @queryClosed i b hqi _ =>
    have := qsμ_set (q := QPc.sendRes b) hqi
    simp only [qμ] at this
    simp only [μ]; omega
  | @handRes i k b hqi hm =>
    have := qsμ_set (q := QPc.exited) hqi
    simp only [qμ] at this
    have := mμ_mnext_succ cfg k
    simp only [μ, hm, mμ_collecting]; omega
  | mainReadDone hm hr _ => simp only [μ, hm, hr, mμ_stage1, mμ_stage2, rμ_doneS, rμ_exited]; omega
  | mainSplitDone hm hsp =>
    have := mμ_mnext cfg 0
    simp only [μ, hm, hsp, mμ_stage2, sμ_doneS, sμ_exited]; omega

/-- one step lowers `μ`: hence every run is finite (`run_length_le`) and every schedule of `μ (init cfg)` choices runs
    main to its return (`runSchedule_returns`) -/
theorem fanout_terminates {cfg : Cfg τ ρ} {s s' : State τ ρ} {l : Label}
    (hs : step? cfg s l = some s') : μ cfg s' < μ cfg s :=
  μ_move (move_of_step hs).1 (move_of_step hs).2

/-! ### no reachable non-final state is stuck -/

theorem mem_allLabels_query {n i : Nat} (hi : i < n) {l : Label} (hl : l ∈ queryLabels i) : l ∈ allLabels n :=
  List.mem_append_right _ (List.mem_flatMap.mpr ⟨i, List.mem_range.mpr hi, hl⟩)

theorem Move.mem_allLabels {cfg : Cfg τ ρ} {s s' : State τ ρ} {l : Label} (hm : Move cfg s l s') (h : Inv cfg s) :
    l ∈ allLabels cfg.nQ := by
  cases hm with
  | panic hp => exact absurd hp (not_panics h _)
  | queryClosed hq | handRes hq => exact mem_allLabels_query (h.lq ▸ lt_of_getElem? hq) (by simp [queryLabels])
  | _ => exact List.mem_append_left _ (by decide)

theorem Move.progress {cfg : Cfg τ ρ} {s s' : State τ ρ} {l : Label} (hm : Move cfg s l s') (h : Inv cfg s)
    (hnf : s.final = false) : ∃ l ∈ allLabels cfg.nQ, (step? cfg s l).isSome = true :=
  ⟨l, hm.mem_allLabels h, by rw [step?_of_move hm h hnf]; rfl⟩

theorem Inv.progress {cfg : Cfg τ ρ} {s : State τ ρ} (h : Inv cfg s) (hnf : s.final = false) :
    ∃ l ∈ allLabels cfg.nQ, (step? cfg s l).isSome = true := by
  -- the splitter can move whenever it is in its inner loop or closing
  have hsend : ∀ t i, s.splitter = .sending t i → ∃ l ∈ allLabels cfg.nQ, (step? cfg s l).isSome = true := by
    intro t i hsp
    have hi := (h.so_at hsp).1
    obtain ⟨p, hp, hok⟩ := h.hq_at hsp hi
    cases p with
    | recv b => exact (Move.splitSend hsp (h.hc_at hsp hi) hp).progress h hnf
    | sendRes b => exact absurd hok.2.1 nofun
    | exited => exact absurd hok.2 nofun
  have hclose : ∀ i, s.splitter = .closing i → ∃ l ∈ allLabels cfg.nQ, (step? cfg s l).isSome = true := by
    intro i hsp
    have hc := h.hc_at hsp (h.so_at hsp)
    simp only [expC, Nat.lt_irrefl, decide_false] at hc
    exact (Move.splitClose hsp hc).progress h hnf
  cases hm : s.main with
  | stage1 =>
    have hre : s.reader ≠ .exited := h.m1.mp hm
    have hcl : s.cIn.closed = false := by
      cases hc : s.cIn.closed with
      | false => rfl
      | true => exact absurd (h.cl.mp hc) hre
    cases hr : s.reader with
    | exited => exact absurd hr hre
    | doneS => exact (Move.mainReadDone hm hr hcl).progress h hnf
    | sending j =>
      have hj := h.rj j hr
      have hx : cfg.targets[j]? = some cfg.targets[j] := List.getElem?_eq_getElem hj
      cases hsp : s.splitter with
      | sending t i => exact hsend t i hsp
      | closing i => exact hclose i hsp
      | doneS => exact absurd (h.sd (hsp ▸ rfl)).2 hre
      | exited => exact absurd (h.sd (hsp ▸ rfl)).2 hre
      | recv =>
        by_cases hcap : cfg.cap = 0
        · exact (Move.handIn hr hsp hcl hcap hx).progress h hnf
        · by_cases hroom : s.cIn.queue.length < cfg.cap
          · exact (Move.readerSend hr hcl hx hroom).progress h hnf
          · cases hq : s.cIn.queue with
            | nil => rw [hq] at hroom; exact absurd (Nat.pos_of_ne_zero hcap) hroom
            | cons t rest => exact (Move.splitRecv hsp hq).progress h hnf
  | stage2 =>
    have hcl : s.cIn.closed = true := h.cl.mpr (h.reader_exited (hm ▸ nofun))
    cases hsp : s.splitter with
    | sending t i => exact hsend t i hsp
    | closing i => exact hclose i hsp
    | doneS => exact (Move.mainSplitDone hm hsp).progress h hnf
    | exited => have := h.m2.mpr hsp; rw [hm] at this; cases this
    | recv =>
      cases hq : s.cIn.queue with
      | nil => exact (Move.splitClosed hsp hcl hq).progress h hnf
      | cons t rest => exact (Move.splitRecv hsp hq).progress h hnf
  | collecting k =>
    -- main has received k < nQ results, so some query has not exited; the splitter has: its channel is closed
    have hsp : s.splitter = .exited := h.m2.mp (hm ▸ rfl)
    have hlt : exitedCount s.queries < s.queries.length := by rw [h.cnt, hm, h.lq]; exact h.mkk k hm
    obtain ⟨i, p, hp, hne⟩ := exists_not_exited hlt
    cases p with
    | exited => cases hne
    | recv b => exact (Move.queryClosed hp (h.hc_at hsp (h.lq ▸ lt_of_getElem? hp))).progress h hnf
    | sendRes b => exact (Move.handRes hp hm).progress h hnf
  | ret => simp [State.final, hm] at hnf

/-- every reachable state in which main has not returned has an enabled step (any nQ, any cap) -/
theorem fanout_no_deadlock {cfg : Cfg τ ρ} {s : State τ ρ} (hr : Reach cfg s) (hm : s.main ≠ .ret) :
    enabled cfg s ≠ [] := by
  have h := reach_inv hr
  refine Run.enabledWith_ne_nil.mpr (h.progress ?_)
  simp only [State.final, h.np, Bool.false_or, beq_eq_false_iff_ne, ne_eq, hm, not_false_eq_true]

/-! ### runs: every schedule is finite and every maximal run ends with main returned -/

inductive Steps (cfg : Cfg τ ρ) : State τ ρ → List Label → State τ ρ → Prop where
  | nil (s : State τ ρ) : Steps cfg s [] s
  | cons {s s1 s2 : State τ ρ} {l : Label} {ls : List Label} :
      step? cfg s l = some s1 → Steps cfg s1 ls s2 → Steps cfg s (l :: ls) s2

theorem run_length_le {cfg : Cfg τ ρ} {s s' : State τ ρ} {ls : List Label}
    (h : Steps cfg s ls s') : ls.length + μ cfg s' ≤ μ cfg s := by
  induction h with
  | nil s => exact Nat.le_of_eq (Nat.zero_add _)
  | cons hs _ ih => have := fanout_terminates hs; simp only [List.length_cons]; omega

theorem reach_steps {cfg : Cfg τ ρ} {s s' : State τ ρ} {ls : List Label}
    (hr : Reach cfg s) (h : Steps cfg s ls s') : Reach cfg s' := by
  induction h with
  | nil s => exact hr
  | cons hs _ ih => exact ih (Reach.step _ hr hs)

theorem steps_snoc {cfg : Cfg τ ρ} {s s1 s2 : State τ ρ} {ls : List Label} {l : Label}
    (h : Steps cfg s ls s1) (hs : step? cfg s1 l = some s2) : Steps cfg s (ls ++ [l]) s2 := by
  induction h with
  | nil s => exact Steps.cons hs (Steps.nil _)
  | cons hs' _ ih => exact Steps.cons hs' (ih hs)

theorem reach_iff_steps {cfg : Cfg τ ρ} {s : State τ ρ} :
    Reach cfg s ↔ ∃ ls, Steps cfg (init cfg) ls s := by
  constructor
  · intro h
    induction h with
    | init => exact ⟨[], Steps.nil _⟩
    | step l _ hs ih => obtain ⟨ls, h⟩ := ih; exact ⟨ls ++ [l], steps_snoc h hs⟩
  · rintro ⟨ls, h⟩; exact reach_steps Reach.init h

theorem μ_init (cfg : Cfg τ ρ) :
    μ cfg (init cfg) ≤ (cfg.nQ + 3) * cfg.targets.length + 4 * cfg.nQ + 9 := by
  have h1 : rμ cfg (rnext cfg 0) ≤ (cfg.nQ + 3) * cfg.targets.length + 1 := by
    unfold rnext; split <;> simp only [rμ, Nat.sub_zero, Nat.le_refl, Nat.le_add_left]
  have h2 : ∀ n, qsμ (List.replicate n (QPc.recv (none : Option ρ))) = 2 * n := by
    intro n
    induction n with
    | zero => rfl
    | succ n ih => rw [List.replicate_succ, qsμ, ih, qμ]; omega
  simp only [μ, init, h2, sμ_recv, mμ_stage1, List.length_nil, Nat.mul_zero, Bool.false_eq_true, if_false]
  omega

theorem fanout_maximal_run {cfg : Cfg τ ρ} {s : State τ ρ} (hr : Reach cfg s) (hstuck : enabled cfg s = []) :
    s.main = .ret ∧ s.results = (List.range cfg.nQ).map (fun i => some (expected cfg i)) := by
  have hm : s.main = .ret := Decidable.byContradiction fun hcon => fanout_no_deadlock hr hcon hstuck
  exact ⟨hm, fanout_result_eq hr hm⟩

theorem runSchedule_reach (cfg : Cfg τ ρ) (sched : List Nat) : Reach cfg (runSchedule cfg sched) :=
  Run.runWith_preserves Reach.step sched Reach.init

theorem runSchedule_returns {cfg : Cfg τ ρ} (sched : List Nat)
    (hlen : (cfg.nQ + 3) * cfg.targets.length + 4 * cfg.nQ + 9 ≤ sched.length) :
    (runSchedule cfg sched).main = .ret ∧
    (runSchedule cfg sched).results = (List.range cfg.nQ).map (fun i => some (expected cfg i)) :=
  fanout_maximal_run (runSchedule_reach cfg sched) <|
    Run.runWith_stuck Reach.step (fun _ _ hs => fanout_terminates hs) sched Reach.init (Nat.le_trans (μ_init cfg) hlen)

/-! ### the statements are not vacuous -/

namespace Demo

/-- an accumulator that keeps the first arrival (every target ties with every other) -/
def keepFirst : Nat → Option Nat → Nat → Nat
  | _, none, t => t
  | _, some b, _ => b

def two (cap : Nat) : Cfg Nat Nat := ⟨[10, 20], 1, cap, keepFirst⟩

/-- the faithful program on `two`: target 10 wins, as the theorem says for every schedule -/
theorem faithful_two (cap : Nat) (sched : List Nat) (h : (runSchedule (two cap) sched).main = .ret) :
    (runSchedule (two cap) sched).results = [some (some 10)] :=
  fanout_result_eq (runSchedule_reach _ sched) h

/-- with TWO forwarders ranging over cIn the answer depends on the schedule.
    Schedule A: forwarder 1 takes both targets, one after the other. -/
theorem stepTwoForwarders_scheduleA :
    (runLabels (stepTwoForwarders (two 1)) (init2 (two 1))
      [.first .readerSend, .first .splitRecv, .first .splitSend,
       .first .readerSend, .first .splitRecv, .first .splitSend,
       .first .mainReadDone, .second .splitClosed, .first .splitClosed, .first .splitClose,
       .first .mainSplitDone, .first (.queryClosed 0), .first (.handRes 0)]).map
      (fun sp => (sp.1.results, sp.1.main, sp.1.panicked)) = some ([some (some 10)], .ret, false) := by
  decide +kernel

/-- Schedule B: forwarder 1 takes target 10, forwarder 2 takes target 20 and reaches the query first. -/
theorem stepTwoForwarders_scheduleB :
    (runLabels (stepTwoForwarders (two 1)) (init2 (two 1))
      [.first .readerSend, .first .splitRecv, .first .readerSend, .second .splitRecv,
       .second .splitSend, .first .splitSend,
       .first .mainReadDone, .second .splitClosed, .first .splitClosed, .first .splitClose,
       .first .mainSplitDone, .first (.queryClosed 0), .first (.handRes 0)]).map
      (fun sp => (sp.1.results, sp.1.main, sp.1.panicked)) = some ([some (some 20)], .ret, false) := by
  decide +kernel

/-- the same with an unbuffered cIn -/
theorem stepTwoForwarders_scheduleB0 :
    (runLabels (stepTwoForwarders (two 0)) (init2 (two 0))
      [.first .handIn, .second .handIn, .second .splitSend, .first .splitSend,
       .first .mainReadDone, .second .splitClosed, .first .splitClosed, .first .splitClose,
       .first .mainSplitDone, .first (.queryClosed 0), .first (.handRes 0)]).map
      (fun sp => (sp.1.results, sp.1.main, sp.1.panicked)) = some ([some (some 20)], .ret, false) := by
  decide +kernel

/-- two such schedules through the numeric scheduler -/
theorem stepTwoForwarders_differ :
    (runWith (stepTwoForwarders (two 1)) (allLabels2 1) (init2 (two 1)) (List.replicate 13 0)).1.results
      = [some (some 10)] ∧
    (runWith (stepTwoForwarders (two 1)) (allLabels2 1) (init2 (two 1)) [0, 0, 0, 2, 2, 0, 0, 1, 0, 0, 0, 0, 0]).1.results
      = [some (some 20)] := by
  decide +kernel

theorem stepTwoForwarders_schedule_dependent :
    ∃ la lb sa sb, runLabels (stepTwoForwarders (two 1)) (init2 (two 1)) la = some sa ∧
      runLabels (stepTwoForwarders (two 1)) (init2 (two 1)) lb = some sb ∧
      sa.1.main = .ret ∧ sb.1.main = .ret ∧ sa.1.panicked = false ∧ sb.1.panicked = false ∧
      sa.1.results ≠ sb.1.results := by
  obtain ⟨sa, ha, ea⟩ := Option.map_eq_some_iff.mp stepTwoForwarders_scheduleA
  obtain ⟨sb, hb, eb⟩ := Option.map_eq_some_iff.mp stepTwoForwarders_scheduleB
  simp only [Prod.mk.injEq] at ea eb
  refine ⟨_, _, sa, sb, ha, hb, ea.2.1, eb.2.1, ea.2.2, eb.2.2, ?_⟩
  rw [ea.1, eb.1]; decide

/-- targets are (key, name); query q keeps the target whose key is nearest to q in the sense
    `(key + q) % 3` smallest, and the incumbent on a tie -/
def accMin : Nat → Option (Nat × Nat) → Nat × Nat → Nat × Nat
  | _, none, t => t
  | q, some b, t => if (t.1 + q) % 3 < (b.1 + q) % 3 then t else b

/-- three targets, two queries; query 0: target 0 wins outright; query 1: targets 1 and 2 tie and the
    earlier one in file order is kept -/
def three : Cfg (Nat × Nat) (Nat × Nat) := ⟨[(3, 0), (5, 1), (2, 2)], 2, 1, accMin⟩

/-- two different schedules (different interleavings, different order of collection), same results -/
example :
    traceWith (step? three) (allLabels 2) (init three) (List.replicate 21 0) ≠
      traceWith (step? three) (allLabels 2) (init three) ((List.range 21).map (fun k => k * 7 + 1)) ∧
    (runSchedule three (List.replicate 21 0)).main = .ret ∧
    (runSchedule three ((List.range 21).map (fun k => k * 7 + 1))).main = .ret ∧
    (runSchedule three (List.replicate 21 0)).results = [some (some (3, 0)), some (some (5, 1))] ∧
    (runSchedule three ((List.range 21).map (fun k => k * 7 + 1))).results
      = [some (some (3, 0)), some (some (5, 1))] := by
  decide +kernel

/-- and the general theorem says the same about every schedule of `three` -/
example (sched : List Nat) (h : (runSchedule three sched).main = .ret) :
    (runSchedule three sched).results = [some (some (3, 0)), some (some (5, 1))] :=
  fanout_result_eq (runSchedule_reach three sched) h

example (sched : List Nat) (h : 32 ≤ sched.length) : (runSchedule three sched).main = .ret :=
  (runSchedule_returns (cfg := three) sched (by simpa [three] using h)).1

end Demo

end Gofasta.Lemmas.Fanout
