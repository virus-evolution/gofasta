import Gofasta.Lemmas.Enc
import Gofasta.Model.Fasta
import Gofasta.Spec.Fasta
import Gofasta.Lemmas.FastaLayout
import Gofasta.Lemmas.Bytes
/-
C16 — FASTA reading is layout-independent, strict, total and the same in every reader.
-/
namespace Gofasta.Props.C16
open Gofasta Base Model Spec Lemmas

/-- **C16.blank_total** — a blank line never changes the reader state (and so never crashes it) -/
theorem blank_total (m : Mode) (s : RdState) : rdStep m s [] = .ok s := rfl

theorem blank_lines_irrelevant (m : Mode) : ∀ (ls : List (List Nat)) (s : RdState),
    rdLines m s (ls.filter (fun l => !l.isEmpty)) = rdLines m s ls := by
  intro ls
  induction ls with
  | nil => intro s; rfl
  | cons l t ih =>
    intro s
    cases l with
    | nil => simp [rdLines, rdStep, ih]
    | cons b bs =>
      simp only [List.filter_cons, List.isEmpty_cons, Bool.not_false, if_true, rdLines]
      cases rdStep m s (b :: bs) with
      | ok s' => exact ih s'
      | error e => rfl

/-- **C16.list_eq_stream** — the list reader returns exactly what the streaming reader delivers
on success, and an error exactly when it reports one -/
theorem list_eq_stream (hard : Bool) (t : List Nat) :
    readFastaList hard t = (match readFasta (.encoded hard) t with
      | .ok rs => .ok rs
      | .error (_, e) => .error e) := rfl

/-- **C16.total** — the model reader is a total function into `Except`: every byte stream is
read or rejected (the Go side of this statement is what the correspondence stream checks:
no panic, no time-out). -/
theorem total (m : Mode) (t : List Nat) : (∃ rs, readFasta m t = .ok rs) ∨ (∃ e, readFasta m t = .error e) := by
  cases h : readFasta m t with
  | ok rs => exact Or.inl ⟨rs, rfl⟩
  | error e => exact Or.inr ⟨e, rfl⟩

theorem encodeLine_none_of_bad (hard : Bool) : ∀ (l : List Nat) (b : Nat), b ∈ l → enc hard b = 0 →
    encodeLine hard l = none := by
  intro l
  induction l with
  | nil => intro b hb; simp at hb
  | cons x t ih =>
    intro b hb he
    simp only [encodeLine]
    rcases List.mem_cons.1 hb with rfl | hb
    · simp [he]
    · split
      · rfl
      · simp [ih b hb he]

theorem encodeLine_accepted (hard : Bool) : ∀ (l : List Nat), (∀ b ∈ l, enc hard b ≠ 0) →
    encodeLine hard l = some (l.map (enc hard)) := by
  intro l
  induction l with
  | nil => intro _; rfl
  | cons b t ih =>
    intro h
    have hb := h b (by simp)
    simp [encodeLine, hb, ih (fun x hx => h x (by simp [hx]))]

theorem line_cases (l : List Nat) : l = [] ∨ (∃ d, l = 62 :: d) ∨ SeqLine l := by
  match l with
  | [] => exact .inl rfl
  | x :: t =>
    by_cases h : x = 62
    · exact .inr (.inl ⟨t, by rw [h]⟩)
    · exact .inr (.inr ⟨List.cons_ne_nil x t, by simpa using h⟩)

/-- **C16.strict_symbol** — once a record has started, a line containing a byte the alphabet does not accept makes
this step of an encoded reader fail (wherever the line sits in the stream: `Props.C18.bad_symbol_anywhere`) -/
theorem strict_symbol (hard : Bool) (s : RdState) (l : List Nat) (hs : s.started = true)
    (hne : l ≠ []) (hh : l.head? ≠ some 62) (b : Nat) (hb : b ∈ l) (he : enc hard b = 0) :
    rdStep (.encoded hard) s l = .error (s.out, .invalidNuc) := by
  rw [rdStep_seq _ s l ⟨hne, hh⟩, if_neg (by simp [hs]),
    show seqLine (.encoded hard) l = none from encodeLine_none_of_bad hard l b hb he]

/-- **C16.no_leading_header** — a first non-blank line that is not a header is a format error -/
theorem no_leading_header (m : Mode) (l : List Nat) (hne : l ≠ []) (hh : l.head? ≠ some 62) :
    rdStep m {} l = .error ([], .badFormat) :=
  rdStep_seq m {} l ⟨hne, hh⟩

/-- **C16.no_records** — the end of the stream in the initial state, that is after no line or blank lines only
(`blank_total`), is the error "no records" -/
theorem no_records : rdFinish ({} : RdState) = .error ([], .empty) := by
  simp [rdFinish]

/-- one single header and nothing after it (nothing emitted, empty buffer) is "no records" too -/
theorem no_records_single_header (s : RdState) (hb : s.buf = []) (hc : s.counter = 0) :
    rdFinish s = .error (s.out, .empty) := by
  simp [rdFinish, hb, hc]

theorem finish_checked (s : RdState) (hc : 0 < s.counter) (hw : s.buf.length ≠ s.width) :
    rdFinish s = .error (s.out, .diffLen) := by
  simp [rdFinish, hc, hw]

/-- **C16.last_record_checked** — the LAST record is handled like every other one: for every reader, every text and
the state `s` reached after its last line, if at least one record was emitted before (`0 < s.counter`) and the length
of the pending record differs from the width of the earlier records, the reader returns "different length sequences"
(after the records delivered so far) - whatever that length is, 0 included (a last header without a sequence). -/
theorem last_record_checked (m : Mode) (text : List Nat) (s : RdState)
    (hl : rdLines m {} (splitLines text) = .ok s) (hc : 0 < s.counter) (hw : s.buf.length ≠ s.width) :
    readFasta m text = .error (s.out, .diffLen) := by
  unfold readFasta
  rw [hl]
  exact finish_checked s hc hw

/-- the same for the list reader (ReadEncodeAlignmentToList, and through it the FASTA section of gff.ReadGFF) -/
theorem last_record_checked_list (hard : Bool) (text : List Nat) (s : RdState)
    (hl : rdLines (.encoded hard) {} (splitLines text) = .ok s) (hc : 0 < s.counter) (hw : s.buf.length ≠ s.width) :
    readFastaList hard text = .error .diffLen := by
  unfold readFastaList
  rw [last_record_checked (.encoded hard) text s hl hc hw]

/-- the instance of `last_record_checked` on which `rdFinishOld` differs (`finish_old_dropped`) -/
theorem last_header_without_sequence (m : Mode) (text : List Nat) (s : RdState)
    (hl : rdLines m {} (splitLines text) = .ok s) (hc : 0 < s.counter) (hb : s.buf = []) (hw : 0 < s.width) :
    readFasta m text = .error (s.out, .diffLen) :=
  last_record_checked m text s hl hc (by rw [hb]; simp; omega)

def errClass : Except (List FaRec × RdErr) (List FaRec) → Option RdErr
  | .error (_, e) => some e
  | .ok _ => none

/-- **C16.old_finish_dropped_last** — on the text ">a\nACGT\n>b\n" `rdFinishOld` (the loop end of the Go code before its
repair: flush only a non-empty buffer) accepts the file with ONE record, record b silently missing; the reader refuses
it with "different length sequences", in every mode -/
theorem old_finish_dropped_last :
    (((rdLines (.encoded false) {} (splitLines (stringToBytes ">a\nACGT\n>b\n"))).bind rdFinishOld).toOption.map
      fun rs => rs.map fun r => (r.id, r.seq, r.idx)) = some [([97], [136, 40, 72, 24], 0)] ∧
    errClass (readFasta (.encoded false) (stringToBytes ">a\nACGT\n>b\n")) = some .diffLen ∧
    errClass (readFasta (.encoded true) (stringToBytes ">a\nACGT\n>b\n")) = some .diffLen ∧
    errClass (readFasta .plain (stringToBytes ">a\nACGT\n>b\n")) = some .diffLen := by
  rw [stringToBytes_ofList]
  decide +kernel

theorem finish_old_dropped (s : RdState) (hb : s.buf = []) (hc : 0 < s.counter) : rdFinishOld s = .ok s.out := by
  have : s.counter ≠ 0 := by omega
  simp [rdFinishOld, hb, this]

/-- the two loop ends differ in nothing else -/
theorem finish_eq_old (s : RdState) (h : s.buf ≠ [] ∨ s.counter = 0) : rdFinish s = rdFinishOld s := by
  unfold rdFinish rdFinishOld
  rcases h with h | h
  · simp [List.length_pos_iff.2 h]
  · by_cases hb : s.buf.length > 0
    · simp [hb]
    · simp [hb, h]

/-- non-vacuity: a two-record file in CRLF layout with a wrapped, mixed-case second record -/
example : (readFasta (.encoded false) (stringToBytes ">a x\r\nAC\r\n>b\r\na\r\n\r\nc")).toOption.map
    (fun rs => rs.map (fun r => (r.id, r.seq, r.idx))) = some [([97], [136, 40], 0), ([98], [136, 40], 1)] := by
  rw [stringToBytes_ofList]
  decide +kernel

/-- LF, CR and '>' are not in the alphabet (decided on the regenerated tables) -/
theorem control_bytes_rejected : (enc false 10 = 0 ∧ enc false 13 = 0 ∧ enc false 62 = 0) ∧
    (enc true 10 = 0 ∧ enc true 13 = 0 ∧ enc true 62 = 0) := by decide +kernel

/-- a file of records as laid out on disk, well-formed for an encoded reader: every header has an ID and no
    line-end bytes; every sequence line is non-empty and over the accepted alphabet; all sequences have the same
    length, which is non-zero unless there are at least two records (records without any sequence line: since the
    last record is flushed like every other one, such a file is read as records of width 0; one single header
    without a sequence is "no records") -/
structure WFFile (hard : Bool) (W : Nat) (recs : List LRec) : Prop where
  wpos : 0 < W ∨ 2 ≤ recs.length
  ids : ∀ r ∈ recs, firstField r.desc = some r.id
  hdr : ∀ r ∈ recs, CleanLine r.desc
  chunks : ∀ r ∈ recs, ∀ l ∈ r.chunks, l ≠ [] ∧ ∀ b ∈ l, enc hard b ≠ 0
  width : ∀ r ∈ recs, r.seq.length = W

theorem tail_ne_nil {α : Type} {a : α} {l : List α} (h : 2 ≤ (a :: l).length) : l ≠ [] :=
  fun e => by simp [e] at h

theorem accepted_not_control (hard : Bool) (b : Nat) (h : enc hard b ≠ 0) : b ≠ 10 ∧ b ≠ 13 ∧ b ≠ 62 := by
  have hc := control_bytes_rejected
  refine ⟨?_, ?_, ?_⟩ <;> (intro e; subst e; cases hard <;> simp_all)

theorem wfRec_of_file (hard : Bool) (W : Nat) (recs : List LRec) (hf : WFFile hard W recs) (r : LRec) (hr : r ∈ recs) :
    WFRec (.encoded hard) (enc hard) W r := by
  refine ⟨hf.ids r hr, ?_, hf.width r hr⟩
  intro l hl
  obtain ⟨hne, hacc⟩ := hf.chunks r hr l hl
  refine ⟨⟨hne, ?_⟩, ?_⟩
  · cases l with
    | nil => exact absurd rfl hne
    | cons x t =>
      have := (accepted_not_control hard x (hacc x (by simp))).2.2
      simp [this]
  · simp [seqLine, encodeLine_accepted hard l hacc]

theorem renderLines_clean (recs : List LRec) (hdr : ∀ r ∈ recs, CleanLine r.desc)
    (hch : ∀ r ∈ recs, ∀ l ∈ r.chunks, CleanLine l ∧ l ≠ []) : ∀ l ∈ renderLines recs, CleanLine l ∧ l ≠ [] := by
  intro l hl
  simp only [renderLines, List.mem_flatMap, LRec.lines, List.mem_cons] at hl
  obtain ⟨r, hr, rfl | hl⟩ := hl
  · obtain ⟨h1, h2⟩ := hdr r hr
    refine ⟨⟨?_, ?_⟩, by simp⟩
    · intro b hb
      rcases List.mem_cons.1 hb with rfl | hb
      · decide
      · exact h1 b hb
    · cases hd : r.desc with
      | nil => simp
      | cons x t =>
        rw [hd] at h2
        simpa [List.getLast?_cons_cons] using h2
  · exact hch r hr l hl

theorem lines_clean (hard : Bool) (W : Nat) (recs : List LRec) (hf : WFFile hard W recs) :
    ∀ l ∈ renderLines recs, CleanLine l ∧ l ≠ [] := by
  refine renderLines_clean recs hf.hdr fun r hr l hl => ?_
  obtain ⟨hne, hacc⟩ := hf.chunks r hr l hl
  refine ⟨⟨fun b hb => (accepted_not_control hard b (hacc b hb)).1, fun hlast => ?_⟩, hne⟩
  exact (accepted_not_control hard 13 (hacc 13 (List.mem_of_getLast? hlast))).2.1 rfl

/-- **C16.layout_independent** — for every non-empty list of records with accepted sequences of equal length (non-empty,
or all empty when there are at least two records), written under ANY layout (any chunking of each sequence into lines, LF or CRLF, with or without a final
newline), the encoded reader returns exactly those records: ID = the first white-space-delimited token of the
header, description = the whole header, sequence = the encoded concatenation of its lines, index = position -/
theorem layout_independent (hard crlf finalEol : Bool) (W : Nat) (r0 : LRec) (rs : List LRec) (hf : WFFile hard W (r0 :: rs)) :
    readFasta (.encoded hard) (renderText crlf finalEol (renderLines (r0 :: rs))) = .ok (recsFrom (enc hard) (r0 :: rs) 0) := by
  rw [readFasta_eq_bind, splitLines_render crlf finalEol _ (lines_clean hard W _ hf)]
  exact rdLines_wfRecs (.encoded hard) (enc hard) W r0 rs (hf.wpos.imp_right tail_ne_nil) (wfRec_of_file hard W _ hf)

theorem layout_irrelevant (hard c1 f1 c2 f2 : Bool) (W : Nat) (r0 r0' : LRec) (rs rs' : List LRec)
    (h1 : WFFile hard W (r0 :: rs)) (h2 : WFFile hard W (r0' :: rs'))
    (hsame : (r0 :: rs).map (fun r => (r.id, r.desc, r.seq)) = (r0' :: rs').map (fun r => (r.id, r.desc, r.seq))) :
    readFasta (.encoded hard) (renderText c1 f1 (renderLines (r0 :: rs))) =
      readFasta (.encoded hard) (renderText c2 f2 (renderLines (r0' :: rs'))) := by
  rw [layout_independent hard c1 f1 W r0 rs h1, layout_independent hard c2 f2 W r0' rs' h2]
  exact congrArg _ (recsFrom_congr (enc hard) _ _ 0 hsame)

/-- non-vacuity: two records, the second wrapped at width 1 and 2 -/
def exFile : List LRec :=
  [⟨[97], [97, 32, 120], [[65, 67, 71]]⟩, ⟨[98], [98], [[97], [78, 45]]⟩]

theorem exFile_wf : WFFile false 3 exFile :=
  ⟨Or.inl (by decide), by decide, by unfold CleanLine; decide, by decide +kernel, by decide⟩

/-- written with CRLF and no final newline -/
example : readFasta (.encoded false) (renderText true false (renderLines exFile)) = .ok (recsFrom (enc false) exFile 0) :=
  layout_independent false true false 3 _ _ exFile_wf

/-- non-vacuity of the width-0 case: two headers without any sequence line are two records of width 0 (`rdFinishOld`
drops the second) -/
example : readFasta (.encoded false) (renderText false true (renderLines [⟨[97], [97], []⟩, ⟨[98], [98, 32, 120], []⟩])) =
    .ok (recsFrom (enc false) [⟨[97], [97], []⟩, ⟨[98], [98, 32, 120], []⟩] 0) := by
  exact layout_independent false false true 0 _ _
    ⟨Or.inr (by decide), by decide, by unfold CleanLine; decide, by decide, by decide⟩

/-- the same file structure for the plain-text reader (it performs no symbol check: any non-empty line that does
    not start with '>' and contains no line-end byte is a sequence line) -/
structure WFFilePlain (W : Nat) (recs : List LRec) : Prop where
  wpos : 0 < W ∨ 2 ≤ recs.length
  ids : ∀ r ∈ recs, firstField r.desc = some r.id
  hdr : ∀ r ∈ recs, CleanLine r.desc
  chunks : ∀ r ∈ recs, ∀ l ∈ r.chunks, SeqLine l ∧ CleanLine l
  width : ∀ r ∈ recs, r.seq.length = W

/-- **C16.layout_independent (plain reader)** — ReadAlignment returns the same records with upper-cased text -/
theorem layout_independent_plain (crlf finalEol : Bool) (W : Nat) (r0 : LRec) (rs : List LRec) (hf : WFFilePlain W (r0 :: rs)) :
    readFasta .plain (renderText crlf finalEol (renderLines (r0 :: rs))) = .ok (recsFrom asciiUpper (r0 :: rs) 0) := by
  have hclean := renderLines_clean (r0 :: rs) hf.hdr fun r hr l hl =>
    ⟨(hf.chunks r hr l hl).2, (hf.chunks r hr l hl).1.1⟩
  rw [readFasta_eq_bind, splitLines_render crlf finalEol _ hclean]
  refine rdLines_wfRecs .plain asciiUpper W r0 rs (hf.wpos.imp_right tail_ne_nil) fun r hr => ?_
  exact ⟨hf.ids r hr, fun l hl => ⟨(hf.chunks r hr l hl).1, rfl⟩, hf.width r hr⟩

theorem dec_enc_seq (hard : Bool) (s : List Nat) (h : ∀ b ∈ s, enc hard b ≠ 0) :
    (s.map (enc hard)).map dec = s.map asciiUpper := by
  rw [List.map_map]
  apply List.map_congr_left
  intro b hb
  have := dec_enc hard b (h b hb)
  simpa [Function.comp, upper, asciiUpper] using this

/-- **C16.readers_agree_seq** — on ONE sequence: the codes the encoded readers store decode to the upper-cased text
the plain reader stores (`dec_enc_seq`; `b < 256` is not used). That the two readers return corresponding records on
one FILE is not stated anywhere: it would follow from `layout_independent` and `layout_independent_plain`
(`recsFrom (enc hard)` and `recsFrom asciiUpper` of one layout) for a layout that is both `WFFile` and `WFFilePlain` -/
theorem readers_agree_seq (hard : Bool) (s : List Nat) (h : ∀ b ∈ s, b < 256 ∧ enc hard b ≠ 0) :
    (s.map (enc hard)).map dec = s.map asciiUpper :=
  dec_enc_seq hard s fun b hb => (h b hb).2

/-- **C16.case_insensitive_seq** — the encoded records do not depend on letter case (`h` is not used) -/
theorem case_insensitive_seq (hard : Bool) (s : List Nat) (h : ∀ b ∈ s, b < 256) :
    (s.map upper).map (enc hard) = s.map (enc hard) := by
  have _ := h
  rw [List.map_map]
  exact List.map_congr_left fun b _ => enc_upper hard b

/-- **C16.score_is_sum** — the completeness score of a record is the sum of `scoreOf` over its codes, by definition
(that `scoreOf e` times the size of the base set is 12 for every accepted byte: `chkScore_ok` in `Lemmas/Enc`) -/
theorem score_is_sum (s : List Nat) : scoreSeq s = (s.map scoreOf).sum := rfl

end Gofasta.Props.C16
