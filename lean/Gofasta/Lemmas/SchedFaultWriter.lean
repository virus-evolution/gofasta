import Gofasta.Lemmas.SchedWriters
import Gofasta.Lemmas.Sink
/-
C19 ("a failed output write is never reported as success") at the level of the goroutines: the re-ordering text
writer of the concurrency models (Model/Sched, one worker pool; Model/SchedChain, any number of pools) writing to a
DESTINATION THAT FAILS.  Props/C19 has the call-list model `Model.Writer.run`, which knows nothing about goroutines;
SchedCommands has the goroutines with a destination that cannot fail.  Here: both.

Modelling decisions
  * (both in Lemmas/Sink) `Dest` = `failFrom k` (every write call from the k-th on fails) | `failOnce k` (only the k-th)
    | `ok`; calls are numbered from 1.  `Sink` = text accepted so far, number of calls made (the failed one included),
    `failed`.
  * every call is CHECKED (`Sink.put`): after a failed call no further call is made.  A failing call leaves nothing
    at the destination (a short write would add a prefix of that one chunk and nothing else).
  * the writer `FW` = the pending map and counter of `TextW` + the sink.  ONE call for the header, made in `init`
    (`FW.start`).  `Model.Sched.Cfg.init` cannot fail, so a failed header write sets `failed` and is reported by the
    first loop body (`FW.absorb`) or, when no record arrives, by `FW.finish`: the report is delayed, never lost (main
    may therefore return another goroutine's error first; that is an error too).  This is NOT what the Go writers do:
    `writeOutput` (pkg/snps/snps.go) and `WriteVariants` (pkg/variants/variants.go) send the error of the header call on
    cErr and return at once, before their loop.  Section (B) below - the header write at once, from the start states of
    Lemmas/SchedHdrStart and SchedChainHdrStart - is the faithful model; (1)-(3) about `Reach` are the delayed one.
  * per flushed record y one call per element of `chunks y` (snps, updown list: one; variants: `name,` then
    `mutations\n`, and no call at all for the record named like the reference).  W = `nCalls chunks ys` =
    1 + the number of chunks of the results ys; = 1 + w * n when every record has w chunks (`nCalls_uniform`).
  * `FW.absorb` returns `.error e` exactly when a call of this loop body failed (or an earlier failure is pending):
    the writer sends e on cErr and returns, as Model/Sched treats a writer that fails in absorb.

What is proved, for both models (and in Lemmas/SchedFaults for each command):
  (1) a fault at one of the W calls of the run is reported on every schedule (`fault_reported`), as the write error when
      nothing else fails (`fault_maximal_run_write_error`);
  (2) a nil return means that every call succeeded and the sequential text was accepted (`fault_beyond_run_harmless`);
  (3) in every reachable state the accepted text is the fault-free call sequence cut at a call boundary
      (`written_is_prefix`);
  (4) with one unchecked call site the failure is lost (namespace `Unchecked`);
  (B) for the header write at once, here what does not need the start states: `FWSpec.finish_init` and
      `FWSpec.header_fault_immediate` (when the first call fails no record text is ever presented to the destination);
      (1)-(3) from the header-first start are in Lemmas/SchedHdrStart and SchedChainHdrStart.
`FWSpec` states (1) and (2) once, for a run of either model (`Sound` of Lemmas/SchedRun), and (3) is
`Sound.written_is_prefix`, for any writer; `FWJob` is a command with this writer (W calls, text `out`), with (1) and (2)
in the command's terms.
The namespace is shared with Lemmas/SchedFaults because the full names of these statements are referred to from outside
the Lean sources.
-/
set_option autoImplicit false

namespace Gofasta.Lemmas.SchedFaults
open Gofasta Gofasta.Model
open Gofasta.Model.Sched (absorbAll)
open Gofasta.Lemmas.SchedCommands Gofasta.Lemmas.SchedRun
open Gofasta.Lemmas.Outcome (Complete)
open Gofasta.Lemmas.Sched (outputs_exist map_ok_length run_eq_of_indexed arrival_indexed)

variable {α β ε : Type}

/-- state of a writer goroutine of the shape of snps.writeOutput, updown/list.writeOutput, variants.WriteVariants
whose destination may fail: the pending map with its counter (`ro`, as in `TextW`) and the sink -/
structure FW (β : Type) where
  ro : Reorder.St β
  sink : Sink

/-- before the loop: ONE write call for the header; the counter starts at k -/
def FW.start (d : Dest) (header : String) (k : Nat) : FW β := ⟨⟨[], k, []⟩, Sink.put d Sink.empty header⟩

/-- the loop body as a total function; `chunks y`: the strings passed to the write calls for the record y, in order -/
def FW.step (d : Dest) (chunks : β → List String) (k : Nat) (st : FW β) (r : Nat × β) : FW β :=
  let ro' := Reorder.recv st.ro (shiftIdx k r)
  ⟨ro', Sink.putAll d st.sink ((ro'.out.drop st.ro.out.length).flatMap chunks)⟩

/-- the loop body of the concurrency model: every call is checked, a failed call sends `e` on cErr -/
def FW.absorb (d : Dest) (chunks : β → List String) (k : Nat) (e : ε) (st : FW β) (r : Nat × β) : Except ε (FW β) :=
  if (FW.step d chunks k st r).sink.failed then .error e else .ok (FW.step d chunks k st r)

/-- after the loop: nothing more is written; a header failure not yet reported (no record arrived) is reported now -/
def FW.finish (e : ε) (st : FW β) : Except ε (FW β) := if st.sink.failed then .error e else .ok st

/-- the write calls of the fault-free run on the results ys -/
def callSeq (header : String) (chunks : β → List String) (ys : List β) : List String := header :: ys.flatMap chunks

def nCalls (chunks : β → List String) (ys : List β) : Nat := 1 + (ys.flatMap chunks).length

theorem callSeq_length (header : String) (chunks : β → List String) (ys : List β) :
    (callSeq header chunks ys).length = nCalls chunks ys :=
  Nat.add_comm _ 1

theorem nCalls_uniform (chunks : β → List String) (w : Nat) (hw : ∀ y, (chunks y).length = w) (ys : List β) :
    nCalls chunks ys = 1 + w * ys.length := by
  have h : (ys.flatMap chunks).length = w * ys.length := by
    induction ys with
    | nil => rfl
    | cons y t ih => rw [List.flatMap_cons, List.length_append, hw, ih, List.length_cons, Nat.mul_succ, Nat.add_comm]
  rw [nCalls, h]

theorem callSeq_map_singleton {γ : Type} (header : String) (f : β → String) (g : γ → β) (l : List γ) :
    callSeq header (fun y => [f y]) (l.map g) = header :: l.map fun x => f (g x) := by
  rw [callSeq, List.flatMap_map]
  exact congrArg _ List.map_eq_flatMap.symm

theorem join_callSeq (header : String) (chunks : β → List String) (ys : List β) :
    String.join (callSeq header chunks ys) = header ++ String.join (ys.map fun y => String.join (chunks y)) := by
  rw [callSeq, String.join_cons]
  congr 1
  induction ys with
  | nil => rfl
  | cons y t ih => rw [List.flatMap_cons, List.map_cons, String.join_append, String.join_cons, ih]

theorem FW.step_ro (d : Dest) (chunks : β → List String) (k : Nat) (st : FW β) (r : Nat × β) :
    (FW.step d chunks k st r).ro = Reorder.recv st.ro (shiftIdx k r) := rfl

/-- the writer's state after the arrival sequence `recs` (whether or not a call failed on the way) -/
def fwAfter (d : Dest) (chunks : β → List String) (header : String) (k : Nat) (recs : List (Nat × β)) : FW β :=
  recs.foldl (FW.step d chunks k) (FW.start d header k)

theorem fwAfter_out (d : Dest) (chunks : β → List String) (header : String) (k : Nat) (recs : List (Nat × β)) :
    (fwAfter d chunks header k recs).ro.out = Reorder.run recs :=
  foldl_ro_out FW.ro _ k (FW.step_ro d chunks k) recs _ rfl

theorem fwAfter_sink (d : Dest) (chunks : β → List String) (header : String) (k : Nat) (recs : List (Nat × β)) :
    (fwAfter d chunks header k recs).sink = Sink.putAll d Sink.empty (callSeq header chunks (Reorder.run recs)) :=
  foldl_ro_acc FW.ro FW.sink (fun s l => Sink.putAll d s (l.flatMap chunks)) _ k (FW.step_ro d chunks k) (fun _ _ => rfl)
    (fun a l l' => by rw [List.flatMap_append, Sink.putAll_append]) recs _ rfl rfl

theorem fwAfter_snoc (d : Dest) (chunks : β → List String) (header : String) (k : Nat) (l : List (Nat × β))
    (r : Nat × β) : fwAfter d chunks header k (l ++ [r]) = FW.step d chunks k (fwAfter d chunks header k l) r := by
  rw [fwAfter, List.foldl_append]
  rfl

theorem absorbAll_fw {absorb : FW β → Nat × β → Except ε (FW β)} {d : Dest} {chunks : β → List String} {k : Nat} {e : ε}
    (habs : ∀ st r, absorb st r = FW.absorb d chunks k e st r) :
    ∀ (recs : List (Nat × β)) (st st' : FW β), absorbAll absorb st recs = .ok st' →
      st' = recs.foldl (FW.step d chunks k) st
  | [], _, _, h => (Except.ok.inj h).symm
  | r :: t, st, st', h => by
    rw [absorbAll, habs, FW.absorb] at h
    by_cases hf : (FW.step d chunks k st r).sink.failed = true
    · rw [if_pos hf] at h; cases h
    · rw [if_neg hf] at h; exact absorbAll_fw habs t _ _ h

theorem callSeq_take (header : String) (chunks : β → List String) (l : List β) (c : Nat) :
    ∃ m, callSeq header chunks (l.take c) = (callSeq header chunks l).take m := by
  have h : l.flatMap chunks = (l.take c).flatMap chunks ++ (l.drop c).flatMap chunks := by
    rw [← List.flatMap_append, List.take_append_drop]
  exact ⟨((l.take c).flatMap chunks).length + 1, by rw [callSeq, callSeq, h, List.take_succ_cons, List.take_left' rfl]⟩

theorem fwAfter_sink_prefix {items : List α} {F : α → Except ε β} {recs : List (Nat × β)}
    (d : Dest) (chunks : β → List String) (header : String) (k : Nat)
    (hnd : (recs.map Prod.fst).Nodup)
    (hgood : ∀ r ∈ recs, ∃ x, items[r.1]? = some x ∧ F x = .ok r.2) :
    ∃ m, (fwAfter d chunks header k recs).sink =
      Sink.putAll d Sink.empty ((callSeq header chunks (goodPrefix F items)).take m) := by
  obtain ⟨c, hc⟩ := run_partial (items := items) (F := F) hnd hgood
  obtain ⟨m, hm⟩ := callSeq_take header chunks (goodPrefix F items) c
  exact ⟨m, by rw [fwAfter_sink, hc, hm]⟩

/-- **the accepted text is the fault-free call sequence cut at a call boundary**: header, then the records 0, 1, 2, ...
that the workers accept, whole or cut between two calls -/
theorem fwAfter_text_prefix {items : List α} {F : α → Except ε β} {recs : List (Nat × β)}
    (d : Dest) (chunks : β → List String) (header : String) (k : Nat)
    (hnd : (recs.map Prod.fst).Nodup)
    (hgood : ∀ r ∈ recs, ∃ x, items[r.1]? = some x ∧ F x = .ok r.2) :
    ∃ j, (fwAfter d chunks header k recs).sink.text =
      String.join ((callSeq header chunks (goodPrefix F items)).take j) := by
  obtain ⟨m, hm⟩ := fwAfter_sink_prefix (items := items) (F := F) d chunks header k hnd hgood
  obtain ⟨j, _, hj⟩ := sink_text_take d ((callSeq header chunks (goodPrefix F items)).take m)
  exact ⟨min j m, by rw [hm, hj, List.take_take]⟩

theorem fwAfter_not_failed {items : List α} {F : α → Except ε β} {recs : List (Nat × β)}
    (d : Dest) (chunks : β → List String) (header : String) (k : Nat)
    (hnd : (recs.map Prod.fst).Nodup)
    (hgood : ∀ r ∈ recs, ∃ x, items[r.1]? = some x ∧ F x = .ok r.2)
    (hd : ∀ i, 1 ≤ i → i ≤ nCalls chunks (goodPrefix F items) → d.fails i = false) :
    (fwAfter d chunks header k recs).sink.failed = false := by
  obtain ⟨m, hm⟩ := fwAfter_sink_prefix (items := items) (F := F) d chunks header k hnd hgood
  cases hf : (fwAfter d chunks header k recs).sink.failed with
  | false => rfl
  | true =>
    rw [hm] at hf
    obtain ⟨h1, h2, h3, _, _⟩ := (sinkInv_all d _).bad hf
    rw [List.length_take, callSeq_length] at h2
    exact nomatch h3.symm.trans (hd _ h1 (Nat.le_trans h2 (Nat.min_le_right _ _)))

/-- the writer of `J` is the failing text writer; e: the error sent on cErr when a call fails -/
structure FWSpec (J : Job α β ε (FW β)) (d : Dest) (chunks : β → List String) (header : String) (k0 : Nat) (e : ε) :
    Prop where
  habs : ∀ st r, J.absorb st r = FW.absorb d chunks k0 e st r
  hfin : ∀ st, J.finish st = FW.finish e st
  hinit : J.init = FW.start d header k0

section spec
variable {J : Job α β ε (FW β)} {wst : FW β} {d : Dest} {chunks : β → List String} {header : String}
  {k0 : Nat} {e e' : ε}

theorem FWSpec.finish_error (h : FWSpec J d chunks header k0 e) (he : J.finish wst = .error e') :
    e' = e ∧ wst.sink.failed = true := by
  rw [h.hfin, FW.finish] at he
  split at he
  · exact ⟨(Except.error.inj he).symm, ‹_›⟩
  · cases he

theorem FWSpec.absorb_error (h : FWSpec J d chunks header k0 e) {r : Nat × β}
    (he : J.absorb wst r = .error e') : e' = e ∧ (FW.step d chunks k0 wst r).sink.failed = true := by
  rw [h.habs, FW.absorb] at he
  split at he
  · exact ⟨(Except.error.inj he).symm, ‹_›⟩
  · cases he

theorem FWSpec.absorbAll_ok (h : FWSpec J d chunks header k0 e) {recs : List (Nat × β)}
    (hfold : absorbAll J.absorb J.init recs = .ok wst) : wst = fwAfter d chunks header k0 recs :=
  absorbAll_fw h.habs recs _ _ (h.hinit ▸ hfold)

theorem FWSpec.finish_ok (h : FWSpec J d chunks header k0 e) {recs : List (Nat × β)}
    (hf : ∃ st, absorbAll J.absorb J.init recs = .ok st ∧ J.finish st = .ok wst) :
    wst = fwAfter d chunks header k0 recs ∧ wst.sink.failed = false := by
  obtain ⟨st, hfold, hfin'⟩ := hf
  rw [h.hfin, FW.finish] at hfin'
  split at hfin'
  · cases hfin'
  · cases hfin'
    exact ⟨h.absorbAll_ok hfold, Bool.eq_false_iff.mpr ‹_›⟩

theorem FWSpec.complete (h : FWSpec J d chunks header k0 e)
    (hc : Complete J.items J.F J.absorb J.finish J.init wst) :
    ∃ ys : List β, J.items.map J.F = ys.map Except.ok ∧
      wst.sink = Sink.putAll d Sink.empty (callSeq header chunks ys) ∧ wst.sink.failed = false := by
  obtain ⟨ys, hys⟩ := outputs_exist hc.all_ok
  obtain ⟨recs, hperm, hgood, hf⟩ := hc
  obtain ⟨hp, hg⟩ := arrival_indexed hys hperm hgood
  obtain ⟨hw, hnf⟩ := h.finish_ok hf
  exact ⟨ys, hys, by rw [hw, fwAfter_sink, run_eq_of_indexed hp hg], hnf⟩

variable {arrival : List (Nat × β)}

theorem FWSpec.failing (h : FWSpec J d chunks header k0 e) (hh : AtErr J wst arrival e') :
    e' = e ∧ (fwAfter d chunks header k0 arrival).sink.failed = true ∧
    ((∃ l r, arrival = l ++ [r] ∧ fwAfter d chunks header k0 arrival = FW.step d chunks k0 wst r) ∨
      fwAfter d chunks header k0 arrival = wst) := by
  rcases hh with ⟨l, r, rfl, hfold, hab⟩ | ⟨_, hfold, hfin'⟩
  · obtain ⟨he, hf⟩ := h.absorb_error hab
    have hst : fwAfter d chunks header k0 (l ++ [r]) = FW.step d chunks k0 wst r := by
      rw [fwAfter_snoc, ← h.absorbAll_ok hfold]
    exact ⟨he, hst ▸ hf, Or.inl ⟨l, r, rfl, hst⟩⟩
  · obtain ⟨he, hf⟩ := h.finish_error hfin'
    exact ⟨he, h.absorbAll_ok hfold ▸ hf, Or.inr (h.absorbAll_ok hfold).symm⟩

end spec

section run
variable {σ : Type} {J : Job α β ε (FW β)} {o : Obs β ε (FW β)} {d : Dest} {chunks : β → List String}
  {header : String} {k0 : Nat} {e : ε}

/-- **(3)**, for any writer: `fwAfter_text_prefix` for the arrivals so far, that is, for the text that the failing text
writer would have accepted from them -/
theorem _root_.Gofasta.Lemmas.SchedRun.Sound.written_is_prefix {J : Job α β ε σ} {o : Obs β ε σ} (so : Sound J o) (d : Dest)
    (chunks : β → List String) (header : String) (k0 : Nat) :
    ∃ j, (fwAfter d chunks header k0 o.arrival).sink.text =
      String.join ((callSeq header chunks (goodPrefix J.F J.items)).take j) :=
  fwAfter_text_prefix d chunks header k0 so.nodup so.good

theorem _root_.Gofasta.Lemmas.SchedRun.Sound.written_is_prefix_ok {J : Job α β ε σ} {o : Obs β ε σ} (so : Sound J o) (d : Dest)
    (chunks : β → List String) (header : String) (k0 : Nat) {ys : List β} (hys : J.items.map J.F = ys.map Except.ok) :
    ∃ j, (fwAfter d chunks header k0 o.arrival).sink.text = String.join ((callSeq header chunks ys).take j) :=
  goodPrefix_all_ok hys ▸ so.written_is_prefix d chunks header k0

variable (h : FWSpec J d chunks header k0 e) (so : Sound J o)
include h so

/-- **(1)**: the destination fails some call k ≤ W - the k-th write call is made before the writer can finish -: main
does not return nil.  `hkW` bounds k only when every item is accepted; otherwise it holds vacuously and a worker's error
is what is reported -/
theorem FWSpec.reported (hN : J.staffed) (k : Nat) (hk1 : 1 ≤ k) (hd : d.fails k = true)
    (hkW : ∀ ys, J.items.map J.F = ys.map Except.ok → k ≤ nCalls chunks ys) : ¬ o.ret none := by
  intro hm
  obtain ⟨ys, hys, hs, hf⟩ := h.complete (so.complete hN hm)
  rw [hs, sink_fails d _ k hk1 (callSeq_length header chunks ys ▸ hkW ys hys) hd] at hf
  cases hf

/-- **(2)**: whatever the destination, when main has returned nil every item was accepted, every one of the W calls of
the run succeeded, and the text accepted is the sequential text -/
theorem FWSpec.harmless (hN : J.staffed) (hm : o.ret none) :
    ∃ ys : List β, J.items.map J.F = ys.map Except.ok ∧
      o.wst.sink.text = header ++ String.join (ys.map fun y => String.join (chunks y)) ∧
      o.wst.sink.failed = false ∧ o.wst.sink.calls = nCalls chunks ys ∧
      ∀ i, 1 ≤ i → i ≤ nCalls chunks ys → d.fails i = false := by
  obtain ⟨ys, hys, hs, hf⟩ := h.complete (so.complete hN hm)
  have hinv := sinkInv_all d (callSeq header chunks ys)
  rw [← hs] at hinv
  obtain ⟨h1, h2, h3⟩ := hinv.good hf
  rw [callSeq_length] at h2 h3
  exact ⟨ys, hys, by rw [h1, join_callSeq], hf, h2, h3⟩

theorem FWSpec.accepted_eq_wst (hw : ∀ e', o.writer ≠ .errS e') :
    (fwAfter d chunks header k0 o.arrival).sink.text = o.wst.sink.text := by
  cases hwr : o.writer with
  | errS e' => exact absurd hwr (hw e')
  | recv => rw [← h.absorbAll_ok (so.loop hwr)]
  | doneS => rw [← (h.finish_ok (so.done (.inl hwr)).2).1]
  | exited => rw [← (h.finish_ok (so.done (.inr hwr)).2).1]

/-- the writer at `cErr <- err`: the failing loop body ran on the last arrival (its partial effect is what the arrivals
show; `wst` is the state before it), or `finish` found a failure not yet reported -/
theorem FWSpec.accepted_failing {e' : ε} (hw : o.writer = .errS e') :
    (∃ l r, o.arrival = l ++ [r] ∧
      (fwAfter d chunks header k0 o.arrival).sink.text = (FW.step d chunks k0 o.wst r).sink.text ∧
      (FW.step d chunks k0 o.wst r).sink.failed = true) ∨
    ((fwAfter d chunks header k0 o.arrival).sink.text = o.wst.sink.text ∧ o.wst.sink.failed = true) := by
  obtain ⟨_, hf, ⟨l, r, h1, h2⟩ | h2⟩ := h.failing (so.wErr e' hw)
  · exact Or.inl ⟨l, r, h1, congrArg (·.sink.text) h2, h2 ▸ hf⟩
  · exact Or.inr ⟨congrArg (·.sink.text) h2, h2 ▸ hf⟩

/-- **(1) and (2), which outcome**: reader and workers do not fail and main has returned: nil, with the sequential
text accepted, when no call of the run fails (`ok`, or k > W); THE WRITE ERROR e when one does -/
theorem FWSpec.outcome (hN : J.staffed) (hrf : J.readFail = none) {ys : List β}
    (hys : J.items.map J.F = ys.map Except.ok) (hret : ∃ r, o.ret r) :
    ((∀ i, 1 ≤ i → i ≤ nCalls chunks ys → d.fails i = false) →
      o.ret none ∧ o.wst.sink.text = header ++ String.join (ys.map fun y => String.join (chunks y))) ∧
    (∀ k, 1 ≤ k → k ≤ nCalls chunks ys → d.fails k = true → o.ret (some e)) := by
  obtain ⟨r, hm⟩ := hret
  cases r with
  | none =>
    obtain ⟨ys', hys', htext, _, _, hok⟩ := h.harmless so hN hm
    cases map_ok_inj (hys'.symm.trans hys)
    exact ⟨fun _ => ⟨hm, htext⟩, fun k hk1 hkW hd => nomatch (hok k hk1 hkW).symm.trans hd⟩
  | some e' =>
    -- main has returned an error; it is not the reader's and not a worker's, and the writer's only error is e
    obtain ⟨he, hf, _⟩ := h.failing (so.wErr e' (so.writer_error hrf (all_ok_of_map hys) hm))
    refine ⟨fun hd => ?_, fun _ _ _ _ => he ▸ hm⟩
    exact nomatch (fwAfter_not_failed d chunks header k0 so.nodup so.good (goodPrefix_all_ok hys ▸ hd)).symm.trans hf

end run

/-! ## (B) the header write at once: when the header call of `FW.start` fails the writer sits at `cErr <- err` without
having received anything (`HdrSound` of Lemmas/SchedRun) -/

section hdrFWrun
variable {J : Job α β ε (FW β)} {o : Obs β ε (FW β)} {d : Dest} {chunks : β → List String} {header : String}
  {k0 : Nat} {e : ε} (hs : FWSpec J d chunks header k0 e)
include hs

theorem FWSpec.finish_init (hd : d.fails 1 = true) : J.finish J.init = .error e := by
  rw [hs.hfin, hs.hinit]
  simp only [FW.finish, FW.start, put_header_failed header hd, if_true]

variable (h : HdrSound J e (d.fails 1) o)
include h

theorem FWSpec.header_fault_immediate (hd : d.fails 1 = true) :
    o.arrival = [] ∧ o.writer = .errS e ∧ o.wst.sink = ⟨"", 1, true⟩ ∧
      (fwAfter d chunks header k0 o.arrival).sink.text = "" ∧ ¬ o.ret none := by
  rcases h with ⟨h1, _⟩ | ⟨_, h⟩
  · exact nomatch hd.symm.trans h1
  · have hsink : (FW.start d header k0 : FW β).sink = ⟨"", 1, true⟩ := put_header_failed header hd
    refine ⟨h.arrival, h.writer, by rw [h.wst, hs.hinit]; exact hsink, ?_, h.notNil⟩
    rw [h.arrival]
    exact congrArg Sink.text hsink

end hdrFWrun

section onePool
open Gofasta.Model.Sched Gofasta.Lemmas.Sched

/-- `FWSpec (job cfg) d chunks header k0 e` (`IsFW.spec`), for a configuration of the one-pool model -/
structure IsFW (cfg : Cfg α β ε (FW β)) (d : Dest) (chunks : β → List String) (header : String) (k0 : Nat) (e : ε) :
    Prop where
  habs : ∀ st r, cfg.absorb st r = FW.absorb d chunks k0 e st r
  hfin : ∀ st, cfg.finish st = FW.finish e st
  hinit : cfg.init = FW.start d header k0

variable {cfg : Cfg α β ε (FW β)} {s : State α β ε (FW β)} {d : Dest} {chunks : β → List String}
  {header : String} {k0 : Nat} {e : ε}

theorem IsFW.spec (h : IsFW cfg d chunks header k0 e) : FWSpec (job cfg) d chunks header k0 e :=
  ⟨h.habs, h.hfin, h.hinit⟩

theorem fault_reported' (h : IsFW cfg d chunks header k0 e) (hN : 1 ≤ cfg.N) (k : Nat) (hk1 : 1 ≤ k)
    (hd : d.fails k = true) (hkW : ∀ ys, cfg.items.map cfg.f = ys.map Except.ok → k ≤ nCalls chunks ys)
    (hr : Reach cfg s) : s.main ≠ .ret none :=
  h.spec.reported (sound hr) hN k hk1 hd hkW

theorem fault_reported (h : IsFW cfg d chunks header k0 e) (hN : 1 ≤ cfg.N) (k : Nat)
    (hd : d = .failFrom k ∨ d = .failOnce k) (hk1 : 1 ≤ k)
    (hkW : ∀ ys, cfg.items.map cfg.f = ys.map Except.ok → k ≤ nCalls chunks ys)
    (hr : Reach cfg s) : s.main ≠ .ret none :=
  fault_reported' h hN k hk1 (Dest.fails_of_at hd) hkW hr

theorem fault_reported_uniform (h : IsFW cfg d chunks header k0 e) (hN : 1 ≤ cfg.N) (w : Nat)
    (hw : ∀ y, (chunks y).length = w) (k : Nat) (hd : d = .failFrom k ∨ d = .failOnce k) (hk1 : 1 ≤ k)
    (hkW : k ≤ 1 + w * cfg.items.length) (hr : Reach cfg s) : s.main ≠ .ret none :=
  fault_reported h hN k hd hk1 (fun ys hys => by rw [nCalls_uniform chunks w hw, map_ok_length hys]; exact hkW) hr

theorem fault_runSchedule (h : IsFW cfg d chunks header k0 e) (hN : 1 ≤ cfg.N) (k : Nat)
    (hd : d = .failFrom k ∨ d = .failOnce k) (hk1 : 1 ≤ k)
    (hkW : ∀ ys, cfg.items.map cfg.f = ys.map Except.ok → k ≤ nCalls chunks ys)
    (sched : List Nat) (hlen : μ cfg (init cfg) ≤ sched.length) :
    ∃ e', (runSchedule cfg sched).main = .ret (some e') :=
  (obs (runSchedule cfg sched)).returned_error (runSchedule_returns hN sched hlen)
    (fault_reported h hN k hd hk1 hkW (runSchedule_reach cfg sched))

theorem fault_beyond_run_harmless (h : IsFW cfg d chunks header k0 e) (hN : 1 ≤ cfg.N)
    (hr : Reach cfg s) (hm : s.main = .ret none) :
    ∃ ys : List β, cfg.items.map cfg.f = ys.map Except.ok ∧
      s.wst.sink.text = header ++ String.join (ys.map fun y => String.join (chunks y)) ∧
      s.wst.sink.failed = false ∧ s.wst.sink.calls = nCalls chunks ys ∧
      ∀ i, 1 ≤ i → i ≤ nCalls chunks ys → d.fails i = false :=
  h.spec.harmless (sound hr) hN hm

/-- the text the destination has accepted so far, in ANY state (also when the writer sits at `cErr <- err`, where
`wst` is still the state before the failing loop body): what the loop bodies executed so far have left there -/
def accepted (d : Dest) (chunks : β → List String) (header : String) (k0 : Nat) (s : State α β ε (FW β)) : String :=
  (fwAfter d chunks header k0 s.arrival).sink.text

theorem accepted_eq (d : Dest) (chunks : β → List String) (header : String) (k0 : Nat) (s : State α β ε (FW β)) :
    accepted d chunks header k0 s = (fwAfter d chunks header k0 (obs s).arrival).sink.text := rfl

/-- `accepted` is computed from `s.arrival`, for any `cfg`; it is the text of `s.wst.sink` only for the writer `FW`
(`accepted_eq_wst`, `accepted_failing`) -/
theorem written_is_prefix (d : Dest) (chunks : β → List String) (header : String) (k0 : Nat) (hr : Reach cfg s) :
    ∃ j, accepted d chunks header k0 s =
      String.join ((callSeq header chunks (goodPrefix cfg.f cfg.items)).take j) :=
  accepted_eq d chunks header k0 s ▸ (sound hr).written_is_prefix d chunks header k0

theorem accepted_eq_wst (h : IsFW cfg d chunks header k0 e) (hr : Reach cfg s) (hw : ∀ e', s.writer ≠ .errS e') :
    accepted d chunks header k0 s = s.wst.sink.text :=
  accepted_eq d chunks header k0 s ▸ h.spec.accepted_eq_wst (sound hr) hw

/-- `FWSpec.accepted_failing` for one pool (`finish` finds a failure not yet reported when the header write had failed
and no record ever arrived) -/
theorem accepted_failing (h : IsFW cfg d chunks header k0 e) (hr : Reach cfg s) {e' : ε}
    (hw : s.writer = .errS e') :
    (∃ l r, s.arrival = l ++ [r] ∧ accepted d chunks header k0 s = (FW.step d chunks k0 s.wst r).sink.text ∧
      (FW.step d chunks k0 s.wst r).sink.failed = true) ∨
    (accepted d chunks header k0 s = s.wst.sink.text ∧ s.wst.sink.failed = true) :=
  accepted_eq d chunks header k0 s ▸ h.spec.accepted_failing (sound hr) hw

theorem fault_beyond_run_maximal (h : IsFW cfg d chunks header k0 e) (hN : 1 ≤ cfg.N) (hrf : cfg.readFail = none)
    {ys : List β} (hys : cfg.items.map cfg.f = ys.map Except.ok)
    (hd : ∀ i, 1 ≤ i → i ≤ nCalls chunks ys → d.fails i = false)
    (hr : Reach cfg s) (hstuck : enabled cfg s = []) :
    s.main = .ret none ∧ s.wst.sink.text = header ++ String.join (ys.map fun y => String.join (chunks y)) :=
  (h.spec.outcome (sound hr) hN hrf hys (maximal_run_returned hN hr hstuck)).1 hd

theorem fault_maximal_run_write_error (h : IsFW cfg d chunks header k0 e) (hN : 1 ≤ cfg.N) (hrf : cfg.readFail = none)
    {ys : List β} (hys : cfg.items.map cfg.f = ys.map Except.ok) (k : Nat)
    (hd : d = .failFrom k ∨ d = .failOnce k) (hk1 : 1 ≤ k) (hkW : k ≤ nCalls chunks ys)
    (hr : Reach cfg s) (hstuck : enabled cfg s = []) : s.main = .ret (some e) :=
  (h.spec.outcome (sound hr) hN hrf hys (maximal_run_returned hN hr hstuck)).2 k hk1 hkW (Dest.fails_of_at hd)

end onePool

/-- what main can return: an error of the command itself (reader, worker) or the error of a failed write -/
inductive RunErr where
  | cmd (e : CmdErr)
  | write
  deriving DecidableEq, Repr

def liftW (F : α → Except CmdErr β) (x : α) : Except RunErr β :=
  match F x with
  | .ok y => .ok y
  | .error e => .error (.cmd e)

theorem liftW_ok {F : α → Except CmdErr β} {x : α} {y : β} : liftW F x = .ok y ↔ F x = .ok y := by
  unfold liftW
  cases F x with
  | ok y' => simp
  | error e => simp

theorem map_liftW_ok {F : α → Except CmdErr β} : ∀ {items : List α} {ys : List β},
    items.map (liftW F) = ys.map Except.ok ↔ items.map F = ys.map Except.ok := by
  intro items
  induction items with
  | nil => intro ys; cases ys <;> simp
  | cons a t ih =>
    intro ys
    cases ys with
    | nil => simp
    | cons y ys' => simp only [List.map_cons, List.cons.injEq, liftW_ok, ih]

theorem liftW_all_ok {F : α → Except CmdErr β} {items : List α} (h : ∀ x ∈ items, ∃ y, F x = .ok y) :
    ∀ x ∈ items, ∃ y, liftW F x = .ok y :=
  fun x hx => (h x hx).imp fun _ => liftW_ok.mpr

theorem liftW_outputs {F : α → Except CmdErr β} {items : List α} (h : ∀ x ∈ items, ∃ y, F x = .ok y) :
    ∃ ys : List β, items.map (liftW F) = ys.map Except.ok :=
  outputs_exist (liftW_all_ok h)

section cmd

/-- a command with the failing text writer: whenever every item is accepted the fault-free run makes W write calls
and its text is `out` -/
structure FWJob {β : Type} (J : Job α β RunErr (FW β)) (d : Dest) (chunks : β → List String) (header : String)
    (k0 W : Nat) (out : String) : Prop extends FWSpec J d chunks header k0 .write where
  calls : ∀ {ys : List β}, J.items.map J.F = ys.map Except.ok → nCalls chunks ys = W
  text : ∀ {ys : List β}, J.items.map J.F = ys.map Except.ok →
    header ++ String.join (ys.map fun y => String.join (chunks y)) = out

variable {β : Type} {J : Job α β RunErr (FW β)} {o : Obs β RunErr (FW β)} {d : Dest} {chunks : β → List String}
  {header : String} {k0 W : Nat} {out : String}

theorem FWJob.reported (h : FWJob J d chunks header k0 W out) (so : Sound J o) (hN : J.staffed) (k : Nat)
    (hd : d = .failFrom k ∨ d = .failOnce k) (hk1 : 1 ≤ k) (hkW : k ≤ W) : ¬ o.ret none :=
  h.toFWSpec.reported so hN k hk1 (Dest.fails_of_at hd) (fun _ hys => h.calls hys ▸ hkW)

theorem FWJob.harmless (h : FWJob J d chunks header k0 W out) (so : Sound J o) (hN : J.staffed) (hm : o.ret none) :
    o.wst.sink.text = out ∧ o.wst.sink.calls = W ∧ ∀ i, 1 ≤ i → i ≤ W → d.fails i = false := by
  obtain ⟨ys, hys, htext, _, hcalls, hok⟩ := h.toFWSpec.harmless so hN hm
  exact ⟨htext.trans (h.text hys), h.calls hys ▸ hcalls, h.calls hys ▸ hok⟩

theorem FWJob.outcome (h : FWJob J d chunks header k0 W out) (so : Sound J o) (hN : J.staffed)
    (hrf : J.readFail = none) (hok : ∃ ys : List β, J.items.map J.F = ys.map Except.ok) (hret : ∃ r, o.ret r) :
    ((∀ i, 1 ≤ i → i ≤ W → d.fails i = false) → o.ret none ∧ o.wst.sink.text = out) ∧
    (∀ k, (d = .failFrom k ∨ d = .failOnce k) → 1 ≤ k → k ≤ W → o.ret (some .write)) := by
  obtain ⟨ys, hys⟩ := hok
  obtain ⟨h1, h2⟩ := h.toFWSpec.outcome so hN hrf hys hret
  rw [h.calls hys, h.text hys] at h1
  exact ⟨h1, fun k hd hk1 hkW => h2 k hk1 (h.calls hys ▸ hkW) (Dest.fails_of_at hd)⟩

end cmd

section chain
open Gofasta.Model.SchedChain Gofasta.Lemmas.SchedChain

variable {γ : Type}

structure IsFWc (cfg : Cfg γ ε (FW γ)) (d : Dest) (chunks : γ → List String) (header : String) (k0 : Nat) (e : ε) :
    Prop where
  habs : ∀ st r, cfg.absorb st r = FW.absorb d chunks k0 e st r
  hfin : ∀ st, cfg.finish st = FW.finish e st
  hinit : cfg.init = FW.start d header k0

variable {cfg : Cfg γ ε (FW γ)} {s : State γ ε (FW γ)} {d : Dest} {chunks : γ → List String}
  {header : String} {k0 : Nat} {e : ε}

theorem IsFWc.spec (h : IsFWc cfg d chunks header k0 e) : FWSpec (chainJob cfg) d chunks header k0 e :=
  ⟨h.habs, h.hfin, h.hinit⟩

theorem chain_fault_reported (h : IsFWc cfg d chunks header k0 e) (hN : ∀ P ∈ cfg.pools, 1 ≤ P.N) (k : Nat)
    (hd : d = .failFrom k ∨ d = .failOnce k) (hk1 : 1 ≤ k)
    (hkW : ∀ ys, cfg.items.map (pass cfg.pools) = ys.map Except.ok → k ≤ nCalls chunks ys)
    (hr : Reach cfg s) : s.main ≠ .ret none :=
  h.spec.reported (chain_sound hr) hN k hk1 (Dest.fails_of_at hd) hkW

theorem chain_fault_reported_uniform (h : IsFWc cfg d chunks header k0 e) (hN : ∀ P ∈ cfg.pools, 1 ≤ P.N) (w : Nat)
    (hw : ∀ y, (chunks y).length = w) (k : Nat) (hd : d = .failFrom k ∨ d = .failOnce k) (hk1 : 1 ≤ k)
    (hkW : k ≤ 1 + w * cfg.items.length) (hr : Reach cfg s) : s.main ≠ .ret none :=
  chain_fault_reported h hN k hd hk1
    (fun ys hys => by rw [nCalls_uniform chunks w hw, map_ok_length hys]; exact hkW) hr

theorem chain_fault_beyond_run_harmless (h : IsFWc cfg d chunks header k0 e) (hN : ∀ P ∈ cfg.pools, 1 ≤ P.N)
    (hr : Reach cfg s) (hm : s.main = .ret none) :
    ∃ ys : List γ, cfg.items.map (pass cfg.pools) = ys.map Except.ok ∧
      s.wst.sink.text = header ++ String.join (ys.map fun y => String.join (chunks y)) ∧
      s.wst.sink.failed = false ∧ s.wst.sink.calls = nCalls chunks ys ∧
      ∀ i, 1 ≤ i → i ≤ nCalls chunks ys → d.fails i = false :=
  h.spec.harmless (chain_sound hr) hN hm

def chainAccepted (d : Dest) (chunks : γ → List String) (header : String) (k0 : Nat) (s : State γ ε (FW γ)) : String :=
  (fwAfter d chunks header k0 s.arrival).sink.text

theorem chainAccepted_eq (d : Dest) (chunks : γ → List String) (header : String) (k0 : Nat) (s : State γ ε (FW γ)) :
    chainAccepted d chunks header k0 s = (fwAfter d chunks header k0 (chainObs s).arrival).sink.text := rfl

theorem chain_written_is_prefix (d : Dest) (chunks : γ → List String) (header : String) (k0 : Nat)
    (hr : Reach cfg s) :
    ∃ j, chainAccepted d chunks header k0 s =
      String.join ((callSeq header chunks (goodPrefix (pass cfg.pools) cfg.items)).take j) :=
  chainAccepted_eq d chunks header k0 s ▸ (chain_sound hr).written_is_prefix d chunks header k0

theorem chainAccepted_eq_wst (h : IsFWc cfg d chunks header k0 e) (hr : Reach cfg s)
    (hw : ∀ e', s.writer ≠ .errS e') : chainAccepted d chunks header k0 s = s.wst.sink.text :=
  chainAccepted_eq d chunks header k0 s ▸ h.spec.accepted_eq_wst (chain_sound hr) hw

theorem chainAccepted_failing (h : IsFWc cfg d chunks header k0 e) (hr : Reach cfg s) {e' : ε}
    (hw : s.writer = .errS e') :
    (∃ l r, s.arrival = l ++ [r] ∧ chainAccepted d chunks header k0 s = (FW.step d chunks k0 s.wst r).sink.text ∧
      (FW.step d chunks k0 s.wst r).sink.failed = true) ∨
    (chainAccepted d chunks header k0 s = s.wst.sink.text ∧ s.wst.sink.failed = true) :=
  chainAccepted_eq d chunks header k0 s ▸ h.spec.accepted_failing (chain_sound hr) hw

theorem chain_fault_maximal_run_write_error (h : IsFWc cfg d chunks header k0 e) (hN : ∀ P ∈ cfg.pools, 1 ≤ P.N)
    (hrf : cfg.readFail = none) {ys : List γ} (hys : cfg.items.map (pass cfg.pools) = ys.map Except.ok) (k : Nat)
    (hd : d = .failFrom k ∨ d = .failOnce k) (hk1 : 1 ≤ k) (hkW : k ≤ nCalls chunks ys)
    (hr : Reach cfg s) (hstuck : enabled cfg s = []) : s.main = .ret (some e) :=
  (h.spec.outcome (chain_sound hr) hN hrf hys (chain_maximal_run_returned hN hr hstuck)).2 k hk1 hkW
    (Dest.fails_of_at hd)

end chain

/-! ## (4) the UNCHECKED variant: one call site of the loop body drops its error -/

namespace Unchecked
open Gofasta.Model.Sched

/-- the loop body with the call sites 1, 2, ... (site 0, the header write, is checked) -/
def stepU (d : Dest) (chunks : β → List String) (sites : Nat → Bool) (k : Nat) (st : FW β) (r : Nat × β) : FW β :=
  let ro' := Reorder.recv st.ro (shiftIdx k r)
  ⟨ro', (ro'.out.drop st.ro.out.length).foldl (fun s y => putSites d sites 1 s (chunks y)) st.sink⟩

def absorbU (d : Dest) (chunks : β → List String) (sites : Nat → Bool) (k : Nat) (e : ε) (st : FW β) (r : Nat × β) :
    Except ε (FW β) :=
  if (stepU d chunks sites k st r).sink.failed then .error e else .ok (stepU d chunks sites k st r)

theorem absorbU_checked (d : Dest) (chunks : β → List String) (k : Nat) (e : ε) (st : FW β) (r : Nat × β) :
    absorbU d chunks (fun _ => true) k e st r = FW.absorb d chunks k e st r := by
  have : stepU d chunks (fun _ => true) k st r = FW.step d chunks k st r := by
    simp only [stepU, FW.step, putSites_checked, foldl_putAll]
  simp only [absorbU, FW.absorb, this]

def demoChunks (y : String) : List String := [y ++ ",", "x\n"]

/-- `sites`: which sites of the loop body check -/
def demo (d : Dest) (sites : Nat → Bool) (items : List String) : Cfg String String RunErr (FW String) where
  items := items
  f := .ok
  N := 2
  capIn := 1
  capOut := 2
  readFail := none
  absorb := absorbU d demoChunks sites 0 .write
  finish := FW.finish .write
  init := FW.start d "h\n" 0

def site2Unchecked (j : Nat) : Bool := j != 2

/-- always the first enabled label; 40 exceeds μ(init) of both demos below (19 and 23), so the runs are maximal -/
def sched : List Nat := List.replicate 40 0

/-- **(4) the C19 violation**, mirroring `Props.C19.unchecked_loses` (`reportsFailure [true, true, false] 3 = false`):
header and one record = three calls, the third at the unchecked site; the destination fails from call 3 on.
Main returns nil, three calls were made, the third failed, the line is incomplete -/
theorem unchecked_loses :
    (runSchedule (demo (.failFrom 3) site2Unchecked ["a"]) sched).main = .ret none ∧
    (runSchedule (demo (.failFrom 3) site2Unchecked ["a"]) sched).wst.sink.calls = 3 ∧
    (Dest.failFrom 3).fails 3 = true ∧
    (runSchedule (demo (.failFrom 3) site2Unchecked ["a"]) sched).wst.sink.text = "h\na," ∧
    (runSchedule (demo .ok site2Unchecked ["a"]) sched).wst.sink.text = "h\na,x\n" := by
  decide +kernel

/-- the same with two records and a transient fault at call 3: the rest of the output is written, a line in the
middle has lost its second half, main returns nil -/
theorem unchecked_loses_middle :
    (runSchedule (demo (.failOnce 3) site2Unchecked ["a", "b"]) sched).main = .ret none ∧
    (runSchedule (demo (.failOnce 3) site2Unchecked ["a", "b"]) sched).wst.sink.calls = 5 ∧
    (runSchedule (demo (.failOnce 3) site2Unchecked ["a", "b"]) sched).wst.sink.text = "h\na,b,x\n" := by
  decide +kernel

/-- with every site checked the same schedules return the write error, as every maximal run does
(`fault_maximal_run_write_error`) -/
theorem checked_reports :
    (runSchedule (demo (.failFrom 3) (fun _ => true) ["a"]) sched).main = .ret (some .write) ∧
    (runSchedule (demo (.failOnce 3) (fun _ => true) ["a", "b"]) sched).main = .ret (some .write) := by
  decide +kernel

theorem demo_checked_isFW (d : Dest) (items : List String) :
    IsFW (demo d (fun _ => true) items) d demoChunks "h\n" 0 .write :=
  ⟨fun st r => absorbU_checked d demoChunks 0 RunErr.write st r, fun _ => rfl, rfl⟩

/-- the general theorem on the checked demo: NO schedule returns nil -/
example (sch : List Nat) : (runSchedule (demo (.failFrom 3) (fun _ => true) ["a"]) sch).main ≠ .ret none :=
  fault_reported_uniform (demo_checked_isFW _ _) (by decide +kernel) 2 (fun _ => rfl) 3 (Or.inl rfl) (by decide +kernel) (by decide +kernel)
    (Gofasta.Lemmas.Sched.runSchedule_reach _ sch)

end Unchecked

end Gofasta.Lemmas.SchedFaults
