import Gofasta.Lemmas.Enc
import Gofasta.Model.Closest
import Gofasta.Spec.Closest
/-
C07 — raw, snp and tn93 distances equal their definitions for every pair.
The final eq.-7 expression is evaluated in IEEE double and is not a theorem (it is the part of the property that is
only tested): what is proved is that every count that enters it is the definitional one.
-/
namespace Gofasta.Props.C07
open Gofasta Base Model Spec Lemmas

/-- a sequence the reader accepts: every byte has a code. `b < 256` follows from the second conjunct (`Lemmas.enc_lt`);
the proofs below use the second only. -/
def Accepted (s : List Nat) : Prop := ∀ b ∈ s, b < 256 ∧ enc false b ≠ 0

instance (s : List Nat) : Decidable (Accepted s) := by unfold Accepted; infer_instance

theorem accepted_tail {b : Nat} {s : List Nat} (h : Accepted (b :: s)) : Accepted s :=
  fun x hx => h x (by simp [hx])

theorem columns_ind {P : List Nat → List Nat → Prop} (left : ∀ t, P [] t) (right : ∀ q, P q [])
    (cons : ∀ a b q t, P q t → P (a :: q) (b :: t)) : ∀ q t, P q t
  | [], t => left t
  | _ :: _, [] => right _
  | a :: q, b :: t => cons a b q t (columns_ind left right cons q t)

/-- **C07.snp_def** — snp distance = number of columns with disjoint base sets -/
theorem snp_def : ∀ (q t : List Nat), Accepted q → Accepted t →
    snpCount (q.map (enc false)) (t.map (enc false)) = specSnp q t := by
  intro q t
  induction q, t using columns_ind with
  | left t => intros; cases t <;> rfl
  | right q => intros; cases q <;> rfl
  | cons a b q t ih =>
    intro hq ht
    have ha := hq a (by simp)
    have hb := ht b (by simp)
    simp only [List.map_cons, snpCount, specSnp]
    rw [encDiffer_iff false a b ha.2 hb.2, ih (accepted_tail hq) (accepted_tail ht)]

/-- the "certainly the same base" test of the Go code means: both A/C/G/T and equal -/
theorem same_test (a b : Nat) (ha : a < 256 ∧ enc false a ≠ 0) (hb : b < 256 ∧ enc false b ≠ 0) :
    (encResolved (enc false a) && enc false a == enc false b) = sameBase a b := by
  rw [encResolved_iff false a ha.2]
  unfold sameBase
  cases hr : isACGT a with
  | false => simp
  | true =>
    rw [enc_same_iff a b ha.2 hb.2 hr]
    cases hu : (upper a == upper b) with
    | false => simp
    | true =>
      have : upper a = upper b := by simpa using hu
      rw [← isACGT_of_upper_eq this, hr]; simp

/-- **C07.raw_def** — raw distance = n / (n + s): n columns with disjoint sets, s columns where both
carry the same unambiguous base -/
theorem raw_def : ∀ (q t : List Nat), Accepted q → Accepted t →
    rawCounts (q.map (enc false)) (t.map (enc false)) = specRaw q t := by
  intro q t
  induction q, t using columns_ind with
  | left t => intros; cases t <;> rfl
  | right q => intros; cases q <;> rfl
  | cons a b q t ih =>
    intro hq ht
    have ha := hq a (by simp)
    have hb := ht b (by simp)
    simp only [List.map_cons, rawCounts, specRaw]
    rw [encDiffer_iff false a b ha.2 hb.2, same_test a b ha hb, ih (accepted_tail hq) (accepted_tail ht)]

theorem disjoint_comm (a b : Nat) : disjointSyms false a b = disjointSyms false b a := by
  unfold disjointSyms
  cases baseSet false a <;> cases baseSet false b <;> simp [Nat.and_comm]

theorem sameBase_comm (a b : Nat) : sameBase a b = sameBase b a := by
  unfold sameBase
  rw [Bool.beq_comm (a := upper a)]
  cases isACGT a <;> cases isACGT b <;> rfl

theorem snp_symm : ∀ (q t : List Nat), specSnp q t = specSnp t q := by
  intro q t
  induction q, t using columns_ind with
  | left t => cases t <;> rfl
  | right q => cases q <;> rfl
  | cons a b q t ih => simp only [specSnp]; rw [disjoint_comm a b, ih]

theorem raw_symm : ∀ (q t : List Nat), specRaw q t = specRaw t q := by
  intro q t
  induction q, t using columns_ind with
  | left t => cases t <;> rfl
  | right q => cases q <;> rfl
  | cons a b q t ih => simp only [specRaw]; rw [disjoint_comm a b, sameBase_comm a b, ih]

/-- **C07.raw_unit** — numerator ≤ denominator: raw lies in [0,1] whenever it is defined -/
theorem raw_unit : ∀ (q t : List Nat), (specRaw q t).1 ≤ (specRaw q t).2 := by
  intro q t
  induction q, t using columns_ind with
  | left t => cases t <;> exact Nat.le_refl _
  | right q => cases q <;> exact Nat.le_refl _
  | cons a b q t ih => simp only [specRaw]; omega

def AllACGT (s : List Nat) : Prop := ∀ b ∈ s, isACGT b = true

/-- **C07.identical_zero** — identical unambiguous sequences are at snp distance 0 and raw 0/len -/
theorem identical_zero : ∀ (s : List Nat), AllACGT s → specSnp s s = 0 ∧ specRaw s s = (0, s.length) := by
  intro s
  induction s with
  | nil => intro _; simp [specSnp, specRaw]
  | cons b t ih =>
    intro h
    have hb := h b (by simp)
    obtain ⟨i1, i2⟩ := ih (fun x hx => h x (by simp [hx]))
    have hs : sameBase b b = true := by simp [sameBase, hb]
    have hd : disjointSyms false b b = false := Bool.eq_false_iff.2 fun hd => (disjoint_acgt b b hb hb).1 hd rfl
    simp [specSnp, specRaw, hd, hs, i1, i2]

theorem tn_col (a b : Nat) (ha : a < 256 ∧ enc false a ≠ 0) (hb : b < 256 ∧ enc false b ≠ 0) :
    (encDiffer (enc false a) (enc false b) && encResolved (enc false a) && encResolved (enc false b))
      = (isACGT a && isACGT b && !(upper a == upper b)) := by
  rw [encResolved_iff false a ha.2, encResolved_iff false b hb.2, encDiffer_iff false a b ha.2 hb.2]
  cases hra : isACGT a with
  | false => simp
  | true =>
    cases hrb : isACGT b with
    | false => simp
    | true => simpa using Bool.eq_iff_iff.2 ((disjoint_acgt a b hra hrb).trans (by simp))

/-- **C07.tn93_counts** — the transition / transversion / length counts that enter eq. 7 are the
definitional ones on the columns where both sequences are A/C/G/T -/
theorem tn93_counts : ∀ (q t : List Nat), Accepted q → Accepted t →
    tnCounts (q.map (enc false)) (t.map (enc false)) = specTn q t := by
  intro q t
  induction q, t using columns_ind with
  | left t => intros; cases t <;> rfl
  | right q => intros; cases q <;> rfl
  | cons a b q t ih =>
    intro hq ht
    have ha := hq a (by simp)
    have hb := ht b (by simp)
    simp only [List.map_cons, tnCounts, specTn]
    rw [ih (accepted_tail hq) (accepted_tail ht), tn_col a b ha hb, same_test a b ha hb]
    cases hra : isACGT a with
    | false => simp [sameBase, hra]
    | true =>
      cases hrb : isACGT b with
      | false => simp [sameBase, hrb]
      | true =>
        obtain ⟨t1, t2⟩ := enc_transitions a b ha.2 hb.2 hra hrb
        -- the source guards the second counter by "not the first"; 200 and 56 being different, the guard is idle
        have guard : ∀ x : Nat, (x != 200 && x == 56) = (x == 56) := by
          intro x; by_cases h : x = 56 <;> simp [h]
        rw [guard, t1, t2]
        cases hu : (upper a == upper b) <;> simp [sameBase, hra, hrb, hu, isPair]

/-- non-vacuity: a pair with a transition, a transversion, an ambiguity and a gap -/
example : Accepted [65, 67, 71, 84, 82, 45] ∧ Accepted [71, 65, 71, 84, 84, 65] ∧
    specSnp [65, 67, 71, 84, 82, 45] [71, 65, 71, 84, 84, 65] = 3 ∧
    specRaw [65, 67, 71, 84, 82, 45] [71, 65, 71, 84, 84, 65] = (3, 5) ∧
    specTn [65, 67, 71, 84, 82, 45] [71, 65, 71, 84, 84, 65] = { p1 := 1, p2 := 0, d := 2, l := 4 } := by
  decide +kernel

end Gofasta.Props.C07
