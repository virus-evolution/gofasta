import Gofasta.Model.Sam
import Gofasta.Model.Variants
import Gofasta.Spec.Sam
/-
C15 — windowing, padding, wrapping and input-channel options only select or re-lay-out.
-/
namespace Gofasta.Props.C15
open Gofasta Model Spec

/-- **C15.toma_window** — `--start s --end e` (no --pad) is columns s..e of the untrimmed row -/
theorem toma_window (raw : List Nat) (s e : Nat) :
    fastaRecordSeq raw true false s e = ((fastaRecordSeq raw false false s e).drop (s - 1)).take (e - (s - 1)) := rfl

/-- **C15.toma_window_pad** — with --pad it is the untrimmed --pad row with everything outside s..e set to 'N' -/
theorem toma_window_pad (raw : List Nat) (s e : Nat) :
    fastaRecordSeq raw true true s e =
      ((fastaRecordSeq raw false true s e).zip (List.range (fastaRecordSeq raw false true s e).length)).map
        fun (b, i) => if i < s - 1 ∨ i ≥ e then letN else b := rfl

theorem window_pad_length (raw : List Nat) (s e : Nat) : (fastaRecordSeq raw true true s e).length = raw.length := by
  simp [fastaRecordSeq, swapInNs]

/-- the flag reconciliation of cmd/samtoma.go: --trimstart a --trimend b (0-based, half open). The command-line layer
is not modelled, so nothing else refers to this; the legacy flags themselves are exercised through the binary -/
def legacyToNew (trimstart trimend : Int) : Int × Int :=
  ((if trimstart != -1 then trimstart + 1 else -1), (if trimend != -1 then trimend else -1))

/-- **C15.legacy_flags** — the half-open 0-based window [a, b) is the 1-based inclusive window a+1 .. b -/
theorem legacy_flags (a b : Int) (ha : 0 ≤ a) (hb : 0 ≤ b) : legacyToNew a b = (a + 1, b) := by
  unfold legacyToNew
  have h1 : (a != -1) = true := by simp; omega
  have h2 : (b != -1) = true := by simp; omega
  simp [h1, h2]

theorem chunk_stop (w : Nat) (s : List Nat) (h : w = 0 ∨ s = []) : chunk w s = if s = [] then [] else [s] := by
  rw [chunk, dif_pos h]

theorem chunk_step (w : Nat) (s : List Nat) (h : ¬ (w = 0 ∨ s = [])) : chunk w s = s.take w :: chunk w (s.drop w) := by
  rw [chunk, dif_neg h]

/-- **C15.wrap (content)** — wrapping only re-breaks: the lines concatenate back to the sequence -/
theorem flatten_chunk (w : Nat) (s : List Nat) : (chunk w s).flatten = s := by
  induction s using chunk.induct w with
  | case1 => rw [chunk_stop w [] (.inr rfl)]; rfl
  | case2 s h hne => rw [chunk_stop w s h, if_neg hne, List.flatten_singleton]
  | case3 s h _ ih => rw [chunk_step w s h, List.flatten_cons, ih, List.take_append_drop]

/-- `flatten_chunk` as it is listed for C15.wrap; the bound `n` on the length is not needed -/
theorem chunk_flatten (w : Nat) : ∀ (n : Nat) (s : List Nat), s.length ≤ n → (chunk w s).flatten = s :=
  fun _ s _ => flatten_chunk w s

/-- **C15.wrap (line widths)** — every line but the last has exactly w characters, none is empty -/
theorem widths_chunk (w : Nat) (hw : 0 < w) (s : List Nat) :
    (∀ l ∈ chunk w s, 0 < l.length ∧ l.length ≤ w) ∧ (∀ l ∈ (chunk w s).dropLast, l.length = w) := by
  induction s using chunk.induct w with
  | case1 => rw [chunk_stop w [] (.inr rfl)]; simp
  | case2 s h hne => exact absurd (h.resolve_left (by omega)) hne
  | case3 s h hlt ih =>
    obtain ⟨i1, i2⟩ := ih
    rw [chunk_step w s h]
    constructor
    · intro l hl
      rcases List.mem_cons.1 hl with rfl | hl
      · rw [List.length_take]; omega
      · exact i1 l hl
    · intro l hl
      cases hc : chunk w (s.drop w) with
      | nil => simp [hc] at hl
      | cons c cs =>
        rw [hc, List.dropLast_cons_cons] at hl
        rcases List.mem_cons.1 hl with rfl | hl'
        · -- the head is a full line because something follows it
          have hne : s.drop w ≠ [] := by
            intro e
            rw [e, chunk_stop w [] (Or.inr rfl)] at hc
            cases hc
          have := List.length_pos_iff.2 hne
          rw [List.length_drop] at this
          rw [List.length_take]
          omega
        · exact i2 l (by rw [hc]; exact hl')

/-- `widths_chunk` as it is listed for C15.wrap; the bound `n` on the length is not needed -/
theorem chunk_widths (w : Nat) (hw : 0 < w) : ∀ (n : Nat) (s : List Nat), s.length ≤ n →
    (∀ l ∈ chunk w s, 0 < l.length ∧ l.length ≤ w) ∧ (∀ l ∈ (chunk w s).dropLast, l.length = w) :=
  fun _ s _ => widths_chunk w hw s

theorem chunk_mem (w : Nat) (s l : List Nat) (hl : l ∈ chunk w s) : l ≠ [] ∧ ∀ b ∈ l, b ∈ s := by
  refine ⟨?_, fun b hb => ?_⟩
  · by_cases hw : w = 0
    · rw [chunk_stop w s (Or.inl hw)] at hl
      split at hl
      · cases hl
      · next hne => rw [List.mem_singleton.1 hl]; exact hne
    · exact List.length_pos_iff.1
        ((widths_chunk w (Nat.pos_of_ne_zero hw) s).1 l hl).1
  · have := List.mem_flatten.2 ⟨l, hl, hb⟩
    rwa [flatten_chunk] at this

/-- **C15.variants_window** — `--start s` and `--end e`, alone or together, keep exactly the mutations whose
position p satisfies s ≤ p and p ≤ e; an absent bound (≤ 0) is no constraint -/
theorem variants_window (start stop : Int) (v : Variant) :
    inWindow start stop v = true ↔ (start ≤ 0 ∨ start ≤ v.pos) ∧ (stop ≤ 0 ∨ v.pos ≤ stop) := by
  unfold inWindow
  simp only [Bool.not_eq_true', Bool.or_eq_false_iff, Bool.and_eq_false_iff, decide_eq_false_iff_not]
  omega

/-- the filter is applied record by record: the windowed line is the filtered line -/
theorem variants_line_filter (appendSnp : Bool) (start stop : Int) (name : String) (vs : List Variant) :
    variantsLine appendSnp start stop name vs = variantsLine appendSnp (-1) (-1) name (vs.filter (inWindow start stop)) := by
  unfold variantsLine
  congr 3
  rw [List.filter_filter]
  have hf : (fun a => inWindow (-1) (-1) a && inWindow start stop a) = inWindow start stop := by
    funext v; simp [inWindow]
  rw [hf]

/-- the columns of the reference bases, as the model and as the specification list them -/
theorem refBaseCols_eq : ∀ (l : List (Nat × Nat)),
    (l.filterMap fun (b, i) => if b != dash then some i else none) = (l.filter fun (b, _) => b != dash).map (·.2) := by
  intro l
  induction l with
  | nil => rfl
  | cons x t ih =>
    obtain ⟨b, i⟩ := x
    simp only [List.filterMap_cons, List.filter_cons]
    by_cases h : (b != dash) = true
    · simp only [h, if_true, List.map_cons]; rw [ih]
    · simp only [h, Bool.false_eq_true, if_false]; rw [ih]

/-- **C15.topa_window** — `sam toPairAlign --start s --end e` is the untrimmed pair cut from the column of reference
base s to the column of reference base e (inclusive), for every gapped pair and every window inside the reference -/
theorem topa_window (p : List Nat × List Nat) (s e : Nat)
    (hs : s - 1 < ((p.1.zip (List.range p.1.length)).filter fun (b, _) => b != dash).length)
    (he : e - 1 < ((p.1.zip (List.range p.1.length)).filter fun (b, _) => b != dash).length) :
    trimPair p s e = specTrimPair p s e := by
  unfold trimPair specTrimPair
  simp only []
  rw [refBaseCols_eq]
  generalize hidx : ((p.1.zip (List.range p.1.length)).filter fun (b, _) => b != dash) = idx at *
  have h1 : idx[s - 1]? = some idx[s - 1] := List.getElem?_eq_getElem hs
  have h2 : idx[e - 1]? = some idx[e - 1] := List.getElem?_eq_getElem he
  rw [h1, h2]
  simp only [List.getD_eq_getElem?_getD, List.getElem?_map, h1, h2, Option.map_some, Option.getD_some]

/-- non-vacuity: 10 characters in lines of 4 -/
example : chunk 4 [1, 2, 3, 4, 5, 6, 7, 8, 9, 10] = [[1, 2, 3, 4], [5, 6, 7, 8], [9, 10]] := by
  simp [chunk]

end Gofasta.Props.C15
