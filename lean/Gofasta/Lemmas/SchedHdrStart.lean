import Gofasta.Lemmas.SchedAggWriter
/-
The header write AT ONCE, (B) of Lemmas/SchedFaultWriter and SchedAggWriter, for the one-pool model (Model/Sched);
Lemmas/SchedChainHdrStart is the same for the chain.  The writer goroutine makes its first write call(s) BEFORE its
receive loop and, when one of them fails, sits at `cErr <- err` before it has received anything.  `Model.Sched.init` has
the writer at the head of its loop, and `Model.Sched.Reach` starts there: `Reach` itself cannot express a writer that
fails before its loop.  The step function `step?` and the program counter `OPc.errS e` can: `ReachFrom cfg s0` is
`Reach` with the start state a parameter (same `step?`, Model untouched) and `hdrStart cfg e failed` is `init cfg`, with
the writer at `cErr <- err` when a call before the loop failed.  The invariant `Inv` of SchedProofs holds there
(`inv_errStart`); a run from there is an ordinary run or one in which the writer never moves (`hdr_sound`).  Then (B)
for the streaming writer `IsFW` and for the aggregating writer `IsAW`.
The namespace is shared with Lemmas/SchedFaultsAgg because the full names of these statements are referred to from outside
the Lean sources.
-/
set_option autoImplicit false

namespace Gofasta.Lemmas.SchedFaultsAgg
open Gofasta Gofasta.Model
open Gofasta.Model.Sched (OPc)
open Gofasta.Lemmas.SchedCommands
open Gofasta.Lemmas.SchedFaults Gofasta.Lemmas.SchedRun

variable {α β ε : Type}

section startStates
open Gofasta.Model.Sched Gofasta.Lemmas.Sched
variable {σ : Type}

inductive ReachFrom (cfg : Cfg α β ε σ) (s0 : State α β ε σ) : State α β ε σ → Prop where
  | start : ReachFrom cfg s0 s0
  | step {s s' : State α β ε σ} (l : Label) : ReachFrom cfg s0 s → step? cfg s l = some s' → ReachFrom cfg s0 s'

theorem reachFrom_init {cfg : Cfg α β ε σ} {s : State α β ε σ} : ReachFrom cfg (init cfg) s ↔ Reach cfg s := by
  constructor
  · intro h
    induction h with
    | start => exact Reach.init
    | step l _ hs ih => exact Reach.step l ih hs
  · intro h
    induction h with
    | init => exact ReachFrom.start
    | step l _ hs ih => exact ReachFrom.step l ih hs

/-- the start state of a pipeline whose writer goroutine has failed before its loop: everything as in
`Model.Sched.init`, the writer at `cErr <- e` (its prologue talks to nobody, so it is folded into the start, as Model/Sched
folds every local computation into the step before it) -/
def errStart (cfg : Cfg α β ε σ) (e : ε) : State α β ε σ := { init cfg with writer := .errS e }

def hdrStart (cfg : Cfg α β ε σ) (e : ε) (failed : Bool) : State α β ε σ :=
  if failed then errStart cfg e else init cfg

theorem hdrStart_false (cfg : Cfg α β ε σ) (e : ε) : hdrStart cfg e false = init cfg := rfl
theorem hdrStart_true (cfg : Cfg α β ε σ) (e : ε) : hdrStart cfg e true = errStart cfg e := rfl

/-- `Inv.oErr` knows `absorb` and `finish` as the only sources of a writer error, so the failed call before the loop has
to be one that `finish` reports (`FWSpec.finish_init`) -/
theorem inv_errStart (cfg : Cfg α β ε σ) (e : ε) (he : ∃ st, cfg.finish st = .error e) : Inv cfg (errStart cfg e) :=
  { inv_init cfg with
    oRecv := fun hw => nomatch hw
    oDone := fun hw => hw.elim (fun hw => nomatch hw) (fun hw => nomatch hw)
    oErr := fun e' hw => by cases hw; exact Or.inr he
    mOk := ⟨fun hm => (nomatch hm), fun hw => (nomatch hw)⟩ }

theorem hdrStart_inv {cfg : Cfg α β ε σ} {e : ε} {b : Bool} (he : b = true → cfg.finish cfg.init = .error e) :
    Inv cfg (hdrStart cfg e b) := by
  cases b with
  | false => exact inv_init cfg
  | true => exact inv_errStart cfg e ⟨_, he rfl⟩

theorem reachFrom_inv {cfg : Cfg α β ε σ} {s0 s : State α β ε σ} (h0 : Inv cfg s0) (hr : ReachFrom cfg s0 s) :
    Inv cfg s := by
  induction hr with
  | start => exact h0
  | step l _ hs ih => exact inv_step ih hs

/-- the report can be made at once: in the start state itself main's `case err := <-cErr` is enabled -/
theorem errStart_reportable (cfg : Cfg α β ε σ) (e : ε) :
    step? cfg (errStart cfg e) .mainErrWriter = some { errStart cfg e with main := .ret (some e) } := rfl

theorem errStart_frozen {cfg : Cfg α β ε σ} {s : State α β ε σ} {e : ε} (he : ∃ st, cfg.finish st = .error e)
    (hr : ReachFrom cfg (errStart cfg e) s) : Frozen (job cfg) e (obs s) := by
  induction hr with
  | start => exact ⟨rfl, rfl, rfl, nofun, nofun⟩
  | step l hr hs ih =>
    have hi := reachFrom_inv (inv_errStart cfg e he) hr
    exact ih.step (step_frame hs).1 (inv_step hi hs).mOk.mp (step_retErr hi hs)

theorem hdr_sound {cfg : Cfg α β ε σ} {s : State α β ε σ} {e : ε} {b : Bool}
    (he : b = true → cfg.finish cfg.init = .error e) (hr : ReachFrom cfg (hdrStart cfg e b) s) :
    HdrSound (job cfg) e b (obs s) := by
  cases b with
  | false => exact .inl ⟨rfl, sound (reachFrom_init.mp hr)⟩
  | true => exact .inr ⟨rfl, errStart_frozen ⟨_, he rfl⟩ hr⟩

theorem reachFrom_maximal_returned {cfg : Cfg α β ε σ} {s0 s : State α β ε σ} (hN : 1 ≤ cfg.N) (h0 : Inv cfg s0)
    (hr : ReachFrom cfg s0 s) (hstuck : enabled cfg s = []) : ∃ r, s.main = .ret r :=
  (reachFrom_inv h0 hr).returned_of_stuck hN hstuck

def runHdr (cfg : Cfg α β ε σ) (e : ε) (failed : Bool) (sched : List Nat) : State α β ε σ :=
  runWith (step? cfg) cfg.N (hdrStart cfg e failed) sched

theorem runHdr_reachFrom (cfg : Cfg α β ε σ) (e : ε) (failed : Bool) (sched : List Nat) :
    ReachFrom cfg (hdrStart cfg e failed) (runHdr cfg e failed sched) :=
  runWith_preserves ReachFrom.step sched ReachFrom.start

end startStates

section hdrFW
open Gofasta.Model.Sched Gofasta.Lemmas.Sched

variable {cfg : Cfg α β ε (FW β)} {s : State α β ε (FW β)} {d : Dest} {chunks : β → List String}
  {header : String} {k0 : Nat} {e : ε}

theorem hdr_fault_reported (h : IsFW cfg d chunks header k0 e) (hN : 1 ≤ cfg.N) (k : Nat)
    (hd : d = .failFrom k ∨ d = .failOnce k) (hk1 : 1 ≤ k)
    (hkW : ∀ ys, cfg.items.map cfg.f = ys.map Except.ok → k ≤ nCalls chunks ys)
    (hr : ReachFrom cfg (hdrStart cfg e (d.fails 1)) s) : s.main ≠ .ret none :=
  (hdr_sound h.spec.finish_init hr).not_nil fun so => h.spec.reported so hN k hk1 (Dest.fails_of_at hd) hkW

theorem hdr_fault_beyond_run_harmless (h : IsFW cfg d chunks header k0 e) (hN : 1 ≤ cfg.N)
    (hr : ReachFrom cfg (hdrStart cfg e (d.fails 1)) s) (hm : s.main = .ret none) :
    ∃ ys : List β, cfg.items.map cfg.f = ys.map Except.ok ∧
      s.wst.sink.text = header ++ String.join (ys.map fun y => String.join (chunks y)) ∧
      s.wst.sink.failed = false ∧ s.wst.sink.calls = nCalls chunks ys ∧
      ∀ i, 1 ≤ i → i ≤ nCalls chunks ys → d.fails i = false :=
  h.spec.harmless ((hdr_sound h.spec.finish_init hr).of_nil hm) hN hm

theorem hdr_written_is_prefix (h : IsFW cfg d chunks header k0 e)
    (hr : ReachFrom cfg (hdrStart cfg e (d.fails 1)) s) :
    ∃ j, accepted d chunks header k0 s =
      String.join ((callSeq header chunks (goodPrefix cfg.f cfg.items)).take j) :=
  have ha := (hdr_sound h.spec.finish_init hr).arrivals
  fwAfter_text_prefix d chunks header k0 ha.1 ha.2

/-- the first call fails (`failFrom 1`, `failOnce 1`): in EVERY state reachable from the header-first start
exactly one call - the header - was ever made and nothing was accepted: no record text is ever presented to the
destination -/
theorem header_fault_immediate (h : IsFW cfg d chunks header k0 e) (hd : d.fails 1 = true)
    (hr : ReachFrom cfg (hdrStart cfg e (d.fails 1)) s) :
    s.arrival = [] ∧ s.writer = .errS e ∧ s.wst.sink = ⟨"", 1, true⟩ ∧ accepted d chunks header k0 s = "" ∧
      s.main ≠ .ret none :=
  accepted_eq d chunks header k0 s ▸ h.spec.header_fault_immediate (hdr_sound h.spec.finish_init hr) hd

theorem header_fault_reportable_at_once (cfg : Cfg α β ε (FW β)) (e : ε) :
    step? cfg (hdrStart cfg e true) .mainErrWriter = some { errStart cfg e with main := .ret (some e) } :=
  errStart_reportable cfg e

theorem hdr_fault_maximal_run (h : IsFW cfg d chunks header k0 e) (hN : 1 ≤ cfg.N) (k : Nat)
    (hd : d = .failFrom k ∨ d = .failOnce k) (hk1 : 1 ≤ k)
    (hkW : ∀ ys, cfg.items.map cfg.f = ys.map Except.ok → k ≤ nCalls chunks ys)
    (hr : ReachFrom cfg (hdrStart cfg e (d.fails 1)) s) (hstuck : enabled cfg s = []) :
    ∃ e', s.main = .ret (some e') :=
  (obs s).returned_error (reachFrom_maximal_returned hN (hdrStart_inv h.spec.finish_init) hr hstuck)
    (hdr_fault_reported h hN k hd hk1 hkW hr)

theorem hdr_fault_maximal_run_write_error (h : IsFW cfg d chunks header k0 e) (hN : 1 ≤ cfg.N)
    (hrf : cfg.readFail = none) {ys : List β} (hys : cfg.items.map cfg.f = ys.map Except.ok) (k : Nat)
    (hd : d = .failFrom k ∨ d = .failOnce k) (hk1 : 1 ≤ k) (hkW : k ≤ nCalls chunks ys)
    (hr : ReachFrom cfg (hdrStart cfg e (d.fails 1)) s) (hstuck : enabled cfg s = []) : s.main = .ret (some e) :=
  have hret := (reachFrom_maximal_returned hN (hdrStart_inv h.spec.finish_init) hr hstuck)
  (hdr_sound h.spec.finish_init hr).returned hrf (all_ok_of_map hys) hret fun so =>
    (h.spec.outcome so hN hrf hys hret).2 k hk1 hkW (Dest.fails_of_at hd)

end hdrFW

section hdrAW
open Gofasta.Model.Sched Gofasta.Lemmas.Sched

variable {κ : Type} {cfg : Cfg α β ε (AW κ)} {s : State α β ε (AW κ)} {d : Dest} {hs pre : List String} {acc0 : κ}
  {accum : κ → Nat × β → κ} {rows : κ → List String} {e : ε} {R : List String}

theorem aw_hdrStart_inv (h : IsAW cfg d hs pre acc0 accum rows e) :
    Inv cfg (hdrStart cfg e (Sink.putAll d Sink.empty hs).failed) :=
  hdrStart_inv h.spec.finish_init

theorem agg_hdr_fault_reported (h : IsAW cfg d hs pre acc0 accum rows e) (hN : 1 ≤ cfg.N)
    (hR : RowsAre cfg.items cfg.f acc0 accum rows R) (k : Nat) (hd : d = .failFrom k ∨ d = .failOnce k) (hk1 : 1 ≤ k)
    (hkW : k ≤ aggW hs pre R) (hr : ReachFrom cfg (hdrStart cfg e (Sink.putAll d Sink.empty hs).failed) s) :
    s.main ≠ .ret none :=
  (hdr_sound h.spec.finish_init hr).not_nil fun so => h.spec.reported so hN hR k hk1 (Dest.fails_of_at hd) hkW

theorem agg_hdr_fault_beyond_run_harmless (h : IsAW cfg d hs pre acc0 accum rows e) (hN : 1 ≤ cfg.N)
    (hR : RowsAre cfg.items cfg.f acc0 accum rows R)
    (hr : ReachFrom cfg (hdrStart cfg e (Sink.putAll d Sink.empty hs).failed) s) (hm : s.main = .ret none) :
    s.wst.sink.text = String.join (aggCalls hs pre R) ∧ s.wst.sink.failed = false ∧
      s.wst.sink.calls = aggW hs pre R ∧ ∀ i, 1 ≤ i → i ≤ aggW hs pre R → d.fails i = false :=
  h.spec.harmless ((hdr_sound h.spec.finish_init hr).of_nil hm) hN hR hm

theorem agg_hdr_written_is_prefix (h : IsAW cfg d hs pre acc0 accum rows e) (hN : 1 ≤ cfg.N)
    (hR : RowsAre cfg.items cfg.f acc0 accum rows R)
    (hr : ReachFrom cfg (hdrStart cfg e (Sink.putAll d Sink.empty hs).failed) s) :
    ∃ j, aggAccepted d hs pre acc0 accum rows s = String.join ((aggCalls hs pre R).take j) :=
  aggAccepted_eq s ▸ h.spec.hdr_written_is_prefix (hdr_sound h.spec.finish_init hr) hN hR

theorem agg_header_fault_immediate {header : String} (h : IsAW cfg d [header] [] acc0 accum rows e)
    (hd : d.fails 1 = true) (hr : ReachFrom cfg (hdrStart cfg e (Sink.putAll d Sink.empty [header]).failed) s) :
    s.arrival = [] ∧ s.writer = .errS e ∧ s.wst.sink = ⟨"", 1, true⟩ ∧
      aggAccepted d [header] [] acc0 accum rows s = "" ∧ s.main ≠ .ret none :=
  aggAccepted_eq s ▸ h.spec.header_fault_immediate (hdr_sound h.spec.finish_init hr) hd

theorem agg_hdr_fault_maximal_run_write_error (h : IsAW cfg d hs pre acc0 accum rows e) (hN : 1 ≤ cfg.N)
    (hrf : cfg.readFail = none) (hall : ∀ x ∈ cfg.items, ∃ y, cfg.f x = .ok y)
    (hR : RowsAre cfg.items cfg.f acc0 accum rows R) (k : Nat) (hd : d = .failFrom k ∨ d = .failOnce k) (hk1 : 1 ≤ k)
    (hkW : k ≤ aggW hs pre R) (hr : ReachFrom cfg (hdrStart cfg e (Sink.putAll d Sink.empty hs).failed) s)
    (hstuck : enabled cfg s = []) : s.main = .ret (some e) :=
  have hret := (reachFrom_maximal_returned hN (aw_hdrStart_inv h) hr hstuck)
  (hdr_sound h.spec.finish_init hr).returned hrf hall hret fun so =>
    (h.spec.outcome so hN hrf hall hR hret).2 k hk1 hkW (Dest.fails_of_at hd)

end hdrAW

end Gofasta.Lemmas.SchedFaultsAgg
