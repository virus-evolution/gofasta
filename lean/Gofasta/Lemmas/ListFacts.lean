/-
Facts about core `List` functions that several lemma modules need and core does not state in this form.
-/
namespace Gofasta.Lemmas

theorem rev_ind {β : Type} {P : List β → Prop} (nil : P []) (snoc : ∀ l x, P l → P (l ++ [x])) : ∀ l, P l := by
  intro l
  suffices h : ∀ r : List β, P r.reverse by simpa using h l.reverse
  intro r
  induction r with
  | nil => simpa using nil
  | cons x t ih => simpa using snoc _ x ih

/-! ### positions -/

theorem lt_of_getElem? {β : Type} {l : List β} {k : Nat} {x : β} (h : l[k]? = some x) : k < l.length :=
  (List.getElem?_eq_some_iff.mp h).1

theorem drop_cons_inv {τ : Type} {T : List τ} {k : Nat} {t : τ} {rest : List τ} (h : T.drop k = t :: rest) :
    T[k]? = some t ∧ T.drop (k + 1) = rest := by
  constructor
  · rw [← List.head?_drop, h]; rfl
  · rw [← List.tail_drop, h]; rfl

theorem getD_map_range {β : Type} (f : Nat → β) (n i : Nat) (d : β) (hi : i < n) :
    ((List.range n).map f).getD i d = f i := by
  simp [List.getD_eq_getElem?_getD, hi]

theorem getD_mem {β : Type} (l : List β) (d : β) (i : Nat) (h : i < l.length) : l.getD i d ∈ l := by
  simp [List.getD_eq_getElem?_getD, h]

theorem forall_getD {α : Type} {P : α → Prop} {l : List α} {d : α} (hl : ∀ x ∈ l, P x) (hd : P d) (i : Nat) :
    P (l.getD i d) := by
  rw [List.getD_eq_getElem?_getD]
  cases h : l[i]? with
  | none => exact hd
  | some x => exact hl x (List.mem_of_getElem? h)

/-! ### all members -/

theorem forall_mem_snoc {τ : Type} {P : τ → Prop} {l : List τ} {r : τ} (h : ∀ x ∈ l, P x) (hr : P r) :
    ∀ x ∈ l ++ [r], P x := fun x hx =>
  (List.mem_append.mp hx).elim (h x) fun e => List.mem_singleton.mp e ▸ hr

theorem forall_mem_set {τ : Type} {l : List τ} {P : τ → Prop} {w : Nat} {q : τ}
    (h : ∀ p ∈ l, P p) (hq : P q) : ∀ p ∈ l.set w q, P p := fun p hp =>
  (List.mem_or_eq_of_mem_set hp).elim (h p) fun e => e ▸ hq

/-! ### slices, and lists as maps over their positions -/

theorem length_slice {α : Type} {l : List α} {r len : Nat} (h : r + len ≤ l.length) :
    ((l.drop r).take len).length = len := by
  rw [List.length_take, List.length_drop]
  omega

theorem slice_eq_map {α : Type} (l : List α) (d : α) (r len : Nat) (h : r + len ≤ l.length) :
    (l.drop r).take len = (List.range len).map fun i => l.getD (r + i) d := by
  apply List.ext_getElem
  · rw [length_slice h, List.length_map, List.length_range]
  · intro i _ h2
    have hi : r + i < l.length := by rw [List.length_map, List.length_range] at h2; omega
    simp [List.getD_eq_getElem?_getD, hi]

theorem take_eq_map {α : Type} (l : List α) (d : α) (n : Nat) (h : n ≤ l.length) :
    l.take n = (List.range n).map fun i => l.getD i d := by
  simpa using slice_eq_map l d 0 n (by omega)

theorem map_eq_range {β γ : Type} (l : List β) (d : β) (f : β → γ) :
    l.map f = (List.range l.length).map fun i => f (l.getD i d) := by
  conv => lhs; rw [← List.take_length (l := l), take_eq_map l d l.length (Nat.le_refl _), List.map_map]
  rfl

theorem zip_range_eq {β : Type} (l : List β) (d : β) :
    l.zip (List.range l.length) = (List.range l.length).map fun i => (l.getD i d, i) := by
  apply List.ext_getElem
  · simp
  · intro i _ h2
    have : i < l.length := by simpa using h2
    simp [List.getD_eq_getElem?_getD, this]

theorem pairwise_snd_zip_range {α : Type} (l : List α) : (l.zip (List.range l.length)).Pairwise fun x y => x.2 < y.2 := by
  rw [← List.pairwise_map (f := Prod.snd) (R := (· < ·)), List.map_snd_zip (by rw [List.length_range]; exact Nat.le_refl _)]
  exact List.pairwise_lt_range

theorem map_getD_range {α : Type} (l : List α) (d : α) :
    (List.range l.length).map (fun i => (l.getD i d, i)) = l.zipIdx := by
  rw [← zip_range_eq, List.zipIdx_eq_zip_range', List.range_eq_range']

theorem zip_map_range {β γ : Type} (f : Nat → β) (g : β × Nat → γ) (L : Nat) :
    (((List.range L).map f).zip (List.range L)).map g = (List.range L).map fun i => g (f i, i) := by
  apply List.ext_getElem <;> simp

theorem range_add_map {β : Type} (f : Nat → β) (a n : Nat) :
    (List.range (a + n)).map f = (List.range a).map f ++ (List.range n).map (fun j => f (a + j)) := by
  rw [List.range_add, List.map_append, List.map_map]
  rfl

theorem map_range_const {β : Type} (n : Nat) (b : β) (f : Nat → β) (h : ∀ i, i < n → f i = b) :
    (List.range n).map f = List.replicate n b := by
  rw [← List.length_range (n := n), ← List.map_const', List.length_range]
  exact List.map_congr_left fun i hi => h i (List.mem_range.1 hi)

theorem flatMap_zip_range' {α β : Type} (f : α → Nat → List β) (g : α → List β) : ∀ (l : List α) (s : Nat),
    (∀ r j, s ≤ j → j < s + l.length → f r j = g r) →
    (l.zip (List.range' s l.length)).flatMap (fun p => f p.1 p.2) = l.flatMap g := by
  intro l
  induction l with
  | nil => intro s _; rfl
  | cons r t ih =>
    intro s hf
    rw [List.length_cons] at hf
    rw [List.length_cons, List.range'_succ, List.zip_cons_cons, List.flatMap_cons, List.flatMap_cons,
      hf r s (Nat.le_refl _) (by omega), ih (s + 1) fun r j h1 h2 => hf r j (by omega) (by omega)]

/-! ### folds, sums, counts -/

theorem foldl_max_eq (l : List Nat) (b : Nat) (hb : b ∈ l) (hle : ∀ x ∈ l, x ≤ b) (m : Nat) (hm : m ≤ b) :
    l.foldl max m = b := by
  rw [List.foldl_max, List.max?_eq_some_iff.2 ⟨hb, hle⟩]
  exact Nat.max_eq_right hm

theorem exists_max (f : Nat → Nat) : ∀ (k : Nat), 0 < k → ∃ m, m < k ∧ ∀ j, j < k → f j ≤ f m := by
  intro k
  induction k with
  | zero => intro h; cases h
  | succ k ih =>
    intro _
    rcases Nat.eq_zero_or_pos k with rfl | hk
    · exact ⟨0, Nat.one_pos, fun j hj => by rw [Nat.lt_one_iff.1 hj]; exact Nat.le_refl _⟩
    · obtain ⟨m, hm, hmax⟩ := ih hk
      by_cases hc : f m ≤ f k
      · exact ⟨k, Nat.lt_succ_self k, fun j hj => (Nat.lt_succ_iff_lt_or_eq.1 hj).elim
          (fun h => Nat.le_trans (hmax j h) hc) fun h => h ▸ Nat.le_refl _⟩
      · exact ⟨m, Nat.lt_succ_of_lt hm, fun j hj => (Nat.lt_succ_iff_lt_or_eq.1 hj).elim (hmax j)
          fun h => h ▸ Nat.le_of_not_le hc⟩

theorem le_sum_of_mem : ∀ (l : List Nat) (x : Nat), x ∈ l → x ≤ l.sum
  | a :: t, x, h => by
    rw [List.sum_cons]
    rcases List.mem_cons.1 h with rfl | h
    · exact Nat.le_add_right _ _
    · exact Nat.le_trans (le_sum_of_mem t x h) (Nat.le_add_left _ _)

theorem getD_le_sum (l : List Nat) (k : Nat) : l.getD k 0 ≤ l.sum := by
  by_cases hk : k < l.length
  · exact le_sum_of_mem l _ (getD_mem l 0 k hk)
  · simp [List.getD_eq_getElem?_getD, List.getElem?_eq_none (Nat.le_of_not_lt hk)]

theorem posSum_set {τ : Type} {F : Nat → List τ → Nat} {g : Nat → τ → Nat}
    (hF : ∀ k x t, F k (x :: t) = g k x + F (k + 1) t)
    {L : List τ} {k : Nat} {x : τ} (h : L[k]? = some x) (y : τ) (k0 : Nat) :
    F k0 (L.set k y) + g (k0 + k) x = F k0 L + g (k0 + k) y := by
  induction L generalizing k k0 with
  | nil => cases h
  | cons b t ih =>
    cases k with
    | zero => cases h; simp only [List.set_cons_zero, hF, Nat.add_zero]; omega
    | succ k =>
      have := ih (k := k) h (k0 + 1)
      rw [show k0 + 1 + k = k0 + (k + 1) by omega] at this
      rw [List.set_cons_succ, hF, hF]; omega

theorem count_flatMap_set {τ : Type} {L : List τ} {g : τ → List Nat} {j : Nat} {x : τ} (h : L[j]? = some x) (y : τ)
    (a : Nat) : ((L.set j y).flatMap g).count a + (g x).count a = (L.flatMap g).count a + (g y).count a :=
  posSum_set (F := fun _ L => (L.flatMap g).count a) (g := fun _ x => (g x).count a)
    (fun _ _ _ => by rw [List.flatMap_cons, List.count_append]) h y 0

section
variable {κ ρ : Type} [BEq κ] [LawfulBEq κ]

theorem count_flatMap_nodup (f : ρ → List κ) (k : κ) : ∀ (rs : List ρ), (∀ r ∈ rs, (f r).Nodup) →
    (rs.flatMap f).count k = (rs.filter fun r => (f r).contains k).length
  | [], _ => rfl
  | r :: t, h => by
    rw [List.flatMap_cons, List.count_append, List.filter_cons,
      count_flatMap_nodup f k t (fun x hx => h x (List.mem_cons_of_mem _ hx)), (h r List.mem_cons_self).count]
    by_cases hk : k ∈ f r
    · rw [if_pos hk, if_pos (List.contains_iff_mem.2 hk), List.length_cons, Nat.add_comm]
    · rw [if_neg hk, if_neg (mt List.contains_iff_mem.1 hk), Nat.zero_add]

theorem count_flatMap_ge (f : ρ → List κ) (k : κ) : ∀ (rs : List ρ),
    (rs.filter fun r => (f r).contains k).length ≤ (rs.flatMap f).count k
  | [] => Nat.le_refl _
  | r :: t => by
    rw [List.flatMap_cons, List.count_append, List.filter_cons]
    have ih := count_flatMap_ge f k t
    split
    · rename_i hk
      have := List.count_pos_iff.2 (List.contains_iff_mem.1 hk)
      rw [List.length_cons]
      omega
    · omega

end

/-! ### `map`, `filter`, `flatMap`, `Pairwise` -/

theorem inj_of_pairwise_ne {α β : Type} (f : α → β) {l : List α} (h : l.Pairwise fun a b => f a ≠ f b) :
    ∀ a ∈ l, ∀ b ∈ l, f a = f b → a = b :=
  fun _ ha _ hb => List.Pairwise.forall_of_forall_of_flip (R := fun a b : α => f a = f b → a = b)
    (fun _ _ _ => rfl) (h.imp fun hne e => absurd e hne) (h.imp fun hne e => absurd e.symm hne) ha hb

theorem nodup_of_map {κ β : Type} (f : κ → β) (l : List κ) (h : (l.map f).Nodup) : l.Nodup :=
  List.Pairwise.of_map f (fun _ _ hne he => hne (congrArg f he)) h

theorem nodup_map_of_inj_on {κ β : Type} (f : κ → β) (l : List κ) (hn : l.Nodup)
    (hi : ∀ x ∈ l, ∀ y ∈ l, f x = f y → x = y) : (l.map f).Nodup :=
  List.pairwise_map.2 (List.Pairwise.imp_of_mem (fun hx hy hne he => hne (hi _ hx _ hy he)) hn)

theorem head_le_last (l : List Nat) (h : l.Pairwise (· < ·)) (a b : Nat) (ha : l.head? = some a)
    (hb : l.getLast? = some b) : a ≤ b ∧ (2 ≤ l.length → a < b) := by
  match l, h, ha, hb with
  | [x], _, ha, hb =>
    simp at ha hb; subst ha; subst hb; simp
  | x :: y :: t, h, ha, hb =>
    simp only [List.head?_cons, Option.some.injEq] at ha
    subst ha
    rw [List.getLast?_cons_cons] at hb
    have hm := List.mem_of_getLast? hb
    have := List.rel_of_pairwise_cons h hm
    omega

theorem flatMap_congr {β γ : Type} (f g : β → List γ) (l : List β) (h : ∀ x ∈ l, f x = g x) : l.flatMap f = l.flatMap g := by
  rw [List.flatMap_def, List.flatMap_def, List.map_congr_left h]

theorem filter_filter_comm {α : Type} (p q : α → Bool) (l : List α) : (l.filter p).filter q = (l.filter q).filter p := by
  rw [List.filter_filter, List.filter_filter]
  exact List.filter_congr fun x _ => Bool.and_comm _ _

theorem filter_nil_of {β : Type} (Y : List β) (f : β → Bool) (h : ∀ y ∈ Y, f y = false) : Y.filter f = [] :=
  List.filter_eq_nil_iff.2 fun y hy => by simp [h y hy]

theorem map_eq_self {α : Type} {f : α → α} {l : List α} : l.map f = l ↔ ∀ x ∈ l, f x = x := by
  simpa using List.map_inj_left (f := f) (g := id) (l := l)

theorem getD_map {α β : Type} (f : α → β) (l : List α) (c : Nat) (d : α) (d' : β) (h : c < l.length) :
    (l.map f).getD c d' = f (l.getD c d) := by
  simp [List.getD_eq_getElem?_getD, h]

theorem filterMap_ite {α β : Type} (p : α → Bool) (g : α → β) (f : α → Option β)
    (h : ∀ a, f a = if p a then some (g a) else none) : ∀ (l : List α), l.filterMap f = (l.filter p).map g := by
  intro l
  induction l with
  | nil => rfl
  | cons a t ih =>
    rw [List.filterMap_cons, List.filter_cons, h a, ih]
    cases p a <;> rfl

theorem filterMap_cons_toList {α β : Type} (f : α → Option β) (a : α) (l : List α) :
    (a :: l).filterMap f = (f a).toList ++ l.filterMap f := by
  rw [List.filterMap_cons]
  cases f a <;> rfl

theorem join_filter_map {α : Type} (f : α → Bool) (g : α → String) : ∀ (l : List α),
    String.join ((l.filter f).map g) = String.join (l.map fun a => if f a then g a else "") := by
  intro l
  induction l with
  | nil => rfl
  | cons a t ih =>
    by_cases h : f a = true
    · simp only [List.filter_cons, h, if_true, List.map_cons, String.join_cons, ih]
    · simp only [List.filter_cons, h, Bool.false_eq_true, if_false, List.map_cons, String.join_cons, ih, String.empty_append]

/-! ### `eraseDups` -/

section EraseDups
variable {α : Type} [BEq α]

theorem eraseDups_induction {P : List α → Prop} (nil : P [])
    (cons : ∀ a t, P (t.filter fun b => !b == a) → P (a :: t)) (l : List α) : P l := by
  generalize hn : l.length = n
  induction n using Nat.strongRecOn generalizing l with
  | _ n ih =>
    cases l with
    | nil => exact nil
    | cons a t =>
      refine cons a t (ih _ ?_ _ rfl)
      have := List.length_filter_le (fun b => !b == a) t
      rw [List.length_cons] at hn
      omega

theorem nodup_eraseDups [LawfulBEq α] (l : List α) : l.eraseDups.Nodup := by
  induction l using eraseDups_induction with
  | nil => exact List.nodup_nil
  | cons a t ih =>
    rw [List.eraseDups_cons, List.nodup_cons, List.mem_eraseDups, List.mem_filter]
    exact ⟨fun h => by simp at h, ih⟩

theorem eraseDups_eq_nil (l : List α) : l.eraseDups = [] ↔ l = [] := by
  cases l with
  | nil => simp
  | cons a t => simp [List.eraseDups_cons]

theorem eraseDups_shape [LawfulBEq α] (l : List α) :
    (l = [] ∧ l.eraseDups = []) ∨
    (∃ b, l ≠ [] ∧ (∀ x ∈ l, x = b) ∧ l.eraseDups = [b]) ∨
    (∃ a c t, l.eraseDups = a :: c :: t ∧ a ∈ l ∧ c ∈ l ∧ c ≠ a) := by
  cases l with
  | nil => exact .inl ⟨rfl, rfl⟩
  | cons a t =>
    right
    rw [List.eraseDups_cons]
    cases h : (t.filter fun b => !b == a).eraseDups with
    | nil =>
      refine .inl ⟨a, List.cons_ne_nil _ _, fun x hx => ?_, rfl⟩
      rcases List.mem_cons.1 hx with rfl | hx
      · rfl
      · simpa using List.filter_eq_nil_iff.1 ((eraseDups_eq_nil _).1 h) x hx
    | cons c t' =>
      have hc := List.mem_filter.1 (List.mem_eraseDups.1 (h ▸ List.mem_cons_self : c ∈ (t.filter fun b => !b == a).eraseDups))
      exact .inr ⟨a, c, t', rfl, List.mem_cons_self, List.mem_cons_of_mem _ hc.1, by simpa using hc.2⟩

theorem filter_eraseDups [LawfulBEq α] (p : α → Bool) (l : List α) : l.eraseDups.filter p = (l.filter p).eraseDups := by
  induction l using eraseDups_induction with
  | nil => rfl
  | cons a t ih =>
    rw [List.eraseDups_cons]
    by_cases hp : p a = true
    · simp only [List.filter_cons, hp, if_true]
      rw [List.eraseDups_cons, ih, filter_filter_comm]
    · simp only [List.filter_cons, hp, Bool.false_eq_true, if_false]
      rw [ih, List.filter_filter]
      congr 1
      apply List.filter_congr
      intro x _
      by_cases hx : x = a
      · subst hx; simp [hp]
      · simp [hx]

end EraseDups

/-! ### `takeWhile`, `mapM` -/

theorem takeWhile_dropWhile_map {α β : Type} (f : α → β) (p : α → Bool) (p' : β → Bool) : ∀ (l : List α),
    (∀ a ∈ l, p' (f a) = p a) →
    (l.map f).takeWhile p' = (l.takeWhile p).map f ∧ (l.map f).dropWhile p' = (l.dropWhile p).map f := by
  intro l
  induction l with
  | nil => intro _; exact ⟨rfl, rfl⟩
  | cons a t ih =>
    intro h
    obtain ⟨i1, i2⟩ := ih fun x hx => h x (List.mem_cons_of_mem _ hx)
    rw [List.map_cons, List.takeWhile_cons, List.dropWhile_cons, List.takeWhile_cons, List.dropWhile_cons,
      h a List.mem_cons_self]
    cases p a
    · exact ⟨rfl, rfl⟩
    · exact ⟨congrArg _ i1, i2⟩

theorem takeWhile_all {α : Type} (p : α → Bool) (l : List α) (h : ∀ x ∈ l, p x = true) : l.takeWhile p = l := by
  simpa using List.takeWhile_append_of_pos (l₂ := []) h

theorem takeWhile_append_stop {α : Type} (p : α → Bool) (b : α) (B : List α) (hb : p b = false) :
    ∀ (A : List α), (A ++ b :: B).takeWhile p = A.takeWhile p := by
  intro A
  induction A with
  | nil => simp [hb]
  | cons a t ih =>
    simp only [List.cons_append, List.takeWhile_cons]
    split
    · rw [ih]
    · rfl

theorem mapM_congr_map {α β : Type} (f : α → Option β) (l1 l2 : List α) (h : l1.map f = l2.map f) :
    l1.mapM f = l2.mapM f := by
  have e : ∀ l : List α, l.mapM f = (l.map f).mapM id := fun l => (List.mapM_map (f := f) (g := id)).symm
  rw [e, e, h]

theorem mapM_map_eq_some {α β γ : Type} (f : β → Option γ) (g : α → β) (h : α → γ) : ∀ (l : List α),
    (∀ x ∈ l, f (g x) = some (h x)) → (l.map g).mapM f = some (l.map h)
  | [], _ => rfl
  | a :: t, hl => by
    obtain ⟨ha, ht⟩ := List.forall_mem_cons.1 hl
    rw [List.map_cons, List.mapM_cons, ha, mapM_map_eq_some f g h t ht]
    rfl

theorem mapM_map_some {α β : Type} (f : β → Option α) (g : α → β) (l : List α) (h : ∀ x ∈ l, f (g x) = some x) :
    (l.map g).mapM f = some l :=
  (mapM_map_eq_some f g id l h).trans (by rw [List.map_id])

theorem mapM_cons_some {α β : Type} {f : α → Option β} {a : α} {t : List α} {ys : List β} (h : (a :: t).mapM f = some ys) :
    ∃ b bs, f a = some b ∧ t.mapM f = some bs ∧ ys = b :: bs := by
  rw [List.mapM_cons] at h
  cases ha : f a with
  | none => simp [ha] at h
  | some b =>
    cases ht : t.mapM f with
    | none => simp [ha, ht] at h
    | some bs => exact ⟨b, bs, rfl, rfl, by simpa [ha, ht] using h.symm⟩

theorem mapM_some_inv {α β : Type} (f : β → Option α) (g : α → β) (P : α → Prop)
    (hf : ∀ x a, f x = some a → x = g a ∧ P a) :
    ∀ (parts : List β) (as : List α), parts.mapM f = some as → parts = as.map g ∧ ∀ a ∈ as, P a := by
  intro parts
  induction parts with
  | nil => intro as h; simp at h; subst h; simp
  | cons x t ih =>
    intro as h
    obtain ⟨a, as', hx, ht, rfl⟩ := mapM_cons_some h
    have h1 := hf x a hx
    have h2 := ih as' ht
    exact ⟨by rw [List.map_cons, ← h1.1, ← h2.1], List.forall_mem_cons.2 ⟨h1.2, h2.2⟩⟩

end Gofasta.Lemmas
