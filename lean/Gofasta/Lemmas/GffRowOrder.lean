import Gofasta.Model.Regions
import Gofasta.Lemmas.SortSpec
import Gofasta.Lemmas.Bytes
import Gofasta.Lemmas.ListFacts
/-
The GFF3 rows of one coding feature may be listed in any order: CDSRegion2fromGFF first orders the rows by genomic
start with a stable sort (finding F-C14b: without the sort, the exons of a minus-strand feature listed in transcription
order were joined in the wrong order, `old_two_orders`; the reader without it is `regionFromGFFOld`, at the end of the file).

`sortRows` is the stable sort of the models for the order "smaller start": it does nothing to rows already listed by
non-decreasing start, and rows with pairwise distinct starts give the same region in whatever order they are listed.
The same for a whole annotation (`regionsFromGFF_any_order`, rows permuted inside each feature), and a file written
block by block under distinct IDs is read block by block (`regionsFromGFF_blocks`, on which `RegionEquiv.gff_annotation` stands).
-/
namespace Gofasta.Lemmas.GffRowOrder
open Gofasta Model

/-! ### `sortRows` is `sortStable` -/

def rowLt (a b : GffRow) : Bool := decide (a.start < b.start)

theorem rowLt_iff {a b : GffRow} : rowLt a b = true ↔ a.start < b.start := decide_eq_true_iff

theorem rowLt_false_iff {a b : GffRow} : rowLt a b = false ↔ b.start ≤ a.start := by
  rw [rowLt, decide_eq_false_iff_not, Nat.not_lt]

theorem rowLt_swo : SWO rowLt where
  asymm := by
    intro a b h
    rw [rowLt_iff] at h
    rw [rowLt_false_iff]
    omega
  negtrans := by
    intro a b c h
    simp only [rowLt_iff] at *
    omega

theorem insertRow_eq (r : GffRow) (l : List GffRow) : insertRow r l = insSorted rowLt r l := by
  induction l with
  | nil => rfl
  | cons x xs ih =>
    simp only [insertRow, insSorted, rowLt]
    by_cases h : r.start < x.start
    · simp [h]
    · simp [h, ih]

theorem sortRows_eq (rows : List GffRow) : sortRows rows = sortStable rowLt rows := by
  unfold sortRows sortStable
  congr 1
  funext acc r
  exact insertRow_eq r acc

def Ascending (rows : List GffRow) : Prop := rows.Pairwise (fun a b => a.start ≤ b.start)

theorem ascending_iff_sorted (rows : List GffRow) : Ascending rows ↔ Sorted rowLt rows :=
  List.Pairwise.iff fun _ _ => rowLt_false_iff.symm

theorem sortRows_of_sorted (rows : List GffRow) (h : Ascending rows) : sortRows rows = rows := by
  rw [sortRows_eq]
  exact sortStable_of_sorted rows ((ascending_iff_sorted rows).1 h)

theorem sortRows_perm_self (rows : List GffRow) : (sortRows rows).Perm rows := by
  rw [sortRows_eq]
  exact sortStable_perm rows

theorem sortRows_ascending (rows : List GffRow) : Ascending (sortRows rows) := by
  rw [sortRows_eq, ascending_iff_sorted]
  exact sorted_sortStable rowLt_swo rows

theorem sortRows_idem (rows : List GffRow) : sortRows (sortRows rows) = sortRows rows :=
  sortRows_of_sorted _ (sortRows_ascending rows)

/-! ### the region, in terms of the sorted rows -/

/-- what CDSRegion2fromGFF does with the ordered rows and the name: the body of `regionFromGFF` after its sort, so that
`regionFromGFF_eq` holds by unfolding. What it computes, by the strand of the first row: `Props.C14.regionOfSorted_plus`,
`_minus`, `_other`. -/
def regionOfSorted (name : String) (rows : List GffRow) (refDegapped : List Nat) : Option Region :=
  match rows with
  | [] => none
  | r0 :: _ =>
    match r0.strand with
    | "+" =>
      if rows.any (fun r => r.strand != "+") then none else
      let pos := (rows.zip (List.range rows.length)).flatMap fun (r, j) =>
        rangeUp (if j = 0 then r.start + r.phase else r.start) r.stop
      match translateGo true (refBasesAt refDegapped pos) with
      | some t => some { name := name, strand := 1, positions := pos, translation := t }
      | none => none
    | "-" =>
      if rows.any (fun r => r.strand != "-") then none else
      let n := rows.length
      let pos := ((rows.zip (List.range n)).reverse).flatMap fun (r, j) =>
        (rangeUp r.start (if j = n - 1 then r.stop - r.phase else r.stop)).reverse
      match translateGo true (complement (refBasesAt refDegapped pos)) with
      | some t => some { name := name, strand := -1, positions := pos, translation := t }
      | none => none
    | _ => none

/-- the reader depends on its rows only through the Name of the row listed first and the sorted rows -/
theorem regionFromGFF_eq (rows : List GffRow) (ref : List Nat) :
    regionFromGFF rows ref = (rows.head?.map (·.name)).bind fun n => regionOfSorted (n.getD "") (sortRows rows) ref := by
  cases rows with
  | nil => rfl
  | cons f0 t =>
    unfold regionFromGFF
    cases hs : sortRows (f0 :: t) <;> rfl

/-! ### the order of the rows of a feature does not matter -/

def DistinctStarts (rows : List GffRow) : Prop := rows.Pairwise (fun a b => a.start ≠ b.start)

theorem DistinctStarts.perm {rows1 rows2 : List GffRow} (h : DistinctStarts rows1) (hp : rows1.Perm rows2) :
    DistinctStarts rows2 :=
  (hp.pairwise_iff (fun h e => h e.symm)).1 h

theorem sortRows_perm (rows1 rows2 : List GffRow) (hp : rows1.Perm rows2) (hd : DistinctStarts rows1) :
    sortRows rows1 = sortRows rows2 := by
  rw [sortRows_eq, sortRows_eq]
  refine sort_perm_eq_of_no_ties (SPO.of_swo rowLt_swo) _ _ hp fun a ha b hb ht => inj_of_pairwise_ne GffRow.start hd a ha b hb ?_
  rw [tied_iff, rowLt_false_iff, rowLt_false_iff] at ht
  omega

/-- the rows of one feature listed in two orders (no two rows starting at the same base,
the same Name on the row listed first) give the same region, or the same refusal -/
theorem regionFromGFF_any_order (rows1 rows2 : List GffRow) (ref : List Nat) (hp : rows1.Perm rows2)
    (hd : DistinctStarts rows1) (hn : rows1.head?.map (·.name) = rows2.head?.map (·.name)) :
    regionFromGFF rows1 ref = regionFromGFF rows2 ref := by
  rw [regionFromGFF_eq, regionFromGFF_eq, sortRows_perm rows1 rows2 hp hd, hn]

theorem head_name_perm {rows1 rows2 : List GffRow} (hp : rows1.Perm rows2) (hn : ∀ a ∈ rows1, ∀ b ∈ rows1, a.name = b.name) :
    rows1.head?.map (·.name) = rows2.head?.map (·.name) := by
  match rows1, rows2, hp with
  | [], _, hp => rw [hp.nil_eq]
  | _ :: _, [], hp => exact absurd hp.length_eq (by simp)
  | a :: _, b :: _, hp => exact congrArg some (hn a List.mem_cons_self b (hp.mem_iff.2 List.mem_cons_self))

theorem regionFromGFF_any_order_of_names (rows1 rows2 : List GffRow) (ref : List Nat) (hp : rows1.Perm rows2)
    (hd : DistinctStarts rows1) (hn : ∀ a ∈ rows1, ∀ b ∈ rows1, a.name = b.name) :
    regionFromGFF rows1 ref = regionFromGFF rows2 ref :=
  regionFromGFF_any_order rows1 rows2 ref hp hd (head_name_perm hp hn)

/-- the two orders that occur in real files: ascending by start, and transcription order,
which on the minus strand is the reverse. Both give the same region -/
theorem regionFromGFF_reverse (rows : List GffRow) (ref : List Nat) (hd : DistinctStarts rows)
    (hn : ∀ a ∈ rows, ∀ b ∈ rows, a.name = b.name) :
    regionFromGFF rows.reverse ref = regionFromGFF rows ref :=
  (regionFromGFF_any_order_of_names rows rows.reverse ref (List.reverse_perm rows).symm hd hn).symm

theorem sortRows_reverse_of_sorted (rows : List GffRow) (h : Ascending rows) (hd : DistinctStarts rows) :
    sortRows rows.reverse = rows := by
  rw [← sortRows_perm rows rows.reverse (List.reverse_perm rows).symm hd]
  exact sortRows_of_sorted rows h

/-! ### a whole annotation -/

/-- the rows RegionsFromGFF keeps -/
def cds (rows : List GffRow) : List GffRow :=
  rows.filter fun r => r.type == "CDS" || r.type == "mature_protein_region_of_CDS"

def group (rows : List GffRow) (i : String) : List GffRow := (cds rows).filter fun r => r.id == some i

theorem group_sublist (rows : List GffRow) (i : String) : (group rows i).Sublist rows :=
  List.Sublist.trans List.filter_sublist List.filter_sublist

/-- the coding rows without ID (each is a feature of its own) -/
def orphans (rows : List GffRow) : List GffRow := (cds rows).filter fun r => r.id.isNone

theorem regionsFromGFF_eq (rows : List GffRow) (ref : List Nat) :
    regionsFromGFF rows ref =
      match ((idOrder (cds rows)).map (group rows) ++ (orphans rows).map fun r => [r]).mapM
          (fun g => regionFromGFF g ref) with
      | none => none
      | some temp =>
        some (sortStable regionStartLt (temp.filter fun r => r.name != ""),
          codes (sortStable regionStartLt (temp.filter fun r => r.name != "")) ref.length) := rfl

/-- two GFF3 files with the same rows in different orders give the same regions and the
same intergenic positions, provided the IDs appear for the first time in the same order, the rows without ID are
listed in the same order, inside a feature no two rows start at the same base and all rows carry the same Name.
In particular the rows of each feature may be permuted among themselves (ascending, transcription order, ...). -/
theorem regionsFromGFF_any_order (rows1 rows2 : List GffRow) (ref : List Nat) (hp : rows1.Perm rows2)
    (hid : idOrder (cds rows1) = idOrder (cds rows2)) (horph : orphans rows1 = orphans rows2)
    (hd : ∀ i, DistinctStarts (group rows1 i))
    (hn : ∀ i, ∀ a ∈ group rows1 i, ∀ b ∈ group rows1 i, a.name = b.name) :
    regionsFromGFF rows1 ref = regionsFromGFF rows2 ref := by
  rw [regionsFromGFF_eq, regionsFromGFF_eq, ← hid, ← horph]
  have hm : ((idOrder (cds rows1)).map (group rows1) ++ (orphans rows1).map fun r => [r]).mapM
        (fun g => regionFromGFF g ref) =
      ((idOrder (cds rows1)).map (group rows2) ++ (orphans rows1).map fun r => [r]).mapM
        (fun g => regionFromGFF g ref) := by
    apply mapM_congr_map
    simp only [List.map_append, List.map_map]
    congr 1
    apply List.map_congr_left
    intro i _
    have hpg : (group rows1 i).Perm (group rows2 i) := (hp.filter _).filter _
    exact regionFromGFF_any_order_of_names (group rows1 i) (group rows2 i) ref hpg (hd i) (hn i)
  rw [hm]

/-! #### files written feature by feature -/

/-- the step of `Model.idOrder`, which has it inline -/
def idStep (acc : List String) (r : GffRow) : List String :=
  match r.id with
  | some i => if acc.contains i then acc else acc ++ [i]
  | none => acc

theorem idOrder_eq (rows : List GffRow) : idOrder rows = rows.foldl idStep [] := rfl

/-- what a block of rows with the same ID does to the list of IDs seen: only the ID and whether the block is empty
matter -/
theorem fold_block (i : String) : ∀ (l : List GffRow) (acc : List String), (∀ r ∈ l, r.id = some i) →
    l.foldl idStep acc = if l.isEmpty then acc else if acc.contains i then acc else acc ++ [i] := by
  intro l
  induction l with
  | nil => intro acc _; rfl
  | cons r t ih =>
    intro acc hl
    have hr := hl r List.mem_cons_self
    have ht : ∀ r ∈ t, r.id = some i := fun r hr => hl r (List.mem_cons_of_mem _ hr)
    rw [List.foldl_cons, ih _ ht]
    have hs : idStep acc r = if acc.contains i then acc else acc ++ [i] := by simp only [idStep, hr]
    rw [hs]
    by_cases hc : i ∈ acc
    · cases t <;> simp [hc]
    · cases t <;> simp [hc]

def Blocks (gs : List (List GffRow)) : Prop := ∀ g ∈ gs, ∃ i, ∀ r ∈ g, r.id = some i

inductive SameBlocks : List (List GffRow) → List (List GffRow) → Prop where
  | nil : SameBlocks [] []
  | cons {g1 g2 t1 t2} : g1.Perm g2 → SameBlocks t1 t2 → SameBlocks (g1 :: t1) (g2 :: t2)

theorem fold_blocks : ∀ (gs1 gs2 : List (List GffRow)), SameBlocks gs1 gs2 → Blocks gs1 → ∀ acc,
    gs1.flatten.foldl idStep acc = gs2.flatten.foldl idStep acc := by
  intro gs1 gs2 h
  induction h with
  | nil => intro _ _; rfl
  | @cons g1 g2 t1 t2 hg _ ih =>
    intro hb acc
    obtain ⟨i, hi⟩ := hb g1 List.mem_cons_self
    have hi2 : ∀ r ∈ g2, r.id = some i := fun r hr => hi r (hg.mem_iff.2 hr)
    rw [List.flatten_cons, List.flatten_cons, List.foldl_append, List.foldl_append, fold_block i g1 acc hi,
      fold_block i g2 acc hi2, hg.isEmpty_eq]
    exact ih (fun g hg' => hb g (List.mem_cons_of_mem _ hg')) _

theorem sameBlocks_flatten : ∀ (gs1 gs2 : List (List GffRow)), SameBlocks gs1 gs2 →
    gs1.flatten.Perm gs2.flatten := by
  intro gs1 gs2 h
  induction h with
  | nil => exact List.Perm.refl _
  | cons hg _ ih =>
    rw [List.flatten_cons, List.flatten_cons]
    exact List.Perm.append hg ih

theorem sameBlocks_filter (p : GffRow → Bool) : ∀ (gs1 gs2 : List (List GffRow)), SameBlocks gs1 gs2 →
    SameBlocks (gs1.map (List.filter p)) (gs2.map (List.filter p)) := by
  intro gs1 gs2 h
  induction h with
  | nil => exact SameBlocks.nil
  | cons hg _ ih => exact SameBlocks.cons (hg.filter p) ih

/-- a file written feature by feature (`gs1`: one block of rows per feature, all
rows of a block with the block's ID) and the same file with the rows permuted INSIDE each block (`gs2`, e.g. every
minus-strand feature in transcription order instead of ascending) give the same regions and intergenic positions -/
theorem regionsFromGFF_blocks_any_order (gs1 gs2 : List (List GffRow)) (ref : List Nat)
    (hperm : SameBlocks gs1 gs2) (hb : Blocks gs1)
    (hd : ∀ i, DistinctStarts (group gs1.flatten i))
    (hn : ∀ i, ∀ a ∈ group gs1.flatten i, ∀ b ∈ group gs1.flatten i, a.name = b.name) :
    regionsFromGFF gs1.flatten ref = regionsFromGFF gs2.flatten ref := by
  have hp := sameBlocks_flatten gs1 gs2 hperm
  have hnone : orphans gs1.flatten = [] := by
    unfold orphans cds
    rw [List.filter_filter, List.filter_eq_nil_iff]
    intro r hr
    obtain ⟨g, hg, hrg⟩ := List.mem_flatten.1 hr
    obtain ⟨i, hi⟩ := hb g hg
    simp [hi r hrg]
  apply regionsFromGFF_any_order _ _ ref hp ?_ ?_ hd hn
  · -- the IDs appear in the same order
    have hc : ∀ (gs : List (List GffRow)), cds gs.flatten = (gs.map (List.filter fun r =>
        r.type == "CDS" || r.type == "mature_protein_region_of_CDS")).flatten := by
      intro gs; unfold cds; rw [List.filter_flatten]
    rw [hc, hc, idOrder_eq, idOrder_eq]
    apply fold_blocks _ _ (sameBlocks_filter _ gs1 gs2 hperm)
    intro g hg
    obtain ⟨g0, hg0, rfl⟩ := List.mem_map.1 hg
    obtain ⟨i, hi⟩ := hb g0 hg0
    exact ⟨i, fun r hr => hi r (List.mem_filter.1 hr).1⟩
  · -- the rows without ID of the second file are a permutation of those of the first, of which there are none
    have ho : (orphans gs1.flatten).Perm (orphans gs2.flatten) := (hp.filter _).filter _
    rw [hnone] at ho ⊢
    exact ho.nil_eq

/-! #### files written block by block with distinct IDs: the groups are the blocks

`l` lists the features (genes) of the file, `rowsOf a` the coding rows of feature `a` and `idOf a` its ID. Unlike `Blocks`
above, where an ID may come back in a later block and two files are compared, the IDs are distinct here, so that the
reader's groups are the blocks and `regionsFromGFF` of the one file can be computed block by block. -/

section blocks
variable {α : Type} (rowsOf : α → List GffRow) (idOf : α → String)
  (hid : ∀ a, ∀ r ∈ rowsOf a, r.id = some (idOf a)) (hne : ∀ a, rowsOf a ≠ [])
include hid

include hne in
theorem idOrder_blocks (l : List α) (hnd : (l.map idOf).Nodup) : idOrder (l.flatMap rowsOf) = l.map idOf := by
  have fold : ∀ (l : List α) (acc : List String), (acc ++ l.map idOf).Nodup →
      (l.flatMap rowsOf).foldl idStep acc = acc ++ l.map idOf := by
    intro l
    induction l with
    | nil => intro acc _; exact (List.append_nil _).symm
    | cons a t ih =>
      intro acc hnd
      have hi : idOf a ∉ acc := fun hm => (List.nodup_append.1 hnd).2.2 _ hm _ List.mem_cons_self rfl
      rw [List.flatMap_cons, List.foldl_append, fold_block (idOf a) (rowsOf a) acc (hid a),
        if_neg (by simpa using hne a), if_neg (by simpa using hi),
        ih _ (by rw [List.append_assoc]; exact hnd), List.append_assoc]
      rfl
  rw [idOrder_eq, fold l [] hnd]
  rfl

theorem filter_block : ∀ (l : List α), (l.map idOf).Nodup → ∀ a ∈ l,
    (l.flatMap rowsOf).filter (fun r => r.id == some (idOf a)) = rowsOf a := by
  intro l
  induction l with
  | nil => intro _ a ha; cases ha
  | cons b t ih =>
    intro hnd a ha
    rw [List.map_cons, List.nodup_cons] at hnd
    have other : ∀ (a b : α), idOf a ≠ idOf b → (rowsOf b).filter (fun r => r.id == some (idOf a)) = [] := by
      intro a b hne
      rw [List.filter_eq_nil_iff]
      intro r hr he
      rw [hid b r hr, beq_iff_eq] at he
      exact hne (Option.some.inj he).symm
    rw [List.flatMap_cons, List.filter_append]
    rcases List.mem_cons.1 ha with rfl | ha
    · have h2 : (t.flatMap rowsOf).filter (fun r => r.id == some (idOf a)) = [] := by
        rw [List.filter_flatMap, List.flatMap_eq_nil_iff]
        exact fun b hb => other a b fun e => hnd.1 (e ▸ List.mem_map_of_mem hb)
      rw [h2, List.append_nil, List.filter_eq_self]
      intro r hr
      rw [hid a r hr, beq_self_eq_true]
    · rw [other a b fun e => hnd.1 (e ▸ List.mem_map_of_mem ha), ih hnd.2 a ha, List.nil_append]

theorem no_orphans_blocks (l : List α) : (l.flatMap rowsOf).filter (fun r => r.id.isNone) = [] := by
  rw [List.filter_eq_nil_iff]
  intro r hr
  obtain ⟨a, _, hr'⟩ := List.mem_flatMap.1 hr
  rw [hid a r hr']
  exact Bool.false_ne_true

include hne in
theorem regionsFromGFF_blocks (rows : List GffRow) (ref : List Nat) (l : List α) (hrows : cds rows = l.flatMap rowsOf)
    (hnd : (l.map idOf).Nodup) :
    regionsFromGFF rows ref =
      match (l.map rowsOf).mapM (fun g => regionFromGFF g ref) with
      | none => none
      | some temp =>
        some (sortStable regionStartLt (temp.filter fun r => r.name != ""),
          codes (sortStable regionStartLt (temp.filter fun r => r.name != "")) ref.length) := by
  rw [regionsFromGFF_eq]
  unfold group orphans
  rw [hrows, idOrder_blocks rowsOf idOf hid hne l hnd, no_orphans_blocks rowsOf idOf hid, List.map_nil, List.append_nil,
    List.map_map,
    show l.map ((fun i => (l.flatMap rowsOf).filter fun r => r.id == some i) ∘ idOf) = l.map rowsOf from
      List.map_congr_left fun a ha => filter_block rowsOf idOf hid l hnd a ha]

end blocks

/-! ### the reader without the sort, and what the sort changes -/

/-- CDSRegion2fromGFF BEFORE fix a19382f: the rows are read in file order -/
def regionFromGFFOld (rows : List GffRow) (refDegapped : List Nat) : Option Region :=
  match rows with
  | [] => none
  | r0 :: _ =>
    let name := r0.name.getD ""
    match r0.strand with
    | "+" =>
      if rows.any (fun r => r.strand != "+") then none else
      let pos := (rows.zip (List.range rows.length)).flatMap fun (r, j) =>
        rangeUp (if j = 0 then r.start + r.phase else r.start) r.stop
      match translateGo true (refBasesAt refDegapped pos) with
      | some t => some { name := name, strand := 1, positions := pos, translation := t }
      | none => none
    | "-" =>
      if rows.any (fun r => r.strand != "-") then none else
      let n := rows.length
      let pos := ((rows.zip (List.range n)).reverse).flatMap fun (r, j) =>
        (rangeUp r.start (if j = n - 1 then r.stop - r.phase else r.stop)).reverse
      match translateGo true (complement (refBasesAt refDegapped pos)) with
      | some t => some { name := name, strand := -1, positions := pos, translation := t }
      | none => none
    | _ => none

theorem regionFromGFFOld_eq (rows : List GffRow) (ref : List Nat) :
    regionFromGFFOld rows ref = (rows.head?.map (·.name)).bind fun n => regionOfSorted (n.getD "") rows ref := by
  cases rows <;> rfl

theorem regionFromGFF_eq_old_sorted (rows : List GffRow) (ref : List Nat) (hn : ∀ a ∈ rows, ∀ b ∈ rows, a.name = b.name) :
    regionFromGFF rows ref = regionFromGFFOld (sortRows rows) ref := by
  rw [regionFromGFF_eq, regionFromGFFOld_eq, head_name_perm (sortRows_perm_self rows).symm hn]

theorem regionFromGFF_eq_old_of_sorted (rows : List GffRow) (ref : List Nat) (h : Ascending rows) :
    regionFromGFF rows ref = regionFromGFFOld rows ref := by
  rw [regionFromGFF_eq, regionFromGFFOld_eq, sortRows_of_sorted rows h]

/-- a minus-strand gene complement(join(3..8,12..14)): the coding strand reads ATG AAA TAA -/
def exRef : List Nat := stringToBytes "CCTTATTTGGGCATCC"
def exRowA : GffRow := ⟨"CDS", 3, 8, "-", 0, some "cds-g", some "g"⟩
def exRowB : GffRow := ⟨"CDS", 12, 14, "-", 0, some "cds-g", some "g"⟩

/-- the old reader on the two orders: ascending gives MK*, transcription order (5'-most row first) gives the codons of
the second exon first -/
theorem old_two_orders :
    (regionFromGFFOld [exRowA, exRowB] exRef).map (fun r => (r.positions, bytesToString r.translation)) =
      some ([14, 13, 12, 8, 7, 6, 5, 4, 3], "MK*") ∧
    (regionFromGFFOld [exRowB, exRowA] exRef).map (fun r => (r.positions, bytesToString r.translation)) =
      some ([8, 7, 6, 5, 4, 3, 14, 13, 12], "K*M") := by
  rw [exRef, stringToBytes_ofList]
  decide +kernel

/-- without the sort the region depends on the order in which the file lists the rows of a minus-strand feature
(finding F-C14b) -/
theorem old_order_dependent : regionFromGFFOld [exRowB, exRowA] exRef ≠ regionFromGFFOld [exRowA, exRowB] exRef := by
  intro h
  have h1 := old_two_orders.1
  have h2 := old_two_orders.2
  rw [h, h1] at h2
  revert h2
  decide

theorem new_two_orders :
    regionFromGFF [exRowB, exRowA] exRef = regionFromGFF [exRowA, exRowB] exRef ∧
    (regionFromGFF [exRowB, exRowA] exRef).map (fun r => (r.positions, bytesToString r.translation)) =
      some ([14, 13, 12, 8, 7, 6, 5, 4, 3], "MK*") := by
  refine ⟨regionFromGFF_reverse [exRowA, exRowB] exRef (by simp [DistinctStarts, exRowA, exRowB]) ?_,
    by rw [exRef, stringToBytes_ofList]; decide +kernel⟩
  intro a ha b hb
  simp only [List.mem_cons, List.not_mem_nil, or_false] at ha hb
  rcases ha with rfl | rfl <;> rcases hb with rfl | rfl <;> rfl

/-- non-vacuity of the whole-file theorem: the file with this one feature, in the two orders -/
example : regionsFromGFF [exRowB, exRowA] exRef = regionsFromGFF [exRowA, exRowB] exRef := by
  have hl : ∀ r ∈ [exRowA, exRowB], r = exRowA ∨ r = exRowB := by
    intro r hr; simpa using hr
  have h := regionsFromGFF_blocks_any_order [[exRowA, exRowB]] [[exRowB, exRowA]] exRef
    (.cons (List.Perm.swap exRowB exRowA []) .nil)
    (by intro g hg
        rw [List.mem_singleton] at hg
        subst hg
        exact ⟨"cds-g", fun r hr => by rcases hl r hr with rfl | rfl <;> rfl⟩)
    (fun i => List.Pairwise.sublist (group_sublist _ i) (by simp [exRowA, exRowB]))
    (fun i a ha b hb => by
      rcases hl a ((group_sublist _ i).subset ha) with rfl | rfl <;>
        rcases hl b ((group_sublist _ i).subset hb) with rfl | rfl <;> rfl)
  exact h.symm

/-- and this is what both give: one region, the right codons -/
example : (regionsFromGFF [exRowB, exRowA] exRef).map (fun x => x.1.map (fun r => (r.name, r.strand))) =
      some [("g", (-1 : Int))] ∧
    (regionsFromGFF [exRowB, exRowA] exRef).map (fun x => x.1.map (fun r => (r.positions, bytesToString r.translation))) =
      some [([14, 13, 12, 8, 7, 6, 5, 4, 3], "MK*")] ∧
    (regionsFromGFF [exRowB, exRowA] exRef).map (·.2) = some [1, 2, 9, 10, 11, 15, 16] := by
  rw [exRef, stringToBytes_ofList]
  decide +kernel

/-- distinct starts are needed in `sortRows_perm`: two rows starting at the same base keep their file order (the sort is
stable), so the two orders of such a feature are sorted into different lists -/
theorem same_start_order_dependent :
    sortRows [⟨"CDS", 3, 8, "+", 0, none, some "a"⟩, ⟨"CDS", 3, 5, "+", 0, none, some "a"⟩] ≠
      sortRows [⟨"CDS", 3, 5, "+", 0, none, some "a"⟩, ⟨"CDS", 3, 8, "+", 0, none, some "a"⟩] := by
  intro h
  have := congrArg (fun l => l.map (·.stop)) h
  revert this
  decide

end Gofasta.Lemmas.GffRowOrder
