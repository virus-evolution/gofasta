import Gofasta.Lemmas.FastaReader
import Gofasta.Lemmas.FromBytesSam
import Gofasta.Lemmas.GffFasta
import Gofasta.Lemmas.CsvFasta
import Gofasta.Lemmas.SamVarPipeline
import Gofasta.Driver.Dispatch
/-
Refusals (C18 at COMMAND level) - invalid or inconsistent input makes the whole command model return its error result
("!error", `none`), wherever the defect sits; and what is returned as success is never partial.

Props/C18 proves the refusals of the individual readers and checks. Here the command models that start from
already-read records (`snpsOutput`, `snpsAggregate`, `udListOutput`, `modelTR`, the model side of `runC06`, `varCommand`)
and `topaOfText` (SAM text, but a reference already read) are composed with the reader models (`readFasta`, `readFastaList`, `readUDL`) and the checks of
Model/Validate into commands ON BYTES: `snpsOnText`, `listOnText`, `closestOnText`, `trOnText`, `varOnText`,
`topaOnTexts`, `samVarOnText`. For snps, updown list and topranking the success branch is shown to be the command model
and nothing else (`*_valid`); for the other four there is no such statement.
A defect of a FASTA file is a lemma on lines (`Fails`; a defect of one line through `Props.C18.error_anywhere` for
"wherever it sits", rows of unequal length and "no partial success" through `Lemmas/FastaReader`, which says exactly
what the readers accept). Bad symbol, rows of unequal length and the empty file also have the form
`∃ e, readFasta m text = .error e`, which the command lemmas apply; no leading header, a header without ID, one single
header and a trailing header stay on lines. `snpsOnText`, `listOnText`, `closestOnText`, `trOnText` and the command
models `varCommand`, `toMultiAlign`, `toPairAlign`, `tomaOfText`, `topaOfText`, `samVarCore` have a theorem saying
exactly when they give the error result (`*_error_iff`, `*_none_iff`); `varOnText`, `topaOnTexts`, `samVarOnText` have
sufficient conditions only.
A defect is stated on the scanned lines (`splitLines text = ...`), which covers every layout; `splitLines_render` turns
it into a statement on the bytes of a written file (`*_rendered`). A missing file is not expressible: opening a file
is not modelled.

What the command models do NOT refuse, each with a concrete input evaluated by the kernel (last section):
  * `variants` and `sam variants` accept any window, start > end included; the models contain no window check
    (`varCommand_window_not_checked`, `samVarCore_window_not_checked`);
  * `variants` treats every annotation format other than "gb" as GFF (`variants_unknown_format_accepted`);
  * a window coordinate -1 means "absent" and is never refused (`minus_one_is_absent`);
  * toPairAlign does not compare the reference sequence with the @SQ length (`topa_reference_length_not_checked`).
A last record without sequence is refused like every other row of another length (`fails_trailing_header`,
`trailing_header_refused`; the loop end of the Go readers before their repair: `Props.C16.old_finish_dropped_last`).
-/

namespace Gofasta.Lemmas.Refusals
open Gofasta Base Model Spec Driver Lemmas

/-! ## 1. The FASTA readers on whole files -/

def Fails (m : Mode) (s : RdState) (lines : List (List Nat)) : Prop :=
  ∃ e, (rdLines m s lines).bind rdFinish = .error e

theorem fails_of_step_error {m : Mode} {s : RdState} {l : List Nat} {rest : List (List Nat)} {e : List FaRec × RdErr}
    (h : rdStep m s l = .error e) : Fails m s (l :: rest) :=
  ⟨e, by simp [rdLines, h, Except.bind]⟩

theorem fails_step_ok {m : Mode} {s s' : RdState} {l : List Nat} {rest : List (List Nat)}
    (h : rdStep m s l = .ok s') : Fails m s (l :: rest) ↔ Fails m s' rest := by
  unfold Fails
  simp [rdLines, h]

theorem fails_nil {m : Mode} {s : RdState} {e : List FaRec × RdErr} (h : rdFinish s = .error e) : Fails m s [] :=
  ⟨e, h⟩

theorem fails_of_lines_error {m : Mode} {s : RdState} {lines : List (List Nat)} {e : List FaRec × RdErr}
    (h : rdLines m s lines = .error e) : Fails m s lines :=
  ⟨e, by rw [h]; rfl⟩

theorem fails_blanks {m : Mode} {s : RdState} {rest : List (List Nat)} :
    ∀ blanks : List (List Nat), (∀ x ∈ blanks, x = []) → Fails m s rest → Fails m s (blanks ++ rest)
  | [], _, h => h
  | b :: t, hb, h => by
    obtain rfl := hb b (by simp)
    exact (fails_step_ok (Props.C16.blank_total m s)).2 (fails_blanks t (fun x hx => hb x (by simp [hx])) h)

theorem readFasta_of_fails (m : Mode) (text : List Nat) (h : Fails m {} (splitLines text)) :
    ∃ e, readFasta m text = .error e := by
  rw [readFasta_eq_bind]
  exact h

theorem readFastaList_of_fails (hard : Bool) (text : List Nat) (h : Fails (.encoded hard) {} (splitLines text)) :
    ∃ e, readFastaList hard text = .error e := by
  obtain ⟨e, he⟩ := readFasta_of_fails _ _ h
  exact ⟨e.2, by simp [readFastaList, he]⟩


theorem fails_anywhere {m : Mode} {l : List Nat} (h : ∀ s, ∃ e, rdStep m s l = .error e) (pre : List (List Nat))
    (s : RdState) (post : List (List Nat)) : Fails m s (pre ++ l :: post) :=
  (Props.C18.error_anywhere h pre s post).elim fun _ => fails_of_lines_error

/-! ### 1a. a symbol outside the alphabet, anywhere in the file -/

theorem fails_bad_symbol (hard : Bool) (pre : List (List Nat)) (s : RdState) (bad : List Nat) (post : List (List Nat))
    (hs : SeqLine bad) (hb : ∃ b ∈ bad, enc hard b = 0) :
    Fails (.encoded hard) s (pre ++ bad :: post) :=
  fails_anywhere (fun s => Props.C18.rdStep_bad_symbol hard s bad hs hb) pre s post

theorem readFasta_bad_symbol (hard : Bool) (text : List Nat) (pre post : List (List Nat)) (bad : List Nat)
    (hl : splitLines text = pre ++ bad :: post) (hs : SeqLine bad)
    (hb : ∃ b ∈ bad, enc hard b = 0) : ∃ e, readFasta (.encoded hard) text = .error e :=
  readFasta_of_fails _ _ (hl ▸ fails_bad_symbol hard pre {} bad post hs hb)

/-! ### 1b. no record, no leading header, a header without an ID -/

/-- **empty file**: no line, or blank lines only -/
theorem readFasta_empty (m : Mode) (text : List Nat) (h : ∀ l ∈ splitLines text, l = []) :
    ∃ e, readFasta m text = .error e :=
  readFasta_of_fails _ _ (List.append_nil (splitLines text) ▸ fails_blanks _ h (fails_nil Props.C16.no_records))

theorem fails_no_leading_header (m : Mode) (blanks : List (List Nat)) (l : List Nat) (rest : List (List Nat))
    (hb : ∀ x ∈ blanks, x = []) (hne : l ≠ []) (hh : l.head? ≠ some 62) : Fails m {} (blanks ++ l :: rest) :=
  fails_blanks blanks hb (fails_of_step_error (Props.C16.no_leading_header m l hne hh))

theorem fails_header_without_id (m : Mode) : ∀ (pre : List (List Nat)) (s : RdState) (d : List Nat) (post : List (List Nat)),
    firstField d = none → Fails m s (pre ++ (62 :: d) :: post) :=
  fun pre s _ post hd => fails_anywhere (fun s => ⟨_, rdStep_header_no_id m s hd⟩) pre s post

/-- the only shape in which a last header without a sequence is not a record of length 0: nothing was emitted before it
and its buffer is empty -/
theorem fails_single_header (m : Mode) (d : List Nat) (blanks : List (List Nat)) (hb : ∀ x ∈ blanks, x = []) :
    Fails m {} ((62 :: d) :: blanks) := by
  cases hid : firstField d with
  | none => exact fails_of_step_error (rdStep_header_no_id m _ hid)
  | some id =>
    refine (fails_step_ok (rdStep_first_header m d id hid)).2 ?_
    exact List.append_nil blanks ▸ fails_blanks blanks hb (fails_nil (Props.C16.no_records_single_header _ rfl rfl))

/-! ### 1c. rows of unequal length -/

/-- **rows of unequal length** - some record after the first has another width than the first: refused by every reader,
wherever that record is, a LAST record with an EMPTY sequence (a trailing header) included (`fails_trailing_header`).
The statement is about files with at least two records, so the one shape that is "no record" rather than "unequal
rows" (one single header without sequence, `fails_single_header`) does not occur here -/
theorem fails_unequal_rows (m : Mode) (r0 : LRec) (pre : List LRec) (r : LRec) (post : List LRec)
    (hseq : ∀ x ∈ r0 :: pre ++ r :: post, ∀ l ∈ x.chunks, SeqLine l)
    (hw : r.seq.length ≠ r0.seq.length) :
    Fails m {} (renderLines (r0 :: pre ++ r :: post)) := by
  cases hb : (rdLines m {} (renderLines (r0 :: pre ++ r :: post))).bind rdFinish with
  | error e => exact ⟨e, hb⟩
  | ok out =>
    obtain ⟨_, _, e, h, -⟩ := read_ok_records m _ hseq out hb
    cases e
    exact absurd (h (normId r) (List.mem_map_of_mem (by simp))).hlen hw

theorem fails_trailing_header (m : Mode) (r0 : LRec) (pre : List LRec) (id d : List Nat)
    (hseq : ∀ x ∈ r0 :: pre, ∀ l ∈ x.chunks, SeqLine l) (hpos : r0.seq ≠ []) :
    Fails m {} (renderLines (r0 :: pre ++ [⟨id, d, []⟩])) := by
  refine fails_unequal_rows m r0 pre ⟨id, d, []⟩ [] (fun x hx l hl => ?_) fun h => hpos (List.eq_nil_of_length_eq_zero h.symm)
  simp only [List.mem_cons, List.mem_append, List.mem_nil_iff, or_false] at hx
  rcases hx with (rfl | h) | rfl
  · exact hseq _ (by simp) l hl
  · exact hseq x (by simp [h]) l hl
  · exact nomatch hl

theorem readFasta_unequal_rows (m : Mode) (text : List Nat) (r0 : LRec) (pre : List LRec) (r : LRec) (post : List LRec)
    (hl : splitLines text = renderLines (r0 :: pre ++ r :: post))
    (hseq : ∀ x ∈ r0 :: pre ++ r :: post, ∀ l ∈ x.chunks, SeqLine l)
    (hw : r.seq.length ≠ r0.seq.length) : ∃ e, readFasta m text = .error e :=
  readFasta_of_fails _ _ (hl ▸ fails_unequal_rows m r0 pre r post hseq hw)


/-! ### 1d. no partial success: what a reader returns as success holds at least one record, all of one width -/

theorem readFasta_ok_widths (m : Mode) (text : List Nat) (rs : List FaRec) (h : readFasta m text = .ok rs) :
    rs ≠ [] ∧ ∃ W, ∀ r ∈ rs, r.seq.length = W := by
  obtain ⟨r0, rs', -, hwf, -, rfl⟩ := (readFasta_ok_iff m text rs).1 h
  refine ⟨by simp [recsFrom], r0.seq.length, fun x hx => ?_⟩
  obtain ⟨y, hy, e⟩ := recsFrom_seq (gOf m) _ 0 x hx
  rw [e, List.length_map, (hwf y hy).hlen]


/-- `Props.C16.last_record_checked` with the stored width replaced by what it stands for: the length of a record
delivered before -/
theorem last_record_checked_records (m : Mode) (text : List Nat) (s : RdState)
    (hl : rdLines m {} (splitLines text) = .ok s) (r : FaRec) (hr : r ∈ s.out) (hw : s.buf.length ≠ r.seq.length) :
    readFasta m text = .error (s.out, .diffLen) := by
  rcases rdLines_ok_cases m _ {} s (.inl rfl) hl with rfl | ⟨W, pre, z, hpre, -, rfl⟩
  · cases hr
  · obtain ⟨y, hy, e⟩ := recsFrom_seq (gOf m) pre 0 r hr
    have hne : pre ≠ [] := List.ne_nil_of_mem hy
    refine Props.C16.last_record_checked m text _ hl (List.length_pos_iff.2 hne) ?_
    rw [e, List.length_map, hpre y hy] at hw
    simpa [pending, hne] using hw


/-! ## 2. Commands on an alignment file: with a reference file (snps, updown list; topranking in section 3), or with
a second alignment (closest) -/

/-- the error result of the commands on bytes defined in this file. The command models they end in (`modelTR`,
`varCommand`, `optText`, `topaText`, `samVarCore`) write the literal, and so do the statements about those -/
def errorOut : String := "!error"

/-- every success output of a command model starts with its CSV header -/
theorem ne_error (c : Char) (cs : List Char) (x : String) (hc : c ≠ '!') : String.ofList (c :: cs) ++ x ≠ errorOut := by
  intro e
  have e2 := congrArg String.toList e
  rw [String.toList_append, String.toList_ofList, errorOut, String.toList_ofList] at e2
  exact hc (List.cons.inj e2).1

/-- the reference file of snps, updown list, topranking: read whole with the list reader; it must hold exactly one
record (`refusesReferenceCount`; no record at all is already a reader error) -/
def refOfText (hard : Bool) (refText : List Nat) : Option FaRec :=
  match readFastaList hard refText with
  | .error _ => none
  | .ok rs => if refusesReferenceCount rs.length then none else rs.head?

/-- the alignment file of these commands: read with the streaming reader; every row must be as wide as the reference
(`refusesWidths`) -/
def rowsOfText (hard : Bool) (ref : FaRec) (text : List Nat) : Option (List FaRec) :=
  match readFasta (.encoded hard) text with
  | .error _ => none
  | .ok qs => if refusesWidths ref.seq.length (qs.map fun q => q.seq.length) then none else some qs

/-- reader, validation, then the command `k` on the encoded records: the shape shared by snps and updown list -/
def alignedCommand (hard : Bool) (refText qText : List Nat) (k : FaRec → List FaRec → String) : String :=
  match refOfText hard refText with
  | none => errorOut
  | some ref =>
    match rowsOfText hard ref qText with
    | none => errorOut
    | some qs => k ref qs

theorem refOfText_eq_some (hard : Bool) (refText : List Nat) (r : FaRec) :
    refOfText hard refText = some r ↔ readFastaList hard refText = .ok [r] := by
  unfold refOfText
  cases readFastaList hard refText with
  | error e => simp
  | ok rs =>
    match rs with
    | [] => simp [refusesReferenceCount]
    | [x] => simp [refusesReferenceCount]
    | x :: y :: t => simp [refusesReferenceCount]

theorem rowsOfText_eq_some (hard : Bool) (ref : FaRec) (text : List Nat) (qs : List FaRec) :
    rowsOfText hard ref text = some qs ↔
      readFasta (.encoded hard) text = .ok qs ∧ ∀ q ∈ qs, q.seq.length = ref.seq.length := by
  unfold rowsOfText
  cases readFasta (.encoded hard) text with
  | error e => simp
  | ok rs =>
    have hw : refusesWidths ref.seq.length (rs.map fun q => q.seq.length) = true ↔
        ¬ ∀ q ∈ rs, q.seq.length = ref.seq.length := by
      simp [refusesWidths]
    simp only [Except.ok.injEq]
    by_cases hall : ∀ q ∈ rs, q.seq.length = ref.seq.length
    · rw [if_neg fun h => hw.1 h hall]
      constructor
      · intro h; cases h; exact ⟨rfl, hall⟩
      · rintro ⟨rfl, _⟩; rfl
    · rw [if_pos (hw.2 hall)]
      exact iff_of_false (fun h => nomatch h) fun ⟨h1, h2⟩ => hall (h1 ▸ h2)

theorem refOfText_of_error (hard : Bool) (refText : List Nat) (h : ∃ e, readFasta (.encoded hard) refText = .error e) :
    refOfText hard refText = none := by
  obtain ⟨e, he⟩ := h
  simp [refOfText, readFastaList, he]

theorem rowsOfText_of_error (hard : Bool) (ref : FaRec) (text : List Nat)
    (h : ∃ e, readFasta (.encoded hard) text = .error e) : rowsOfText hard ref text = none := by
  obtain ⟨e, he⟩ := h
  simp [rowsOfText, he]

theorem refOfText_two_records (hard : Bool) (refText : List Nat) (rs : List FaRec)
    (h : readFasta (.encoded hard) refText = .ok rs) (hn : 1 < rs.length) : refOfText hard refText = none := by
  simp [refOfText, readFastaList, h, Props.C18.reference_count_refused rs.length hn]

theorem rowsOfText_width_mismatch (hard : Bool) (ref : FaRec) (text : List Nat) (qs : List FaRec)
    (h : readFasta (.encoded hard) text = .ok qs) (hw : ∃ q ∈ qs, q.seq.length ≠ ref.seq.length) :
    rowsOfText hard ref text = none := by
  obtain ⟨q, hq, hne⟩ := hw
  refine Option.eq_none_iff_forall_ne_some.2 fun qs' hs => ?_
  obtain ⟨h1, h2⟩ := (rowsOfText_eq_some hard ref text qs').1 hs
  cases h.symm.trans h1
  exact hne (h2 q hq)

section aligned
variable (hard : Bool) (refText qText : List Nat) (k : FaRec → List FaRec → String)

theorem aligned_ref_refused (h : refOfText hard refText = none) : alignedCommand hard refText qText k = errorOut := by
  simp [alignedCommand, h]

theorem aligned_query_error (h : ∃ e, readFasta (.encoded hard) qText = .error e) : alignedCommand hard refText qText k = errorOut := by
  unfold alignedCommand
  cases refOfText hard refText with
  | none => rfl
  | some ref => simp [rowsOfText_of_error hard ref qText h]

theorem aligned_ref_error (h : ∃ e, readFasta (.encoded hard) refText = .error e) : alignedCommand hard refText qText k = errorOut :=
  aligned_ref_refused hard refText qText k (refOfText_of_error hard refText h)

theorem aligned_width_mismatch (ref : FaRec) (qs : List FaRec) (hr : refOfText hard refText = some ref)
    (hq : readFasta (.encoded hard) qText = .ok qs) (hw : ∃ q ∈ qs, q.seq.length ≠ ref.seq.length) :
    alignedCommand hard refText qText k = errorOut := by
  simp [alignedCommand, hr, rowsOfText_width_mismatch hard ref qText qs hq hw]

theorem aligned_error_iff (hk : ∀ ref qs, k ref qs ≠ errorOut) :
    alignedCommand hard refText qText k = errorOut ↔
      (refOfText hard refText = none ∨ ∃ ref, refOfText hard refText = some ref ∧ rowsOfText hard ref qText = none) := by
  unfold alignedCommand
  cases hr : refOfText hard refText with
  | none => simp
  | some ref =>
    simp only [reduceCtorEq, Option.some.injEq, false_or, exists_eq_left']
    cases hq : rowsOfText hard ref qText with
    | none => simp
    | some qs => simpa using hk ref qs

end aligned

theorem aligned_not_refused (hard : Bool) (refText qText : List Nat) (k : FaRec → List FaRec → String)
    (h : alignedCommand hard refText qText k ≠ errorOut) :
    ∃ ref qs, readFastaList hard refText = .ok [ref] ∧ readFasta (.encoded hard) qText = .ok qs ∧ qs ≠ [] ∧
      (∀ q ∈ qs, q.seq.length = ref.seq.length) ∧ alignedCommand hard refText qText k = k ref qs := by
  cases hr : refOfText hard refText with
  | none => simp [alignedCommand, hr] at h
  | some ref =>
    cases hq : rowsOfText hard ref qText with
    | none => simp [alignedCommand, hr, hq] at h
    | some qs =>
      obtain ⟨h1, h2⟩ := (rowsOfText_eq_some hard ref qText qs).1 hq
      exact ⟨ref, qs, (refOfText_eq_some hard refText ref).1 hr, h1, (readFasta_ok_widths _ _ _ h1).1, h2,
        by simp [alignedCommand, hr, hq]⟩


/-! ### 2a. `snps` and `updown list` on the bytes of their two files -/

/-- a record as the (name, sequence bytes) pair the command models take: the codes decoded back to symbols (the
models encode again; for what a reader returned this gives the codes back: `Props.C11.reencode`, stated there for
`enc false`; `dec_enc` and `enc_upper` give it for either table) -/
def rawOf (r : FaRec) : String × List Nat := (bytesToString r.id, r.seq.map dec)

/-- `gofasta snps` (per-sequence or aggregate form) on the bytes of the reference file and of the query alignment -/
def snpsOnText (hard agg : Bool) (thrNum thrDen : Nat) (refText qText : List Nat) : String :=
  alignedCommand hard refText qText fun ref qs =>
    if agg then snpsAggregate hard thrNum thrDen (ref.seq.map dec) (qs.map rawOf)
    else snpsOutput hard (ref.seq.map dec) (qs.map rawOf)

/-- `gofasta updown list` on the bytes of the reference file and of the query alignment -/
def listOnText (refText qText : List Nat) : String :=
  alignedCommand false refText qText fun ref qs => udListOutput (ref.seq.map dec) (qs.map rawOf)

/-- **snps: exactly the refusals of the readers and of the two checks** - the reference file is not one readable record
or the alignment is not readable rows of its width -/
theorem snpsOnText_error_iff (hard agg : Bool) (n d : Nat) (refText qText : List Nat) :
    snpsOnText hard agg n d refText qText = errorOut ↔
      (refOfText hard refText = none ∨ ∃ ref, refOfText hard refText = some ref ∧ rowsOfText hard ref qText = none) := by
  apply aligned_error_iff
  intro ref qs
  cases agg
  · exact ne_error 'q' _ _ (by decide)
  · exact ne_error 'S' _ _ (by decide)

theorem listOnText_error_iff (refText qText : List Nat) :
    listOnText refText qText = errorOut ↔
      (refOfText false refText = none ∨ ∃ ref, refOfText false refText = some ref ∧ rowsOfText false ref qText = none) :=
  aligned_error_iff false refText qText _ fun _ _ => ne_error 'q' _ _ (by decide)

section snps
variable (hard agg : Bool) (n d : Nat) (refText qText : List Nat)

theorem snpsOnText_bad_symbol (pre post : List (List Nat)) (bad : List Nat)
    (hl : splitLines qText = pre ++ bad :: post) (hne : bad ≠ []) (hh : bad.head? ≠ some 62)
    (hb : ∃ b ∈ bad, enc hard b = 0) : snpsOnText hard agg n d refText qText = errorOut :=
  aligned_query_error _ _ _ _ (readFasta_bad_symbol hard qText pre post bad hl ⟨hne, hh⟩ hb)

theorem snpsOnText_bad_symbol_ref (pre post : List (List Nat)) (bad : List Nat)
    (hl : splitLines refText = pre ++ bad :: post) (hne : bad ≠ []) (hh : bad.head? ≠ some 62)
    (hb : ∃ b ∈ bad, enc hard b = 0) : snpsOnText hard agg n d refText qText = errorOut :=
  aligned_ref_error _ _ _ _ (readFasta_bad_symbol hard refText pre post bad hl ⟨hne, hh⟩ hb)

theorem snpsOnText_unequal_rows (r0 : LRec) (pre : List LRec) (r : LRec) (post : List LRec)
    (hl : splitLines qText = renderLines (r0 :: pre ++ r :: post))
    (hseq : ∀ x ∈ r0 :: pre ++ r :: post, ∀ l ∈ x.chunks, SeqLine l)
    (hw : r.seq.length ≠ r0.seq.length) :
    snpsOnText hard agg n d refText qText = errorOut :=
  aligned_query_error _ _ _ _ (readFasta_unequal_rows _ qText r0 pre r post hl hseq hw)

theorem snpsOnText_empty_file (h : ∀ l ∈ splitLines qText, l = []) : snpsOnText hard agg n d refText qText = errorOut :=
  aligned_query_error _ _ _ _ (readFasta_empty _ _ h)

theorem snpsOnText_empty_ref (h : ∀ l ∈ splitLines refText, l = []) : snpsOnText hard agg n d refText qText = errorOut :=
  aligned_ref_error _ _ _ _ (readFasta_empty _ _ h)

theorem snpsOnText_two_references (rs : List FaRec) (h : readFasta (.encoded hard) refText = .ok rs) (hn : 1 < rs.length) :
    snpsOnText hard agg n d refText qText = errorOut :=
  aligned_ref_refused _ _ _ _ (refOfText_two_records hard refText rs h hn)

theorem snpsOnText_width_mismatch (ref : FaRec) (qs : List FaRec) (hr : refOfText hard refText = some ref)
    (hq : readFasta (.encoded hard) qText = .ok qs) (hw : ∃ q ∈ qs, q.seq.length ≠ ref.seq.length) :
    snpsOnText hard agg n d refText qText = errorOut :=
  aligned_width_mismatch _ _ _ _ ref qs hr hq hw

end snps

section list
variable (refText qText : List Nat)

theorem listOnText_bad_symbol (pre post : List (List Nat)) (bad : List Nat)
    (hl : splitLines qText = pre ++ bad :: post) (hne : bad ≠ []) (hh : bad.head? ≠ some 62)
    (hb : ∃ b ∈ bad, enc false b = 0) : listOnText refText qText = errorOut :=
  aligned_query_error _ _ _ _ (readFasta_bad_symbol false qText pre post bad hl ⟨hne, hh⟩ hb)

theorem listOnText_bad_symbol_ref (pre post : List (List Nat)) (bad : List Nat)
    (hl : splitLines refText = pre ++ bad :: post) (hne : bad ≠ []) (hh : bad.head? ≠ some 62)
    (hb : ∃ b ∈ bad, enc false b = 0) : listOnText refText qText = errorOut :=
  aligned_ref_error _ _ _ _ (readFasta_bad_symbol false refText pre post bad hl ⟨hne, hh⟩ hb)

theorem listOnText_unequal_rows (r0 : LRec) (pre : List LRec) (r : LRec) (post : List LRec)
    (hl : splitLines qText = renderLines (r0 :: pre ++ r :: post))
    (hseq : ∀ x ∈ r0 :: pre ++ r :: post, ∀ l ∈ x.chunks, SeqLine l)
    (hw : r.seq.length ≠ r0.seq.length) : listOnText refText qText = errorOut :=
  aligned_query_error _ _ _ _ (readFasta_unequal_rows _ qText r0 pre r post hl hseq hw)

theorem listOnText_empty_file (h : ∀ l ∈ splitLines qText, l = []) : listOnText refText qText = errorOut :=
  aligned_query_error _ _ _ _ (readFasta_empty _ _ h)

theorem listOnText_empty_ref (h : ∀ l ∈ splitLines refText, l = []) : listOnText refText qText = errorOut :=
  aligned_ref_error _ _ _ _ (readFasta_empty _ _ h)

theorem listOnText_two_references (rs : List FaRec) (h : readFasta (.encoded false) refText = .ok rs) (hn : 1 < rs.length) :
    listOnText refText qText = errorOut :=
  aligned_ref_refused _ _ _ _ (refOfText_two_records false refText rs h hn)

theorem listOnText_width_mismatch (ref : FaRec) (qs : List FaRec) (hr : refOfText false refText = some ref)
    (hq : readFasta (.encoded false) qText = .ok qs) (hw : ∃ q ∈ qs, q.seq.length ≠ ref.seq.length) :
    listOnText refText qText = errorOut :=
  aligned_width_mismatch _ _ _ _ ref qs hr hq hw

end list

/-! ### 2b. `closest`: query alignment and target alignment -/

/-- the model side of `Driver.runC06` (the rows in query order, as for property C06) -/
def closestModel (ci : ClosestIn) : String :=
  let mts := modelTargets ci.ts
  let r := rowsFor ci (fun q => hitsOf ci.measure (q.map (enc false)) mts) findClosest
      (findClosestN (effK ci) ci.maxd)
      (fun q i => closestSnps 0 (q.map (enc false)) ((mts.getD i default).seq))
  renderRows r.1 r.2

theorem closestModel_eq (c : Case) (h : c.prop ≠ "C07") : (runC06 c).model = closestModel (closestIn c) := by
  simp [runC06, closestModel, h]

theorem closestModel_ne_error (ci : ClosestIn) : closestModel ci ≠ errorOut := by
  unfold closestModel renderRows rowsFor
  simp only [String.append_assoc]
  -- each of the three output forms starts with the column name "query"
  split <;> exact ne_error 'q' _ _ (by decide)

/-- the width `closest` compares: that of the first record (0 for no record, which a reader never returns) -/
def firstWidth (rs : List FaRec) : Nat := (rs.head?.map fun r => r.seq.length).getD 0

def withRecs (ci : ClosestIn) (qs ts : List FaRec) : ClosestIn :=
  { measure := ci.measure, mode := ci.mode, k := ci.k, maxd := ci.maxd, qs := qs.map rawOf, ts := ts.map rawOf }

/-- `gofasta closest` on the bytes of the two alignments (options taken from `ci`): both files through the encoded
reader, the first target as wide as the first query (`refusesQueryTarget`), then the model of C06 -/
def closestOnText (ci : ClosestIn) (qText tText : List Nat) : String :=
  match readFasta (.encoded false) qText, readFasta (.encoded false) tText with
  | .ok qs, .ok ts =>
    if refusesQueryTarget (firstWidth qs) (firstWidth ts) then errorOut else closestModel (withRecs ci qs ts)
  | _, _ => errorOut

theorem closestOnText_error_iff (ci : ClosestIn) (qText tText : List Nat) :
    closestOnText ci qText tText = errorOut ↔
      ((∃ e, readFasta (.encoded false) qText = .error e) ∨ (∃ e, readFasta (.encoded false) tText = .error e) ∨
       ∃ qs ts, readFasta (.encoded false) qText = .ok qs ∧ readFasta (.encoded false) tText = .ok ts ∧
         firstWidth qs ≠ firstWidth ts) := by
  unfold closestOnText
  cases hq : readFasta (.encoded false) qText with
  | error e => simp
  | ok qs =>
    cases ht : readFasta (.encoded false) tText with
    | error e => simp
    | ok ts =>
      simp only [reduceCtorEq, exists_false, false_or, Except.ok.injEq, exists_and_left, exists_eq_left']
      by_cases hw : firstWidth qs = firstWidth ts
      · simp only [refusesQueryTarget, hw, bne_self_eq_false, Bool.false_eq_true, if_false, ne_eq, not_true_eq_false,
          iff_false]
        exact closestModel_ne_error _
      · simp [refusesQueryTarget, hw]

theorem closestOnText_reader_error (ci : ClosestIn) (qText tText : List Nat)
    (h : (∃ e, readFasta (.encoded false) qText = .error e) ∨ ∃ e, readFasta (.encoded false) tText = .error e) :
    closestOnText ci qText tText = errorOut :=
  (closestOnText_error_iff ci qText tText).2 (h.elim .inl fun h => .inr (.inl h))

theorem firstWidth_of_ok (text : List Nat) (rs : List FaRec) (h : readFasta (.encoded false) text = .ok rs) :
    ∀ r ∈ rs, r.seq.length = firstWidth rs := by
  obtain ⟨hne, W, hW⟩ := readFasta_ok_widths _ _ _ h
  cases rs with
  | nil => exact absurd rfl hne
  | cons a t =>
    intro r hr
    simp [firstWidth, hW r hr, hW a (by simp)]

/-- ANY query row and ANY target row: the readers make the rows of each file equal, the command compares the first rows -/
theorem closestOnText_width_mismatch (ci : ClosestIn) (qText tText : List Nat) (qs ts : List FaRec)
    (hq : readFasta (.encoded false) qText = .ok qs) (ht : readFasta (.encoded false) tText = .ok ts)
    (hw : ∃ q ∈ qs, ∃ t ∈ ts, q.seq.length ≠ t.seq.length) : closestOnText ci qText tText = errorOut := by
  obtain ⟨q, hqm, t, htm, hne⟩ := hw
  have h1 := firstWidth_of_ok qText qs hq q hqm
  have h2 := firstWidth_of_ok tText ts ht t htm
  exact (closestOnText_error_iff ci qText tText).2 (.inr (.inr ⟨qs, ts, hq, ht, by omega⟩))

theorem closestOnText_bad_symbol (ci : ClosestIn) (qText tText : List Nat) (pre post : List (List Nat)) (bad : List Nat)
    (hl : splitLines qText = pre ++ bad :: post ∨ splitLines tText = pre ++ bad :: post) (hne : bad ≠ [])
    (hh : bad.head? ≠ some 62) (hb : ∃ b ∈ bad, enc false b = 0) : closestOnText ci qText tText = errorOut :=
  closestOnText_reader_error ci qText tText <| hl.imp
    (fun hl => readFasta_bad_symbol false qText pre post bad hl ⟨hne, hh⟩ hb)
    (fun hl => readFasta_bad_symbol false tText pre post bad hl ⟨hne, hh⟩ hb)

theorem closestOnText_unequal_rows (ci : ClosestIn) (qText tText : List Nat) (r0 : LRec) (pre : List LRec) (r : LRec)
    (post : List LRec)
    (hl : splitLines qText = renderLines (r0 :: pre ++ r :: post) ∨ splitLines tText = renderLines (r0 :: pre ++ r :: post))
    (hseq : ∀ x ∈ r0 :: pre ++ r :: post, ∀ l ∈ x.chunks, SeqLine l)
    (hw : r.seq.length ≠ r0.seq.length) : closestOnText ci qText tText = errorOut :=
  closestOnText_reader_error ci qText tText <| hl.imp
    (fun hl => readFasta_unequal_rows _ qText r0 pre r post hl hseq hw)
    (fun hl => readFasta_unequal_rows _ tText r0 pre r post hl hseq hw)

theorem closestOnText_empty_file (ci : ClosestIn) (qText tText : List Nat)
    (h : (∀ l ∈ splitLines qText, l = []) ∨ (∀ l ∈ splitLines tText, l = [])) : closestOnText ci qText tText = errorOut :=
  closestOnText_reader_error ci qText tText (h.imp (readFasta_empty _ _) (readFasta_empty _ _))


/-! ## 3. `updown topranking` -/

open Gofasta.Lemmas.CsvFasta (linesOfCsv linesOf trRun)

/-- **topranking, no size or distance option** (the command model itself) -/
theorem modelTR_no_option (ti : TRIn) (h : ti.args = none) : modelTR ti = "!error" := by
  simp [modelTR, h]

/-- the ten options at their defaults (all 0: `Props.Cli.topranking_defaults`) leave `args` empty -/
theorem trIn_args_none (c : Case) (h1 : c.int "sizetotal" = 0) (h2 : c.int "sizeup" = 0) (h3 : c.int "sizedown" = 0)
    (h4 : c.int "sizeside" = 0) (h5 : c.int "sizesame" = 0) (h6 : c.int "distall" = 0) (h7 : c.int "distup" = 0)
    (h8 : c.int "distdown" = 0) (h9 : c.int "distside" = 0) (h10 : c.int "distpush" = 0) : (trIn c).args = none := by
  simp [trIn, h1, h2, h3, h4, h5, h6, h7, h8, h9, h10, udCheckArgs]

theorem modelTR_case_no_option (c : Case) (h1 : c.int "sizetotal" = 0) (h2 : c.int "sizeup" = 0) (h3 : c.int "sizedown" = 0)
    (h4 : c.int "sizeside" = 0) (h5 : c.int "sizesame" = 0) (h6 : c.int "distall" = 0) (h7 : c.int "distup" = 0)
    (h8 : c.int "distdown" = 0) (h9 : c.int "distside" = 0) (h10 : c.int "distpush" = 0) : modelTR (trIn c) = "!error" :=
  modelTR_no_option _ (trIn_args_none c h1 h2 h3 h4 h5 h6 h7 h8 h9 h10)

/-- the other refusal of checkArgs: a total size together with a per-direction size, a distance and push mode -/
theorem udCheckArgs_conflict (sizetotal sizeup sizedown sizeside sizesame distall distup distdown distside distpush : Int)
    (h1 : sizetotal ≠ 0) (h2 : ¬ (sizeup = 0 ∧ sizedown = 0 ∧ sizeside = 0 ∧ sizesame = 0))
    (h3 : ¬ (distup = 0 ∧ distdown = 0 ∧ distside = 0 ∧ distall = 0)) (h4 : distpush > 0) :
    udCheckArgs sizetotal sizeup sizedown sizeside sizesame distall distup distdown distside distpush = none := by
  unfold udCheckArgs
  simp only
  rw [if_neg (fun h => h1 h.1), if_pos ⟨⟨h1, h2⟩, h3, h4⟩]

/-- the command model IS the ranking of the `updown list` records of its two alignments -/
theorem modelTR_eq (ref : List Nat) (qs ts : List (String × List Nat)) (table : Bool) (args : Option (List Nat × List Nat))
    (opts : TROpts) (a : List Nat × List Nat) (h : args = some a) :
    modelTR (TRIn.mk ref qs ts table args opts) = trRun opts table (linesOf ref qs) (linesOf ref ts) := by
  simp only [modelTR, h, trRun, CsvFasta.trOutput, CsvFasta.topRankingAll_linesOf]
  rfl

theorem trRun_ne_error (o : TROpts) (table : Bool) (ql tl : List UDLine) : trRun o table ql tl ≠ errorOut := by
  cases table <;> exact ne_error 'q' _ _ (by decide)

/-- an input of topranking: an alignment (FASTA bytes) or the CSV `updown list` wrote (CSV bytes) -/
inductive Src where
  | fasta (text : List Nat)
  | csv (text : List Nat)

/-- the records of one input. A FASTA input needs the reference file (one record) and rows of its width; a CSV input
is read by `readUDL` (header check, row parsing) -/
def loadSrc (refText : List Nat) : Src → Option (List UDLine)
  | .csv text => linesOfCsv text
  | .fasta text =>
    match refOfText false refText with
    | none => none
    | some ref => (rowsOfText false ref text).map fun qs => linesOf (ref.seq.map dec) (qs.map rawOf)

/-- `updown topranking` on the bytes of its inputs; options, thresholds and output form taken from `ti`
(`ti.ref`, `ti.qs`, `ti.ts` are not used) -/
def trOnText (ti : TRIn) (refText : List Nat) (q t : Src) : String :=
  match ti.args with
  | none => errorOut
  | some _ =>
    match loadSrc refText q, loadSrc refText t with
    | some ql, some tl => trRun ti.opts ti.table ql tl
    | _, _ => errorOut

theorem trOnText_error_iff (ti : TRIn) (refText : List Nat) (q t : Src) :
    trOnText ti refText q t = errorOut ↔ (ti.args = none ∨ loadSrc refText q = none ∨ loadSrc refText t = none) := by
  unfold trOnText
  cases ha : ti.args with
  | none => simp
  | some a =>
    cases hq : loadSrc refText q with
    | none => simp
    | some ql =>
      cases ht : loadSrc refText t with
      | none => simp
      | some tl => simpa using trRun_ne_error ti.opts ti.table ql tl

theorem trOnText_no_option (ti : TRIn) (refText : List Nat) (q t : Src) (h : ti.args = none) :
    trOnText ti refText q t = errorOut :=
  (trOnText_error_iff ti refText q t).2 (.inl h)

theorem trOnText_input_refused (ti : TRIn) (refText : List Nat) (q t : Src)
    (h : loadSrc refText q = none ∨ loadSrc refText t = none) : trOnText ti refText q t = errorOut :=
  (trOnText_error_iff ti refText q t).2 (.inr h)

theorem trOnText_refused_both (ti : TRIn) (refText : List Nat) (bad other : Src) (h : loadSrc refText bad = none) :
    trOnText ti refText bad other = errorOut ∧ trOnText ti refText other bad = errorOut :=
  ⟨trOnText_input_refused ti refText bad other (.inl h), trOnText_input_refused ti refText other bad (.inr h)⟩

/-- **CSV refused by the reader** (empty, wrong header, unparsable row, bad quoting, ragged rows) -/
theorem loadSrc_csv_error (refText text : List Nat) (h : Csv.readUDL text = .error) : loadSrc refText (.csv text) = none := by
  simp [loadSrc, linesOfCsv, h]

theorem loadSrc_csv_panic (refText text : List Nat) (h : Csv.readUDL text = .panic) : loadSrc refText (.csv text) = none := by
  simp [loadSrc, linesOfCsv, h]

/-- **topranking, CSV query or target that is empty or not `updown list` output** -/
theorem trOnText_csv_header (ti : TRIn) (refText : List Nat) (bad : List Nat) (other : Src)
    (h : (Csv.readRecs bad).1.head? ≠ some (Csv.splitB Csv.comma Csv.headerB)) :
    trOnText ti refText (.csv bad) other = errorOut ∧ trOnText ti refText other (.csv bad) = errorOut :=
  trOnText_refused_both _ _ _ _ (loadSrc_csv_error refText bad (Props.C18.csv_bytes_header_refused bad h))

theorem trOnText_csv_empty (ti : TRIn) (refText : List Nat) (other : Src) :
    trOnText ti refText (.csv []) other = errorOut ∧ trOnText ti refText other (.csv []) = errorOut :=
  trOnText_refused_both _ _ _ _ (loadSrc_csv_error _ _ Props.C18.csv_bytes_empty_refused.1)

theorem trOnText_csv_error (ti : TRIn) (refText : List Nat) (bad : List Nat) (other : Src) (h : Csv.readUDL bad = .error) :
    trOnText ti refText (.csv bad) other = errorOut ∧ trOnText ti refText other (.csv bad) = errorOut :=
  trOnText_refused_both _ _ _ _ (loadSrc_csv_error refText bad h)

theorem loadSrc_fasta_error (refText text : List Nat) (h : ∃ e, readFasta (.encoded false) text = .error e) :
    loadSrc refText (.fasta text) = none := by
  unfold loadSrc
  cases refOfText false refText with
  | none => rfl
  | some ref => simp [rowsOfText_of_error false ref text h]

theorem loadSrc_fasta_ref_refused (refText text : List Nat) (h : refOfText false refText = none) :
    loadSrc refText (.fasta text) = none := by
  simp [loadSrc, h]

theorem loadSrc_fasta_width (refText text : List Nat) (ref : FaRec) (qs : List FaRec) (hr : refOfText false refText = some ref)
    (hq : readFasta (.encoded false) text = .ok qs) (hw : ∃ q ∈ qs, q.seq.length ≠ ref.seq.length) :
    loadSrc refText (.fasta text) = none := by
  simp [loadSrc, hr, rowsOfText_width_mismatch false ref text qs hq hw]

theorem trOnText_bad_symbol (ti : TRIn) (refText text : List Nat) (other : Src) (pre post : List (List Nat)) (bad : List Nat)
    (hl : splitLines text = pre ++ bad :: post) (hne : bad ≠ []) (hh : bad.head? ≠ some 62)
    (hb : ∃ b ∈ bad, enc false b = 0) :
    trOnText ti refText (.fasta text) other = errorOut ∧ trOnText ti refText other (.fasta text) = errorOut :=
  trOnText_refused_both _ _ _ _ (loadSrc_fasta_error refText text (readFasta_bad_symbol false text pre post bad hl ⟨hne, hh⟩ hb))

theorem trOnText_unequal_rows (ti : TRIn) (refText text : List Nat) (other : Src) (r0 : LRec) (pre : List LRec) (r : LRec)
    (post : List LRec) (hl : splitLines text = renderLines (r0 :: pre ++ r :: post))
    (hseq : ∀ x ∈ r0 :: pre ++ r :: post, ∀ l ∈ x.chunks, SeqLine l)
    (hw : r.seq.length ≠ r0.seq.length) :
    trOnText ti refText (.fasta text) other = errorOut ∧ trOnText ti refText other (.fasta text) = errorOut :=
  trOnText_refused_both _ _ _ _ (loadSrc_fasta_error refText text (readFasta_unequal_rows _ text r0 pre r post hl hseq hw))

theorem trOnText_empty_file (ti : TRIn) (refText text : List Nat) (other : Src) (he : ∀ l ∈ splitLines text, l = []) :
    trOnText ti refText (.fasta text) other = errorOut ∧ trOnText ti refText other (.fasta text) = errorOut :=
  trOnText_refused_both _ _ _ _ (loadSrc_fasta_error refText text (readFasta_empty _ _ he))

theorem trOnText_ref_refused (ti : TRIn) (refText text : List Nat) (other : Src) (hr : refOfText false refText = none) :
    trOnText ti refText (.fasta text) other = errorOut ∧ trOnText ti refText other (.fasta text) = errorOut :=
  trOnText_refused_both _ _ _ _ (loadSrc_fasta_ref_refused refText text hr)

theorem trOnText_width_mismatch (ti : TRIn) (refText text : List Nat) (other : Src) (ref : FaRec) (qs : List FaRec)
    (hr : refOfText false refText = some ref) (hq : readFasta (.encoded false) text = .ok qs)
    (hw : ∃ q ∈ qs, q.seq.length ≠ ref.seq.length) :
    trOnText ti refText (.fasta text) other = errorOut ∧ trOnText ti refText other (.fasta text) = errorOut :=
  trOnText_refused_both _ _ _ _ (loadSrc_fasta_width refText text ref qs hr hq hw)


/-! ## 4. `variants` -/

/-- the per-pair caller `varCommand` is parameterised by; the arguments are those of `getVariantsPair` -/
abbrev PairFn := List Nat → List Nat → List Region → List Nat → List Variant

/-- the reference of the annotation: every record of the alignment is an output row -/
theorem refAndRows_ann (vi : VarIn) (h : vi.refmode = "ann") : refAndRows vi = some (vi.origin, vi.recs, "annotation_fasta") := by
  unfold refAndRows
  rw [h]
  rfl

/-- the alignment on stdin: the first record, which must carry the reference name -/
theorem refAndRows_stdin (vi : VarIn) (h : vi.refmode = "stdin") :
    refAndRows vi = (match vi.recs with
      | (n, s) :: rest => if n == vi.refname then some (s, rest, vi.refname) else none
      | [] => none) := by
  unfold refAndRows
  rw [h]
  rfl

/-- otherwise the reference is looked up by name in the alignment -/
theorem refAndRows_find (vi : VarIn) (h1 : vi.refmode ≠ "ann") (h2 : vi.refmode ≠ "stdin") :
    refAndRows vi = (vi.recs.find? fun r => r.1 == vi.refname).map fun r => (r.2, vi.recs, vi.refname) := by
  unfold refAndRows
  split
  · rename_i heq; exact absurd heq h1
  · rename_i heq; exact absurd heq h2
  · cases vi.recs.find? fun r => r.1 == vi.refname <;> rfl

theorem refAndRows_msa (vi : VarIn) (h1 : vi.refmode ≠ "ann") (h2 : vi.refmode ≠ "stdin") (n : String) (s : List Nat)
    (h : vi.recs.find? (fun r => r.1 == vi.refname) = some (n, s)) : refAndRows vi = some (s, vi.recs, vi.refname) := by
  rw [refAndRows_find vi h1 h2, h]
  rfl

/-- the annotation step of `varCommand` -/
def varRegions (vi : VarIn) (refRow : List Nat) : Option (List Region × List Nat) :=
  if vi.annfmt == "gb" then
    (if (degapUpper refRow).length != vi.origin.length then none else regionsFromGenbank vi.gb (degapUpper refRow).length)
  else regionsFromGFF vi.gff (degapUpper refRow)

theorem variantsOutput_ne_error (a : Bool) (s e : Int) (id : String) (rows : List (String × List Variant)) :
    variantsOutput a s e id rows ≠ errorOut :=
  ne_error 'q' _ _ (by decide)

theorem variantsAggregate_ne_error (a : Bool) (s e : Int) (n d : Nat) (id : String) (rows : List (String × List Variant)) :
    variantsAggregate a s e n d id rows ≠ errorOut :=
  ne_error 'm' _ _ (by decide)

theorem varCommand_of_ref (vi : VarIn) (f : PairFn) (refRow : List Nat) (rows : List (String × List Nat)) (refID : String)
    (hr : refAndRows vi = some (refRow, rows, refID)) :
    varCommand vi f = "!error" ↔ (varRegions vi refRow = none ∨ ∃ r ∈ rows, r.2.length ≠ refRow.length) := by
  unfold varCommand varRegions
  rw [hr]
  dsimp only
  generalize (if vi.annfmt == "gb" then _ else _) = regs
  cases regs with
  | none => exact iff_of_true rfl (.inl rfl)
  | some ri =>
    dsimp only
    have hany : (rows.any fun r => r.2.length != refRow.length) = true ↔ ∃ r ∈ rows, r.2.length ≠ refRow.length := by
      simp only [List.any_eq_true, bne_iff_ne]
    by_cases hw : ∃ r ∈ rows, r.2.length ≠ refRow.length
    · rw [if_pos (hany.2 hw)]
      exact iff_of_true rfl (.inr hw)
    · rw [if_neg (mt hany.1 hw)]
      refine iff_of_false ?_ fun h => h.elim (fun h => nomatch h) hw
      cases vi.agg
      · exact variantsOutput_ne_error _ _ _ _ _
      · exact variantsAggregate_ne_error _ _ _ _ _ _ _

/-- **variants refuses exactly**: no reference row; no regions from the annotation (which includes the GenBank ORIGIN
length check); an alignment row of another length than the reference row -/
theorem varCommand_error_iff (vi : VarIn) (f : PairFn) :
    varCommand vi f = "!error" ↔
      (refAndRows vi = none ∨ ∃ refRow rows refID, refAndRows vi = some (refRow, rows, refID) ∧
        (varRegions vi refRow = none ∨ ∃ r ∈ rows, r.2.length ≠ refRow.length)) := by
  cases hr : refAndRows vi with
  | none => simp [varCommand, hr]
  | some p =>
    obtain ⟨refRow, rows, refID⟩ := p
    rw [varCommand_of_ref vi f refRow rows refID hr]
    constructor
    · exact fun h => .inr ⟨refRow, rows, refID, rfl, h⟩
    · rintro (h | ⟨_, _, _, h1, h2⟩)
      · cases h
      · cases h1
        exact h2

theorem varCommand_no_ref (vi : VarIn) (f : PairFn) (h : refAndRows vi = none) : varCommand vi f = "!error" :=
  (varCommand_error_iff vi f).2 (.inl h)

theorem varCommand_ref_not_found (vi : VarIn) (f : PairFn) (h1 : vi.refmode ≠ "ann") (h2 : vi.refmode ≠ "stdin")
    (h : ∀ r ∈ vi.recs, r.1 ≠ vi.refname) : varCommand vi f = "!error" := by
  refine varCommand_no_ref vi f ?_
  rw [refAndRows_find vi h1 h2, List.find?_eq_none.2 fun r hr => by simpa using h r hr]
  rfl

theorem varCommand_ref_not_first (vi : VarIn) (f : PairFn) (h1 : vi.refmode = "stdin")
    (h : ∀ r, vi.recs.head? = some r → r.1 ≠ vi.refname) : varCommand vi f = "!error" := by
  refine varCommand_no_ref vi f ?_
  rw [refAndRows_stdin vi h1]
  cases hr : vi.recs with
  | nil => rfl
  | cons a t => simp [h a (by simp [hr])]

theorem varCommand_origin_length (vi : VarIn) (f : PairFn) (refRow : List Nat) (rows : List (String × List Nat))
    (refID : String) (hr : refAndRows vi = some (refRow, rows, refID)) (hgb : vi.annfmt = "gb")
    (hl : (degapUpper refRow).length ≠ vi.origin.length) : varCommand vi f = "!error" :=
  (varCommand_of_ref vi f refRow rows refID hr).2 (.inl (by simp [varRegions, hgb, hl]))

/-- **variants, the annotation cannot be turned into regions** (a CDS whose length is not a multiple of three, GFF
rows of one CDS on both strands, an untranslatable GFF CDS ...); `hregs` is `varRegions vi refRow = none` written out -/
theorem varCommand_regions_refused (vi : VarIn) (f : PairFn) (refRow : List Nat) (rows : List (String × List Nat))
    (refID : String) (hr : refAndRows vi = some (refRow, rows, refID))
    (hregs : (if vi.annfmt == "gb" then
        (if (degapUpper refRow).length != vi.origin.length then none else regionsFromGenbank vi.gb (degapUpper refRow).length)
      else regionsFromGFF vi.gff (degapUpper refRow)) = none) : varCommand vi f = "!error" :=
  (varCommand_of_ref vi f refRow rows refID hr).2 (.inl (show varRegions vi refRow = none from hregs))

theorem varCommand_row_width (vi : VarIn) (f : PairFn) (refRow : List Nat) (rows : List (String × List Nat))
    (refID : String) (hr : refAndRows vi = some (refRow, rows, refID))
    (hw : ∃ r ∈ rows, r.2.length ≠ refRow.length) : varCommand vi f = "!error" :=
  (varCommand_of_ref vi f refRow rows refID hr).2 (.inr hw)

theorem varCommand_row_width_msa (vi : VarIn) (f : PairFn) (h1 : vi.refmode ≠ "ann") (h2 : vi.refmode ≠ "stdin")
    (n : String) (s : List Nat) (h : vi.recs.find? (fun r => r.1 == vi.refname) = some (n, s))
    (pre post : List (String × List Nat)) (qn : String) (q : List Nat) (hrecs : vi.recs = pre ++ (qn, q) :: post)
    (hw : q.length ≠ s.length) : varCommand vi f = "!error" :=
  varCommand_row_width vi f s vi.recs vi.refname (refAndRows_msa vi h1 h2 n s h) ⟨(qn, q), by simp [hrecs], hw⟩

def setWindow (vi : VarIn) (s e : Int) : VarIn :=
  { annfmt := vi.annfmt, gb := vi.gb, gff := vi.gff, refmode := vi.refmode, refname := vi.refname,
    origin := vi.origin, recs := vi.recs, append := vi.append, start := s, stop := e,
    agg := vi.agg, thrn := vi.thrn, thrd := vi.thrd }

/-- `variants` never refuses a window: whether the command model gives the error result does not depend on start and
end at all: start > end, start < 1, end beyond the reference are all accepted (the window only filters what is
printed). gofasta behaves the same (DESIGN.md §5, C18, notes it) -/
theorem varCommand_window_not_checked (vi : VarIn) (f : PairFn) (s e : Int) :
    varCommand (setWindow vi s e) f = "!error" ↔ varCommand vi f = "!error" := by
  rw [varCommand_error_iff, varCommand_error_iff]
  rfl

def setRecs (vi : VarIn) (recs : List (String × List Nat)) : VarIn :=
  { annfmt := vi.annfmt, gb := vi.gb, gff := vi.gff, refmode := vi.refmode, refname := vi.refname,
    origin := vi.origin, recs := recs, append := vi.append, start := vi.start, stop := vi.stop,
    agg := vi.agg, thrn := vi.thrn, thrd := vi.thrd }

/-- `variants` with the alignment given as bytes: the alignment through the encoded reader, then `varCommand` on its
records (the other fields of `vi`: annotation, reference choice, options) -/
def varOnText (vi : VarIn) (msaText : List Nat) (f : PairFn) : String :=
  match readFasta (.encoded false) msaText with
  | .error _ => errorOut
  | .ok rs =>
    varCommand (setRecs vi (rs.map rawOf)) f

theorem varOnText_reader_error (vi : VarIn) (msaText : List Nat) (f : PairFn)
    (h : ∃ e, readFasta (.encoded false) msaText = .error e) : varOnText vi msaText f = errorOut := by
  obtain ⟨e, he⟩ := h
  simp [varOnText, he]

theorem varOnText_bad_symbol (vi : VarIn) (msaText : List Nat) (f : PairFn) (pre post : List (List Nat)) (bad : List Nat)
    (hl : splitLines msaText = pre ++ bad :: post) (hne : bad ≠ []) (hh : bad.head? ≠ some 62)
    (hb : ∃ b ∈ bad, enc false b = 0) : varOnText vi msaText f = errorOut :=
  varOnText_reader_error vi msaText f (readFasta_bad_symbol false msaText pre post bad hl ⟨hne, hh⟩ hb)

theorem varOnText_unequal_rows (vi : VarIn) (msaText : List Nat) (f : PairFn) (r0 : LRec) (pre : List LRec) (r : LRec)
    (post : List LRec) (hl : splitLines msaText = renderLines (r0 :: pre ++ r :: post))
    (hseq : ∀ x ∈ r0 :: pre ++ r :: post, ∀ l ∈ x.chunks, SeqLine l)
    (hw : r.seq.length ≠ r0.seq.length) : varOnText vi msaText f = errorOut :=
  varOnText_reader_error vi msaText f (readFasta_unequal_rows _ msaText r0 pre r post hl hseq hw)

theorem varOnText_empty_file (vi : VarIn) (msaText : List Nat) (f : PairFn) (h : ∀ l ∈ splitLines msaText, l = []) :
    varOnText vi msaText f = errorOut :=
  varOnText_reader_error vi msaText f (readFasta_empty _ _ h)

theorem varOnText_ref_not_found (vi : VarIn) (msaText : List Nat) (f : PairFn) (h1 : vi.refmode ≠ "ann")
    (h2 : vi.refmode ≠ "stdin") (rs : List FaRec) (hr : readFasta (.encoded false) msaText = .ok rs)
    (h : ∀ r ∈ rs, bytesToString r.id ≠ vi.refname) : varOnText vi msaText f = errorOut := by
  simp only [varOnText, hr]
  refine varCommand_ref_not_found (setRecs vi (rs.map rawOf)) f h1 h2 ?_
  intro r hrm
  obtain ⟨x, hx, rfl⟩ := List.mem_map.1 hrm
  exact h x hx

/-! ## 5. `sam toMultiAlign`, `sam toPairAlign`, `sam variants` -/

/-- `Props.C18.checkArgs_none_iff` once more: bin/props.py audits it for C18 under this name -/
theorem checkArgs_none_iff (L : Nat) (start stop : Int) :
    checkArgs L start stop = none ↔
      ((if start = -1 then 1 else start) < 1 ∨ (if start = -1 then 1 else start) > L ∨
       (if stop = -1 then (L : Int) else stop) < 1 ∨ (if stop = -1 then (L : Int) else stop) > L ∨
       (if start = -1 then 1 else start) > (if stop = -1 then (L : Int) else stop)) :=
  Props.C18.checkArgs_none_iff L start stop

/-- a bad window in the terms of property C18 (both coordinates given) -/
def BadWindow (L : Nat) (s e : Int) : Prop := s < 1 ∨ s > L ∨ e < 1 ∨ e > L ∨ s > e

theorem checkArgs_bad_window (L : Nat) (s e : Int) (hs : s ≠ -1) (he : e ≠ -1) (h : BadWindow L s e) :
    checkArgs L s e = none := by
  rw [checkArgs_none_iff, if_neg hs, if_neg he]
  exact h

theorem checkArgs_bad_start (L : Nat) (s : Int) (hs : s ≠ -1) (h : s < 1 ∨ s > L) : checkArgs L s (-1) = none := by
  rw [checkArgs_none_iff, if_neg hs, if_pos rfl]
  omega

theorem checkArgs_bad_end (L : Nat) (e : Int) (he : e ≠ -1) (h : e < 1 ∨ e > L) : checkArgs L (-1) e = none := by
  rw [checkArgs_none_iff, if_neg he, if_pos rfl]
  omega

theorem checkArgs_empty_reference (s e : Int) : checkArgs 0 s e = none := by
  rw [checkArgs_none_iff]
  split <;> omega

theorem toMultiAlign_none_iff (L : Nat) (o : TomaOpts) (recs : List SamRec) :
    toMultiAlign L o recs = none ↔ checkArgs L o.start o.stop = none := by
  unfold toMultiAlign
  cases h : checkArgs L o.start o.stop with
  | none => simp
  | some v => obtain ⟨a, b, c⟩ := v; simp

theorem toPairAlign_none_iff (ref : List Nat) (refName : String) (start stop wrap : Int) (omitRef omitIns : Bool)
    (recs : List SamRec) :
    toPairAlign ref refName start stop wrap omitRef omitIns recs = none ↔ checkArgs ref.length start stop = none := by
  unfold toPairAlign
  cases h : checkArgs ref.length start stop with
  | none => simp
  | some v => obtain ⟨a, b, c⟩ := v; simp

theorem toma_text_bad_window (L : Nat) (o : TomaOpts) (recs : List SamRec) (hs : o.start ≠ -1) (he : o.stop ≠ -1)
    (h : BadWindow L o.start o.stop) : optText (toMultiAlign L o recs) = "!error" := by
  rw [(toMultiAlign_none_iff L o recs).2 (checkArgs_bad_window L _ _ hs he h)]; rfl

theorem topa_text_bad_window (ref : List Nat) (refName : String) (start stop wrap : Int) (omitRef omitIns : Bool)
    (recs : List SamRec) (hs : start ≠ -1) (he : stop ≠ -1) (h : BadWindow ref.length start stop) :
    topaText (toPairAlign ref refName start stop wrap omitRef omitIns recs) = "!error" := by
  rw [(toPairAlign_none_iff ref refName start stop wrap omitRef omitIns recs).2 (checkArgs_bad_window _ _ _ hs he h)]; rfl

/-- `hs` and `he` follow from `h` -/
theorem toMultiAlign_good_window (L : Nat) (o : TomaOpts) (recs : List SamRec) (hs : o.start ≠ -1) (he : o.stop ≠ -1)
    (h : 1 ≤ o.start ∧ o.start ≤ o.stop ∧ o.stop ≤ L) : (toMultiAlign L o recs).isSome = true := by
  rw [Option.isSome_iff_ne_none, Ne, toMultiAlign_none_iff, checkArgs_none_iff, if_neg hs, if_neg he]
  omega

theorem toPairAlign_good_window (ref : List Nat) (refName : String) (start stop wrap : Int) (omitRef omitIns : Bool)
    (recs : List SamRec) (hs : start ≠ -1) (he : stop ≠ -1) (h : 1 ≤ start ∧ start ≤ stop ∧ stop ≤ ref.length) :
    (toPairAlign ref refName start stop wrap omitRef omitIns recs).isSome = true := by
  rw [Option.isSome_iff_ne_none, Ne, toPairAlign_none_iff, checkArgs_none_iff, if_neg hs, if_neg he]
  omega


/-! ### 5a. toMultiAlign and toPairAlign on the bytes of the SAM stream

TRAP: `samRecsOfText = none` is not "gofasta refuses the stream". It also covers what this glue layer leaves out (see
its docstring in `Lemmas/FromBytesSam`), in particular a stream without @SQ line. `sam toMultiAlign` refuses such a
stream (it needs the reference length), so `tomaOfText_no_sq` is a refusal of gofasta; `sam toPairAlign` and
`sam variants` do not use the header and ACCEPT a header-less SAM file, so `topaOnTexts … = none` and
`samVarOnText … = errorOut` on such a stream (`topaOnTexts_sam_refused`, `samVarOnText_sam_refused` with
`FromBytes.samRecsOfText_headerless`) say that the stream is outside these two definitions, not that gofasta refuses it. -/

theorem samRecsOfText_empty : FromBytes.samRecsOfText [] = none := rfl

theorem tomaOfText_none_iff (o : TomaOpts) (text : List Nat) :
    FromBytes.tomaOfText o text = none ↔
      (FromBytes.samRecsOfText text = none ∨
        ∃ n L recs, FromBytes.samRecsOfText text = some (n, L, recs) ∧ checkArgs L o.start o.stop = none) := by
  unfold FromBytes.tomaOfText
  cases h : FromBytes.samRecsOfText text with
  | none => simp
  | some v =>
    obtain ⟨n, L, recs⟩ := v
    simp only [toMultiAlign_none_iff, reduceCtorEq, Option.some.injEq, Prod.mk.injEq, false_or]
    constructor
    · intro hc; exact ⟨n, L, recs, ⟨rfl, rfl, rfl⟩, hc⟩
    · rintro ⟨n', L', recs', ⟨rfl, rfl, rfl⟩, hc⟩; exact hc

theorem tomaOfText_bad_window (o : TomaOpts) (text : List Nat) (hs : o.start ≠ -1) (he : o.stop ≠ -1)
    (h : ∀ n L recs, FromBytes.samRecsOfText text = some (n, L, recs) → BadWindow L o.start o.stop) :
    FromBytes.tomaOfText o text = none := by
  rw [tomaOfText_none_iff]
  cases hr : FromBytes.samRecsOfText text with
  | none => exact .inl rfl
  | some p => exact .inr ⟨p.1, p.2.1, p.2.2, rfl, checkArgs_bad_window _ _ _ hs he (h _ _ _ hr)⟩

theorem tomaOfText_empty (o : TomaOpts) : FromBytes.tomaOfText o [] = none := rfl

open Gofasta.Model.SamText in
/-- the record type of a header line: the two bytes after '@' -/
def lineTag (l : Bytes) : Bytes := ((stripCr l).drop 1).take 2

theorem tomaOfText_no_sq (o : TomaOpts) (text : List Nat)
    (h : ∀ l ∈ (SamText.linesOf text).1, lineTag l ≠ SamText.tSQ) : FromBytes.tomaOfText o text = none :=
  (tomaOfText_none_iff o text).2 (.inl (FromBytes.samRecsOfText_no_sq text h))

theorem topaOfText_none_iff (ref : List Nat) (refName : String) (start stop wrap : Int) (omitRef omitIns : Bool)
    (text : List Nat) :
    FromBytes.topaOfText ref refName start stop wrap omitRef omitIns text = none ↔
      (FromBytes.samRecsOfText text = none ∨ checkArgs ref.length start stop = none) := by
  unfold FromBytes.topaOfText
  cases FromBytes.samRecsOfText text with
  | none => simp
  | some p => simp [toPairAlign_none_iff]

/-- `sam toPairAlign` with the reference given as the bytes of its FASTA file: the plain reader (upper-cased text),
exactly one record (`refusesReferenceCount`), then `topaOfText` with that record's sequence and ID -/
def topaOnTexts (refText : List Nat) (start stop wrap : Int) (omitRef omitIns : Bool) (samText : List Nat) :
    Option (List (String × String)) :=
  match readFasta .plain refText with
  | .error _ => none
  | .ok rs =>
    if refusesReferenceCount rs.length then none
    else match rs.head? with
      | none => none
      | some r => FromBytes.topaOfText r.seq (bytesToString r.id) start stop wrap omitRef omitIns samText

section topa
variable (refText : List Nat) (start stop wrap : Int) (omitRef omitIns : Bool) (samText : List Nat)

theorem topaOnTexts_ref_error (h : ∃ e, readFasta .plain refText = .error e) :
    topaOnTexts refText start stop wrap omitRef omitIns samText = none := by
  obtain ⟨e, he⟩ := h
  simp [topaOnTexts, he]

theorem topaOnTexts_empty_ref (h : ∀ l ∈ splitLines refText, l = []) :
    topaOnTexts refText start stop wrap omitRef omitIns samText = none :=
  topaOnTexts_ref_error _ _ _ _ _ _ _ (readFasta_empty _ _ h)

theorem topaOnTexts_two_references (rs : List FaRec) (h : readFasta .plain refText = .ok rs) (hn : 1 < rs.length) :
    topaOnTexts refText start stop wrap omitRef omitIns samText = none := by
  simp [topaOnTexts, h, Props.C18.reference_count_refused rs.length hn]

/-- SAM stream refused or outside the glue layer: `samRecsOfText = none` is both, see the TRAP of 5a -/
theorem topaOnTexts_sam_refused (h : FromBytes.samRecsOfText samText = none) :
    topaOnTexts refText start stop wrap omitRef omitIns samText = none := by
  unfold topaOnTexts
  split
  · rfl
  · split
    · rfl
    · split
      · rfl
      · exact (topaOfText_none_iff _ _ _ _ _ _ _ _).2 (.inl h)

theorem topaOnTexts_bad_window (r : FaRec) (h : readFasta .plain refText = .ok [r]) (hs : start ≠ -1) (he : stop ≠ -1)
    (hw : BadWindow r.seq.length start stop) : topaOnTexts refText start stop wrap omitRef omitIns samText = none := by
  simp only [topaOnTexts, h, List.length_singleton, refusesReferenceCount, bne_self_eq_false, Bool.false_eq_true,
    if_false, List.head?_cons]
  exact (topaOfText_none_iff _ _ _ _ _ _ _ _).2 (.inr (checkArgs_bad_window _ _ _ hs he hw))

end topa

/-! ### 5b. `sam variants` -/

/-- `sam variants` on the bytes of the SAM file; `refFromFile refBytes rname` are the reference arguments of
`SamVarPipeline.samVarCore` (the bytes and name of the --reference record, used when `refFromFile`; else the ORIGIN of
the annotation) -/
def samVarOnText (vi : VarIn) (samText : List Nat) (refFromFile : Bool) (refBytes : List Nat) (rname : String) : String :=
  match FromBytes.samRecsOfText samText with
  | none => errorOut
  | some (_, _, recs) =>
    SamVarPipeline.samVarCore vi recs refFromFile refBytes rname samBlocks (fun b r => blockToSeqPair b r) modelPair

/-- SAM stream refused or outside the glue layer, as for `topaOnTexts_sam_refused` -/
theorem samVarOnText_sam_refused (vi : VarIn) (samText : List Nat) (refFromFile : Bool) (refBytes : List Nat)
    (rname : String) (h : FromBytes.samRecsOfText samText = none) :
    samVarOnText vi samText refFromFile refBytes rname = errorOut := by
  simp [samVarOnText, h]

/-- **sam variants refuses exactly** when the annotation gives no regions -/
theorem samVarCore_error_iff (vi : VarIn) (recs : List SamRec) (refFromFile : Bool) (refBytes : List Nat)
    (rname : String) (blocksFn : List SamRec → List (List SamRec)) (pairOf : List SamRec → List Nat → List Nat × List Nat)
    (caller : PairFn) :
    SamVarPipeline.samVarCore vi recs refFromFile refBytes rname blocksFn pairOf caller = "!error" ↔
      SamVarPipeline.samRegions vi (SamVarPipeline.refRawOf vi refFromFile refBytes) = none := by
  unfold SamVarPipeline.samVarCore SamVarPipeline.samVarOn
  cases hg : SamVarPipeline.samRegions vi (SamVarPipeline.refRawOf vi refFromFile refBytes) with
  | none => simp
  | some ri =>
    simp only [reduceCtorEq, iff_false]
    cases vi.agg
    · exact variantsOutput_ne_error _ _ _ _ _
    · exact variantsAggregate_ne_error _ _ _ _ _ _ _

theorem samVarCore_regions_refused (vi : VarIn) (recs : List SamRec) (refFromFile : Bool) (refBytes : List Nat)
    (rname : String) (blocksFn : List SamRec → List (List SamRec)) (pairOf : List SamRec → List Nat → List Nat × List Nat)
    (caller : PairFn)
    (h : SamVarPipeline.samRegions vi (SamVarPipeline.refRawOf vi refFromFile refBytes) = none) :
    SamVarPipeline.samVarCore vi recs refFromFile refBytes rname blocksFn pairOf caller = "!error" :=
  (samVarCore_error_iff vi recs refFromFile refBytes rname blocksFn pairOf caller).2 h

/-- `sam variants` never refuses a window either (no `checkArgs` in this command model, no check in gofasta) -/
theorem samVarCore_window_not_checked (vi : VarIn) (recs : List SamRec) (refFromFile : Bool) (refBytes : List Nat)
    (rname : String) (blocksFn : List SamRec → List (List SamRec)) (pairOf : List SamRec → List Nat → List Nat × List Nat)
    (caller : PairFn) (s e : Int) :
    SamVarPipeline.samVarCore (setWindow vi s e) recs refFromFile refBytes rname blocksFn pairOf caller = "!error" ↔
      SamVarPipeline.samVarCore vi recs refFromFile refBytes rname blocksFn pairOf caller = "!error" := by
  rw [samVarCore_error_iff, samVarCore_error_iff]
  rfl


/-! ## 6. The converse: well-formed input is not refused -/

theorem refOfText_valid (hard c1 f1 : Bool) (W : Nat) (r : LRec) (hr : Props.C16.WFFile hard W [r]) :
    refOfText hard (renderText c1 f1 (renderLines [r])) = some (recOf (enc hard) r 0) := by
  rw [refOfText_eq_some, readFastaList, Props.C16.layout_independent hard c1 f1 W r [] hr]
  rfl

theorem rowsOfText_valid (hard c2 f2 : Bool) (W : Nat) (ref : FaRec) (q0 : LRec) (qs : List LRec)
    (hrw : ref.seq.length = W) (hq : Props.C16.WFFile hard W (q0 :: qs)) :
    rowsOfText hard ref (renderText c2 f2 (renderLines (q0 :: qs))) = some (recsFrom (enc hard) (q0 :: qs) 0) := by
  refine (rowsOfText_eq_some _ _ _ _).2 ⟨Props.C16.layout_independent hard c2 f2 W q0 qs hq, fun x hx => ?_⟩
  obtain ⟨y, hy, e⟩ := recsFrom_seq (enc hard) (q0 :: qs) 0 x hx
  simp [e, hq.width y hy, hrw]

theorem wf_seq_bytes (hard : Bool) (W : Nat) (recs : List LRec) (hf : Props.C16.WFFile hard W recs) (x : LRec) (hx : x ∈ recs) :
    ∀ b ∈ x.seq, enc hard b ≠ 0 := by
  intro b hb
  obtain ⟨l, hl, hbl⟩ := List.mem_flatten.1 hb
  exact (hf.chunks x hx l hl).2 b hbl

theorem recOf_seq_dec (hard : Bool) (x : LRec) (k : Nat) (h : ∀ b ∈ x.seq, enc hard b ≠ 0) :
    (recOf (enc hard) x k).seq.map dec = x.seq.map asciiUpper :=
  Props.C16.dec_enc_seq hard x.seq h

theorem rawOf_recOf (hard : Bool) (x : LRec) (k : Nat) (h : ∀ b ∈ x.seq, enc hard b ≠ 0) :
    rawOf (recOf (enc hard) x k) = (bytesToString x.id, x.seq.map asciiUpper) := by
  rw [rawOf, recOf_seq_dec hard x k h]
  rfl

theorem map_rawOf_recsFrom (hard : Bool) : ∀ (rs : List LRec) (k : Nat), (∀ x ∈ rs, ∀ b ∈ x.seq, enc hard b ≠ 0) →
    (recsFrom (enc hard) rs k).map rawOf = rs.map fun x => (bytesToString x.id, x.seq.map asciiUpper)
  | [], _, _ => rfl
  | r :: t, k, h => by
    simp only [recsFrom, List.map_cons, rawOf_recOf hard r k (h r (by simp)),
      map_rawOf_recsFrom hard t (k + 1) (fun x hx => h x (by simp [hx]))]

/-- **well-formed files are accepted**, in any layout: the command runs on exactly their records, which it sees as their
upper-cased symbols -/
theorem aligned_valid (hard c1 f1 c2 f2 : Bool) (W : Nat) (r q0 : LRec) (qs : List LRec)
    (hr : Props.C16.WFFile hard W [r]) (hq : Props.C16.WFFile hard W (q0 :: qs))
    (g : List Nat → List (String × List Nat) → String) :
    alignedCommand hard (renderText c1 f1 (renderLines [r])) (renderText c2 f2 (renderLines (q0 :: qs)))
        (fun ref qs => g (ref.seq.map dec) (qs.map rawOf)) =
      g (r.seq.map asciiUpper) ((q0 :: qs).map fun x => (bytesToString x.id, x.seq.map asciiUpper)) := by
  simp only [alignedCommand, refOfText_valid hard c1 f1 W r hr,
    rowsOfText_valid hard c2 f2 W (recOf (enc hard) r 0) q0 qs ((List.length_map _).trans (hr.width r (by simp))) hq,
    map_rawOf_recsFrom hard (q0 :: qs) 0 (wf_seq_bytes hard W _ hq),
    recOf_seq_dec hard r 0 (wf_seq_bytes hard W [r] hr r (by simp))]

theorem snpsOnText_valid (hard agg c1 f1 c2 f2 : Bool) (n d W : Nat) (r q0 : LRec) (qs : List LRec)
    (hr : Props.C16.WFFile hard W [r]) (hq : Props.C16.WFFile hard W (q0 :: qs)) :
    snpsOnText hard agg n d (renderText c1 f1 (renderLines [r])) (renderText c2 f2 (renderLines (q0 :: qs))) =
      (if agg then snpsAggregate hard n d (r.seq.map asciiUpper) ((q0 :: qs).map fun x => (bytesToString x.id, x.seq.map asciiUpper))
       else snpsOutput hard (r.seq.map asciiUpper) ((q0 :: qs).map fun x => (bytesToString x.id, x.seq.map asciiUpper))) :=
  aligned_valid hard c1 f1 c2 f2 W r q0 qs hr hq fun a b => if agg then snpsAggregate hard n d a b else snpsOutput hard a b

theorem listOnText_valid (c1 f1 c2 f2 : Bool) (W : Nat) (r q0 : LRec) (qs : List LRec)
    (hr : Props.C16.WFFile false W [r]) (hq : Props.C16.WFFile false W (q0 :: qs)) :
    listOnText (renderText c1 f1 (renderLines [r])) (renderText c2 f2 (renderLines (q0 :: qs))) =
      udListOutput (r.seq.map asciiUpper) ((q0 :: qs).map fun x => (bytesToString x.id, x.seq.map asciiUpper)) :=
  aligned_valid false c1 f1 c2 f2 W r q0 qs hr hq udListOutput

theorem loadSrc_fasta_valid (c1 f1 c2 f2 : Bool) (W : Nat) (r q0 : LRec) (qs : List LRec)
    (hr : Props.C16.WFFile false W [r]) (hq : Props.C16.WFFile false W (q0 :: qs)) :
    loadSrc (renderText c1 f1 (renderLines [r])) (.fasta (renderText c2 f2 (renderLines (q0 :: qs)))) =
      some (linesOf (r.seq.map asciiUpper) ((q0 :: qs).map fun x => (bytesToString x.id, x.seq.map asciiUpper))) := by
  simp only [loadSrc, refOfText_valid false c1 f1 W r hr,
    rowsOfText_valid false c2 f2 W (recOf (enc false) r 0) q0 qs ((List.length_map _).trans (hr.width r (by simp))) hq,
    Option.map_some, map_rawOf_recsFrom false (q0 :: qs) 0 (wf_seq_bytes false W _ hq),
    recOf_seq_dec false r 0 (wf_seq_bytes false W [r] hr r (by simp))]

/-- **topranking on well-formed FASTA files is the command model `modelTR`** on their upper-cased records (so
`trOnText` extends `modelTR` by the readers and the checks, and changes nothing else) -/
theorem trOnText_valid (ti : TRIn) (a : List Nat × List Nat) (ha : ti.args = some a) (c1 f1 c2 f2 c3 f3 : Bool) (W : Nat)
    (r q0 t0 : LRec) (qs ts : List LRec) (hr : Props.C16.WFFile false W [r]) (hq : Props.C16.WFFile false W (q0 :: qs))
    (ht : Props.C16.WFFile false W (t0 :: ts)) :
    trOnText ti (renderText c1 f1 (renderLines [r])) (.fasta (renderText c2 f2 (renderLines (q0 :: qs))))
        (.fasta (renderText c3 f3 (renderLines (t0 :: ts)))) =
      modelTR (TRIn.mk (r.seq.map asciiUpper) ((q0 :: qs).map fun x => (bytesToString x.id, x.seq.map asciiUpper))
        ((t0 :: ts).map fun x => (bytesToString x.id, x.seq.map asciiUpper)) ti.table ti.args ti.opts) := by
  rw [modelTR_eq _ _ _ _ _ _ a ha]
  simp only [trOnText, ha, loadSrc_fasta_valid c1 f1 c2 f2 W r q0 qs hr hq, loadSrc_fasta_valid c1 f1 c3 f3 W r t0 ts hr ht]


/-! ## 7. Bad symbol and rows of unequal length, stated on a rendered file (any layout) -/

theorem readFasta_bad_symbol_rendered (hard crlf finalEol : Bool) (pre post : List (List Nat)) (bad : List Nat)
    (hclean : ∀ l ∈ pre ++ bad :: post, CleanLine l ∧ l ≠ []) (hh : bad.head? ≠ some 62)
    (hb : ∃ b ∈ bad, enc hard b = 0) :
    ∃ e, readFasta (.encoded hard) (renderText crlf finalEol (pre ++ bad :: post)) = .error e :=
  readFasta_bad_symbol hard _ pre post bad (splitLines_render crlf finalEol _ hclean) ⟨(hclean bad (by simp)).2, hh⟩ hb

theorem readFasta_unequal_rows_rendered (m : Mode) (crlf finalEol : Bool) (r0 : LRec) (pre : List LRec) (r : LRec)
    (post : List LRec) (hclean : ∀ l ∈ renderLines (r0 :: pre ++ r :: post), CleanLine l ∧ l ≠ [])
    (hseq : ∀ x ∈ r0 :: pre ++ r :: post, ∀ l ∈ x.chunks, l.head? ≠ some 62)
    (hw : r.seq.length ≠ r0.seq.length) :
    ∃ e, readFasta m (renderText crlf finalEol (renderLines (r0 :: pre ++ r :: post))) = .error e := by
  refine readFasta_unequal_rows m _ r0 pre r post (splitLines_render crlf finalEol _ hclean) ?_ hw
  intro x hx l hl
  refine ⟨(hclean l ?_).2, hseq x hx l hl⟩
  simp only [renderLines, List.mem_flatMap, LRec.lines]
  exact ⟨x, hx, by simp [hl]⟩


/-! ## 8. Concrete inputs: non-vacuity, and what is not refused -/

def sb (s : String) : List Nat := stringToBytes s

/-- `stringToBytes_ofList` (see `Lemmas/Bytes`): the examples rewrite with it before they evaluate -/
theorem sb_ofList (l : List Char) : sb (String.ofList l) = l.map Char.toNat := stringToBytes_ofList l

/-- snps, per-sequence and aggregate: CRLF, wrapped and lower-case rows are read; the command is not refused -/
example : snpsOnText false false 0 1 (sb ">r\nACGT\n") (sb ">a x\nACGA\n>b\r\ntc\r\nGT") = "query,SNPs\na,T4A\nb,A1T\n" := by
  rw [sb_ofList, sb_ofList]
  decide +kernel
example : snpsOnText false true 0 1 (sb ">r\nACGT\n") (sb ">a x\nACGA\n>b\r\ntc\r\nGT") =
    "SNP,frequency\nA1T,0.500000000\nT4A,0.500000000\n" := by
  rw [sb_ofList, sb_ofList]
  decide +kernel
/-- updown list is not refused on such files (the text itself is not evaluated here: the CSV quoting of `udRow` uses
library string functions the kernel does not unfold; the general statement is `listOnText_valid`) -/
example : listOnText (sb ">r\nACGT\n") (sb ">a x\nACGA\n>b\r\ntn\r\nGT") ≠ errorOut := by
  rw [Ne, listOnText_error_iff]
  have hr : refOfText false (sb ">r\nACGT\n") = some ⟨[114], [114], [136, 40, 72, 24], 0, 48⟩ := by
    rw [sb_ofList]
    decide +kernel
  rintro (h | ⟨ref, h1, h2⟩)
  · rw [hr] at h
    cases h
  · rw [hr] at h1
    cases h1
    revert h2
    rw [sb_ofList]
    decide +kernel

def exCi : ClosestIn := ClosestIn.mk .snp "plain" 0 none [] []
example : closestOnText exCi (sb ">q\nACGT\n") (sb ">t1\nACGA\n>t2\nACGT\n") = "query,closest,distance,SNPs\nq,t2,0,\n" := by
  rw [sb_ofList, sb_ofList]
  decide +kernel

def exOpts : TROpts := TROpts.mk [1, 1, 1, 1] [bigN, bigN, bigN, bigN] false 1 10 10000 0 []
/-- options: size-total 4 -/
def exTi : TRIn := TRIn.mk [] [] [] false (udCheckArgs 4 0 0 0 0 0 0 0 0 0) exOpts
def exCsv : List Nat := sb "query,SNPs,ambiguities,SNPcount,ambcount\nt1,T4A,,1,0\nt2,A1T|T4A,,2,0\n"
/-- topranking: FASTA target and CSV target give the same text -/
example : trOnText exTi (sb ">r\nACGT\n") (.fasta (sb ">q\nACGA\n")) (.fasta (sb ">t1\nACGA\n>t2\nTCGA\n")) =
    "query,closestsame,closestup,closestdown,closestside\nq,t1,,t2,\n" := by
  rw [sb_ofList, sb_ofList, sb_ofList]
  decide +kernel
example : trOnText exTi (sb ">r\nACGT\n") (.fasta (sb ">q\nACGA\n")) (.csv exCsv) =
    "query,closestsame,closestup,closestdown,closestside\nq,t1,,t2,\n" := by
  rw [exCsv, sb_ofList, sb_ofList, sb_ofList]
  decide +kernel

def exVi : VarIn := VarIn.mk "gff" [] [] "msa" "r" [] [("r", sb "ACGT"), ("a", sb "ACGA")] false (-1) (-1) false 0 1
example : varCommand exVi modelPair = "query,mutations\na,nuc:T4A\n" := by decide +kernel
example : varOnText exVi (sb ">r\nACGT\n>a\nacga\n") modelPair = "query,mutations\na,nuc:T4A\n" := by
  rw [sb_ofList]
  decide +kernel

/-- toMultiAlign, toPairAlign: a window inside the reference is accepted -/
example : checkArgs 8 2 6 = some (2, 6, true) ∧ checkArgs 8 (-1) (-1) = some (1, 8, false) := by decide

/-! ### refused (instances of the theorems above, evaluated) -/

example : snpsOnText false false 0 1 (sb ">r\nACGT\n") (sb ">a\nACGA\n>b\nAC!T\n") = errorOut := by
  rw [sb_ofList, sb_ofList]
  decide +kernel
example : snpsOnText false false 0 1 (sb ">r\nACGT\n") (sb ">a\nACGA\n>b\nACT\n>c\nACGT\n") = errorOut := by
  rw [sb_ofList, sb_ofList]
  decide +kernel
example : snpsOnText false false 0 1 (sb ">r\nACGT\n") (sb ">a\nACG\n>b\nACT\n") = errorOut := by
  rw [sb_ofList, sb_ofList]
  decide +kernel
example : snpsOnText false false 0 1 (sb ">r\nACGT\n>s\nACGT\n") (sb ">a\nACGA\n") = errorOut := by
  rw [sb_ofList, sb_ofList]
  decide +kernel
example : snpsOnText false false 0 1 [] (sb ">a\nACGA\n") = errorOut := by
  rw [sb_ofList]
  decide +kernel
example : snpsOnText false false 0 1 (sb ">r\nACGT\n") (sb "\n\n") = errorOut := by
  rw [sb_ofList, sb_ofList]
  decide +kernel
example : closestOnText exCi (sb ">q\nACGT\n") (sb ">t1\nACG\n>t2\nACG\n") = errorOut := by
  rw [sb_ofList, sb_ofList]
  decide +kernel
example : trOnText exTi (sb ">r\nACGT\n") (.fasta (sb ">q\nACGA\n")) (.csv (sb "query,SNPs\nt1,T4A\n")) = errorOut := by
  rw [sb_ofList, sb_ofList, sb_ofList]
  decide +kernel
example : varCommand (setRecs exVi [("r", sb "ACGT"), ("a", sb "ACG")]) modelPair = "!error" := by decide +kernel
example : varCommand (setRecs exVi [("x", sb "ACGT"), ("a", sb "ACGA")]) modelPair = "!error" := by decide +kernel

/-! ### a trailing header is refused -/

/-- the error of a reader result: the IDs of the records delivered before it, and the error class (the second
component alone is `Props.C16.errClass`; `FromBytes.errOf` is the whole error, of any `Except`) -/
def errIds : Except (List FaRec × RdErr) (List FaRec) → Option (List (List Nat) × RdErr)
  | .error (out, e) => some (out.map (·.id), e)
  | .ok _ => none

/-- **a trailing header (last record without sequence) is refused**: every reader reports "different length sequences"
after having delivered record `a` (general statement: `fails_trailing_header`; what a loop end that flushes only a
non-empty buffer does instead: `Props.C16.old_finish_dropped_last`) -/
theorem trailing_header_refused :
    errIds (readFasta .plain (sb ">a\nACGT\n>b\n")) = some ([[97]], .diffLen) ∧
    errIds (readFasta (.encoded false) (sb ">a\nACGT\n>b\n")) = some ([[97]], .diffLen) ∧
    errIds (readFasta (.encoded true) (sb ">a\nACGT\n>b\n")) = some ([[97]], .diffLen) ∧
    FromBytes.errOf (readFastaList false (sb ">a\nACGT\n>b\n")) = some .diffLen := by
  rw [sb_ofList]
  decide +kernel

/-- hence snps, closest and variants (the three evaluated here) refuse such a file instead of printing a result without
record `b` -/
theorem trailing_header_commands_refused :
    snpsOnText false false 0 1 (sb ">r\nACGT\n") (sb ">a\nACGA\n>b\n") = errorOut ∧
    closestOnText exCi (sb ">q\nACGT\n") (sb ">t1\nACGT\n>t2\n") = errorOut ∧
    varOnText exVi (sb ">r\nACGT\n>a\nACGA\n>b\n") modelPair = errorOut := by
  repeat rw [sb_ofList]
  decide +kernel

/-- an empty last row is refused unless ALL rows are empty: two headers and nothing else are two records of width 0
(`rdFinishOld`: one record), and one single header is "no record" (`fails_single_header`) -/
example : (readFasta (.encoded false) (sb ">a\n>b\n")).toOption.map (fun rs => rs.map fun r => (r.id, r.seq)) =
    some [([97], []), ([98], [])] := by
  rw [sb_ofList]
  decide +kernel

example : errIds (readFasta (.encoded false) (sb ">a\n")) = some ([], .empty) := by
  rw [sb_ofList]
  decide +kernel

/-! ### What the command models do not refuse (the list in the file head) -/

/-- **`variants` and `sam variants` accept a window with start > end** (general statements:
`varCommand_window_not_checked`, `samVarCore_window_not_checked`): every mutation is filtered out and the run succeeds -/
theorem variants_bad_window_accepted : varCommand (setWindow exVi 3 2) modelPair = "query,mutations\na,\n" := by
  decide +kernel

theorem samVariants_bad_window_accepted :
    SamVarPipeline.samVarCore (setWindow exVi 3 2) [⟨"q", 0, 0, [(0, 4)], sb "ACGA"⟩] true (sb "ACGT") "r" samBlocks
      (fun b r => blockToSeqPair b r) modelPair = "query,mutations\nq,\n" := by decide +kernel

/-- **the command model of `variants` has no third annotation format**: whatever is not "gb" is handled
as GFF (the suffix check `refusesSuffix` is a separate function that no command model calls) -/
theorem variants_unknown_format_accepted :
    varCommand (VarIn.mk ".txt" [] [] "msa" "r" [] [("r", sb "ACGT"), ("a", sb "ACGA")] false (-1) (-1) false 0 1) modelPair =
      "query,mutations\na,nuc:T4A\n" := by decide +kernel

/-- **the value -1 of a window coordinate means "not given"**, so `--start -1` is not refused although
it is below 1 (the hypotheses `s ≠ -1`, `e ≠ -1` of the window theorems are needed); 0 and -2 are refused -/
theorem minus_one_is_absent : checkArgs 10 (-1) 5 = some (1, 5, true) ∧ checkArgs 10 0 5 = none ∧ checkArgs 10 (-2) 5 = none := by
  decide

/-- **toPairAlign does not compare the reference sequence with the @SQ length of the SAM header**:
with a reference of 4 bases and records aligned to a reference of 8, the model prints a pair whose rows have different
lengths (4 and 5 columns) -/
theorem topa_reference_length_not_checked :
    topaOnTexts (sb ">ref\nACGT\n") (-1) (-1) (-1) false false (SamRT.renderSam FromBytes.exName 8 [FromBytes.exR1, FromBytes.exR2]) =
      some [("q", ">ref\nACGT\n>q\nNACNT\n")] := by
  unfold topaOnTexts FromBytes.topaOfText
  rw [FromBytes.samRecsOfText_render FromBytes.exName 8 _ FromBytes.ex_hyps.1 FromBytes.ex_hyps.2.1]
  decide +kernel

/-- the same SAM file with the right reference -/
example : topaOnTexts (sb ">ref\nACGTACGT\n") (-1) (-1) (-1) false false
    (SamRT.renderSam FromBytes.exName 8 [FromBytes.exR1, FromBytes.exR2]) = some [("q", ">ref\nACGTACGT\n>q\nNACNTNNN\n")] := by
  unfold topaOnTexts FromBytes.topaOfText
  rw [FromBytes.samRecsOfText_render FromBytes.exName 8 _ FromBytes.ex_hyps.1 FromBytes.ex_hyps.2.1]
  decide +kernel


end Gofasta.Lemmas.Refusals
