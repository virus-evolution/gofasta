import Gofasta.Gen.ColsSam
import Gofasta.Model.Sam
/-
Code of pkg/sam regenerated from the Go source on every run by the go/ast translator `cols.go` (harness) into
`Gen/ColsSam.lean` (the method is described in Props/ColsClosest): `checkArgs`, the window check of toMultiAlign and
toPairAlign, statement by statement, and the tests on the flag by which the two SAM readers skip a record. The theorems
below say that these are the model's `checkArgs` and `isSkipped`, for all arguments; a change of the source changes the
generated definitions and breaks an obligation here.
-/
namespace Gofasta.Props.Cols
open Gofasta Gofasta.Model Gofasta.Gen.Cols

/-- the three range tests on a window `s..e` of a reference of length `L`, as the source writes them (Boolean, on
`Int`) and as the model does (on propositions, answering in `Nat`): whatever `s`, `e` and the trim flag are -/
theorem window_tests (L : Nat) (s e : Int) (t : Bool) :
    (if (decide (s > L) || decide (s < 1)) = true then none
      else if (decide (e > L) || decide (e < 1)) = true then none
      else if decide (s > e) = true then none else some (s, e, t)) =
    Option.map (fun r : Nat × Nat × Bool => ((r.1 : Int), (r.2.1 : Int), r.2.2))
      (if s > L ∨ s < 1 then none else if e > L ∨ e < 1 then none else if s > e then none
       else some (s.toNat, e.toNat, t)) := by
  simp only [Bool.or_eq_true, decide_eq_true_eq]
  by_cases h1 : s > L ∨ s < 1
  · rw [if_pos h1, if_pos h1]; rfl
  by_cases h2 : e > L ∨ e < 1
  · rw [if_neg h1, if_neg h1, if_pos h2, if_pos h2]; rfl
  by_cases h3 : s > e
  · rw [if_neg h1, if_neg h1, if_neg h2, if_neg h2, if_pos h3, if_pos h3]; rfl
  rw [if_neg h1, if_neg h1, if_neg h2, if_neg h2, if_neg h3, if_neg h3, Option.map_some,
    Int.toNat_of_nonneg (by omega), Int.toNat_of_nonneg (by omega)]

/-- `sam.checkArgs` (the window check of toMultiAlign and toPairAlign), translated statement by statement from the source:
it refuses exactly the windows the model refuses and otherwise returns the model's (start, end, trim) -/
theorem checkArgs_translated (L : Nat) (s e : Int) :
    sam_checkArgs (L : Int) s e = (Model.checkArgs L s e).map fun r => ((r.1 : Int), (r.2.1 : Int), r.2.2) := by
  unfold sam_checkArgs Model.checkArgs
  -- the defaults for -1 are put in first; what is left in each case is `window_tests`
  by_cases hs : s = -1 <;> by_cases he : e = -1 <;>
    simp only [bne, Bool.beq_eq_decide_eq, hs, he, decide_true, decide_false, if_true, if_false, Bool.false_eq_true,
      Bool.not_true, Bool.not_false, Bool.or_false, Bool.or_true]
  all_goals exact window_tests L _ _ _

/-- which SAM records the two readers skip (unmapped: bit 4; secondary: bit 256), translated from the source: the model's
`isSkipped` on the record's flag, for every flag value -/
theorem sam_skip (r : SamRec) :
    (sam_groupSamRecords r.flag).any id = isSkipped r ∧ (indels_getSamRecords r.flag).any id = isSkipped r := by
  have h2 : ∀ n : Nat, (n >>> 2) &&& 1 = (n / 4) % 2 := by
    intro n; rw [Nat.shiftRight_eq_div_pow, Nat.and_one_is_mod]
  have h8 : ∀ n : Nat, (n >>> 8) &&& 1 = (n / 256) % 2 := by
    intro n; rw [Nat.shiftRight_eq_div_pow, Nat.and_one_is_mod]
  simp [sam_groupSamRecords, indels_getSamRecords, isSkipped, h2, h8]

end Gofasta.Props.Cols
