import Gofasta.Model.Sched
import Gofasta.Lemmas.Reorder
/-
What a pipeline run has done, said without the state machine: the lemmas about arrival sequences and writers that no
model enters, and `Complete`, the outcome that Model/Sched and Model/SchedChain both prove of a nil return
(`complete_of_ret` in SchedProofs and in SchedChainProofs).
-/
-- the lemmas about arrival sequences are in the namespace of SchedProofs: the command files open them together with it
namespace Gofasta.Lemmas.Sched
open Gofasta.Model.Sched
variable {α β ε σ : Type}

theorem all_ok_of_arrival {items : List α} {F : α → Except ε β} {recs : List (Nat × β)}
    (hperm : (recs.map Prod.fst).Perm (List.range items.length))
    (hgood : ∀ r ∈ recs, ∃ x, items[r.1]? = some x ∧ F x = .ok r.2) : ∀ x ∈ items, ∃ y, F x = .ok y := by
  intro x hx
  obtain ⟨i, hi, rfl⟩ := List.getElem_of_mem hx
  obtain ⟨r, hr, rfl⟩ := List.mem_map.mp (hperm.mem_iff.mpr (List.mem_range.mpr hi))
  obtain ⟨x', hx', hf⟩ := hgood r hr
  rw [List.getElem?_eq_getElem hi] at hx'
  cases hx'
  exact ⟨_, hf⟩

theorem eq_filterMap_fst {f : Nat → Option (Nat × β)} {recs : List (Nat × β)} (h : ∀ r ∈ recs, f r.1 = some r) :
    recs = (recs.map Prod.fst).filterMap f := by
  induction recs with
  | nil => rfl
  | cons r t ih =>
    rw [List.map_cons, List.filterMap_cons, h r (List.mem_cons_self ..),
      ← ih fun r' hr' => h r' (List.mem_cons_of_mem _ hr')]

theorem absorbAll_total {absorb : σ → Nat × β → Except ε σ} {g : σ → Nat × β → σ}
    (h : ∀ st r, absorb st r = .ok (g st r)) (st : σ) (l : List (Nat × β)) :
    absorbAll absorb st l = .ok (l.foldl g st) := by
  induction l generalizing st with
  | nil => rfl
  | cons r t ih => simp only [absorbAll, h, List.foldl_cons]; exact ih _

theorem absorbAll_snoc (absorb : σ → Nat × β → Except ε σ) (st : σ) (l : List (Nat × β)) (r : Nat × β) :
    absorbAll absorb st (l ++ [r]) =
      match absorbAll absorb st l with
      | .ok st' => absorb st' r
      | .error e => .error e := by
  induction l generalizing st with
  | nil => simp only [List.nil_append, absorbAll]; cases absorb st r <;> rfl
  | cons a t ih =>
    simp only [List.cons_append, absorbAll]
    cases absorb st a with
    | ok st' => exact ih st'
    | error e => rfl

theorem absorbAll_snoc_ok {absorb : σ → Nat × β → Except ε σ} {st0 st st' : σ} {l : List (Nat × β)} {r : Nat × β}
    (h : absorbAll absorb st0 l = .ok st) (hr : absorb st r = .ok st') :
    absorbAll absorb st0 (l ++ [r]) = .ok st' := by
  rw [absorbAll_snoc, h]; exact hr

theorem outputs_exist {items : List α} {F : α → Except ε β} (hall : ∀ x ∈ items, ∃ y, F x = .ok y) :
    ∃ ys : List β, items.map F = ys.map Except.ok := by
  induction items with
  | nil => exact ⟨[], rfl⟩
  | cons a t ih =>
    obtain ⟨y, hy⟩ := hall a List.mem_cons_self
    obtain ⟨ys, hys⟩ := ih fun x hx => hall x (List.mem_cons_of_mem a hx)
    exact ⟨y :: ys, by rw [List.map_cons, hy, hys]; rfl⟩

theorem map_ok_length {items : List α} {F : α → Except ε β} {ys : List β} (h : items.map F = ys.map Except.ok) :
    ys.length = items.length := by
  simpa only [List.length_map] using (congrArg List.length h).symm

theorem good_index {items : List α} {F : α → Except ε β} {ys : List β} (h : items.map F = ys.map Except.ok)
    {i : Nat} {x : α} {y : β} (hx : items[i]? = some x) (hf : F x = .ok y) : ys[i]? = some y := by
  have h1 := congrArg (·[i]?) h
  simp only [List.getElem?_map, hx, Option.map_some, hf] at h1
  cases hy : ys[i]? with
  | none => rw [hy] at h1; cases h1
  | some y' => rw [hy] at h1; cases h1; rfl

/-- the two rewrites that bring `recs` and `ys` into the shape of `Reorder.run_perm`, whose payload is a total function
    of the index -/
theorem indexed_payload {ys : List β} {recs : List (Nat × β)} (d : β)
    (hgood : ∀ r ∈ recs, ys[r.1]? = some r.2) :
    recs = (recs.map Prod.fst).map (fun i => (i, ys[i]?.getD d)) ∧
    (List.range ys.length).map (fun i => ys[i]?.getD d) = ys := by
  constructor
  · rw [List.map_map]
    conv => lhs; rw [← List.map_id recs]
    apply List.map_congr_left
    intro r hr
    simp only [Function.comp, hgood r hr, Option.getD_some, id]
  · apply List.ext_getElem
    · simp only [List.length_map, List.length_range]
    · intro i h1 h2
      simp only [List.getElem_map, List.getElem_range, List.getElem?_eq_getElem h2, Option.getD_some]

theorem nil_of_perm_range {ys : List β} (h : ([] : List Nat).Perm (List.range ys.length)) : ys = [] :=
  List.eq_nil_of_length_eq_zero (by simpa using h.length_eq.symm)

open Gofasta.Model in
theorem run_eq_of_indexed {ys : List β} {recs : List (Nat × β)}
    (hperm : (recs.map Prod.fst).Perm (List.range ys.length))
    (hgood : ∀ r ∈ recs, ys[r.1]? = some r.2) : Reorder.run recs = ys := by
  -- the split is only to have a default payload r0.2 for `indexed_payload`; with no record ys is empty
  cases recs with
  | nil => rw [nil_of_perm_range hperm]; rfl
  | cons r0 t =>
    obtain ⟨h1, h2⟩ := indexed_payload r0.2 hgood
    rw [h1, Reorder.run_perm _ ys.length _ hperm, h2]

theorem map_ok_inj {ys ys' : List β} (h : ys.map (Except.ok (ε := ε)) = ys'.map Except.ok) : ys = ys' :=
  (List.map_inj_right fun _ _ => Except.ok.inj).mp h

theorem all_ok_of_map {items : List α} {F : α → Except ε β} {ys : List β} (h : items.map F = ys.map Except.ok) :
    ∀ x ∈ items, ∃ y, F x = .ok y := by
  intro x hx
  have : F x ∈ ys.map Except.ok := h ▸ List.mem_map_of_mem hx
  obtain ⟨y, _, hy⟩ := List.mem_map.mp this
  exact ⟨y, hy.symm⟩

theorem map_ok_eq {F : α → Except ε β} {g : α → β} (hg : ∀ x y, F x = .ok y → y = g x)
    {items : List α} {ys : List β} (h : items.map F = ys.map Except.ok) : ys = items.map g := by
  apply map_ok_inj (ε := ε)
  rw [← h, List.map_map]
  apply List.map_congr_left
  intro x hx
  obtain ⟨y, hy⟩ := all_ok_of_map h x hx
  rw [hy, Function.comp, hg x y hy]

theorem snd_perm_of_indexed {ys : List β} {recs : List (Nat × β)}
    (hperm : (recs.map Prod.fst).Perm (List.range ys.length))
    (hgood : ∀ r ∈ recs, ys[r.1]? = some r.2) : (recs.map Prod.snd).Perm ys := by
  cases recs with
  | nil => rw [nil_of_perm_range hperm]; exact List.Perm.refl _
  | cons r0 t =>
    obtain ⟨h1, h2⟩ := indexed_payload r0.2 hgood
    have := hperm.map (fun i => ys[i]?.getD r0.2)
    rw [h2] at this
    rw [h1, List.map_map]
    exact this

theorem arrival_indexed {items : List α} {F : α → Except ε β} {ys : List β} {recs : List (Nat × β)}
    (hys : items.map F = ys.map Except.ok) (hperm : (recs.map Prod.fst).Perm (List.range items.length))
    (hgood : ∀ r ∈ recs, ∃ x, items[r.1]? = some x ∧ F x = .ok r.2) :
    (recs.map Prod.fst).Perm (List.range ys.length) ∧ ∀ r ∈ recs, ys[r.1]? = some r.2 :=
  ⟨map_ok_length hys ▸ hperm, fun r hr => (hgood r hr).elim fun _ hx => good_index hys hx.1 hx.2⟩

end Gofasta.Lemmas.Sched

-- `goodPrefix` has the namespace of Lemmas/SchedFaultWriter, whose statements mention it: full names are referred to from
-- outside the Lean sources
namespace Gofasta.Lemmas.SchedFaults
open Gofasta.Model
open Gofasta.Lemmas.Sched (indexed_payload)
variable {α β ε : Type}

def goodPrefix (F : α → Except ε β) : List α → List β
  | [] => []
  | x :: t =>
    match F x with
    | .ok y => y :: goodPrefix F t
    | .error _ => []

theorem goodPrefix_all_ok {F : α → Except ε β} : ∀ {items : List α} {ys : List β},
    items.map F = ys.map Except.ok → goodPrefix F items = ys
  | [], [], _ => rfl
  | [], _ :: _, h => nomatch h
  | _ :: _, [], h => nomatch h
  | a :: t, y :: ys, h => by
    rw [List.map_cons, List.map_cons, List.cons.injEq] at h
    rw [goodPrefix, h.1, goodPrefix_all_ok h.2]

theorem range_map_goodPrefix {F : α → Except ε β} : ∀ (items : List α) (c : Nat) (g : Nat → β),
    (∀ i, i < c → ∃ x, items[i]? = some x ∧ F x = .ok (g i)) → (List.range c).map g = (goodPrefix F items).take c
  | _, 0, _, _ => rfl
  | [], c + 1, _, h => (h 0 (Nat.succ_pos c)).elim fun _ hx => nomatch hx.1
  | a :: t, c + 1, g, h => by
    obtain ⟨x, hx, hf⟩ := h 0 (Nat.succ_pos c)
    cases hx
    rw [goodPrefix, hf, List.take_succ_cons, List.range_succ_eq_map, List.map_cons, List.map_map,
      ← range_map_goodPrefix t c (fun i => g (i + 1)) fun i hi => h (i + 1) (Nat.succ_lt_succ hi)]
    rfl

/-- `Reorder.foldl_inv`, with the payload as a function of the index, gives `out = (range counter).map g`; by `Inv.below`
every index under the counter has arrived, so its item is accepted -/
theorem run_partial {items : List α} {F : α → Except ε β} {recs : List (Nat × β)}
    (hnd : (recs.map Prod.fst).Nodup)
    (hgood : ∀ r ∈ recs, ∃ x, items[r.1]? = some x ∧ F x = .ok r.2) :
    ∃ c, Reorder.run recs = (goodPrefix F items).take c := by
  cases hrecs : recs with
  | nil => exact ⟨0, rfl⟩
  | cons r0 t =>
    rw [← hrecs]
    -- r0 only provides a payload where no item is accepted
    let ys := items.map fun x => (F x).toOption.getD r0.2
    have hys : ∀ r ∈ recs, ys[r.1]? = some r.2 := fun r hr => by
      obtain ⟨x, hx, hf⟩ := hgood r hr
      simp only [ys, List.getElem?_map, hx, hf, Option.map_some, Except.toOption, Option.getD_some]
    have hrecs' := (indexed_payload r0.2 hys).1
    obtain ⟨hI, _⟩ := Reorder.foldl_inv (fun i => ys[i]?.getD r0.2) (recs.map Prod.fst) [] ⟨[], 0, []⟩
      (Reorder.inv_empty _) (by simpa using hnd) rfl
    rw [← hrecs', List.append_nil] at hI
    refine ⟨(recs.foldl Reorder.recv ⟨[], 0, []⟩).counter, ?_⟩
    unfold Reorder.run Reorder.runFrom
    rw [hI.out_eq]
    apply range_map_goodPrefix
    intro i hi
    obtain ⟨r, hr, rfl⟩ := List.mem_map.mp (List.mem_reverse.mp (hI.below i hi))
    obtain ⟨x, hx, hf⟩ := hgood r hr
    exact ⟨x, hx, by rw [hys r hr]; exact hf⟩

end Gofasta.Lemmas.SchedFaults

namespace Gofasta.Lemmas.Outcome
open Gofasta.Model
open Gofasta.Model.Sched (absorbAll)
open Gofasta.Lemmas.Sched (all_ok_of_arrival eq_filterMap_fst outputs_exist arrival_indexed run_eq_of_indexed)
variable {α β ε σ : Type}

/-- `wst` is the state of a writer (`absorb`, `finish`, from `init`) that has absorbed, in some order, one record per
item - the item's index with the worker's result on it - and has then finished -/
def Complete (items : List α) (F : α → Except ε β) (absorb : σ → Nat × β → Except ε σ) (finish : σ → Except ε σ)
    (init wst : σ) : Prop :=
  ∃ recs : List (Nat × β), (recs.map Prod.fst).Perm (List.range items.length) ∧
    (∀ r ∈ recs, ∃ x, items[r.1]? = some x ∧ F x = .ok r.2) ∧
    ∃ st, absorbAll absorb init recs = .ok st ∧ finish st = .ok wst

section
variable {items : List α} {F : α → Except ε β} {absorb : σ → Nat × β → Except ε σ} {finish : σ → Except ε σ}
  {init wst : σ}

theorem Complete.all_ok (hc : Complete items F absorb finish init wst) : ∀ x ∈ items, ∃ y, F x = .ok y :=
  hc.elim fun _ h => all_ok_of_arrival h.1 h.2.1

/-- in terms of the arrival order of the indices alone (`recf i` is record i as it reaches the writer): the form of
`success_means_complete'` and `chain_success_means_complete'` -/
theorem Complete.indices (hc : Complete items F absorb finish init wst) {recf : Nat → Option (Nat × β)}
    (hrec : ∀ r : Nat × β, (∃ x, items[r.1]? = some x ∧ F x = .ok r.2) → recf r.1 = some r) :
    ∃ arrival : List Nat, arrival.Perm (List.range items.length) ∧
      ∃ st, absorbAll absorb init (arrival.filterMap recf) = .ok st ∧ finish st = .ok wst := by
  obtain ⟨recs, h3, h4, h5⟩ := hc
  exact ⟨recs.map Prod.fst, h3, by rw [← eq_filterMap_fst fun r hr => hrec r (h4 r hr)]; exact h5⟩

theorem Complete.not_failing (hc : Complete items F absorb finish init wst)
    (hfail : (∃ x ∈ items, ∃ e, F x = .error e) ∨
      (∀ recs : List (Nat × β), (recs.map Prod.fst).Perm (List.range items.length) →
        (∀ r ∈ recs, ∃ x, items[r.1]? = some x ∧ F x = .ok r.2) →
        ∀ st st', absorbAll absorb init recs = .ok st → finish st ≠ .ok st')) : False := by
  rcases hfail with ⟨x, hx, e, he⟩ | h
  · obtain ⟨y, hy⟩ := hc.all_ok x hx; rw [hy] at he; cases he
  · obtain ⟨recs, h3, h4, st, h5, h6⟩ := hc; exact h recs h3 h4 st _ h5 h6

theorem Complete.fold {g : σ → Nat × β → σ} {fin : σ → σ} (habs : ∀ st r, absorb st r = .ok (g st r))
    (hfin : ∀ st, finish st = .ok (fin st)) (hc : Complete items F absorb finish init wst) :
    ∃ recs : List (Nat × β), (recs.map Prod.fst).Perm (List.range items.length) ∧
      (∀ r ∈ recs, ∃ x, items[r.1]? = some x ∧ F x = .ok r.2) ∧ wst = fin (recs.foldl g init) :=
  hc.elim fun recs ⟨h3, h4, _, h5, h6⟩ => by
    rw [Sched.absorbAll_total habs] at h5
    cases h5
    rw [hfin] at h6
    cases h6; exact ⟨recs, h3, h4, rfl⟩

/-- `Complete.fold` in terms of the list ys of the workers' results, the form the command-level writers use -/
theorem Complete.total (g : σ → Nat × β → σ) (fin : σ → σ)
    (habs : ∀ st r, absorb st r = .ok (g st r)) (hfin : ∀ st, finish st = .ok (fin st))
    (hc : Complete items F absorb finish init wst) :
    ∃ (ys : List β) (arr : List (Nat × β)), items.map F = ys.map Except.ok ∧
      (arr.map Prod.fst).Perm (List.range ys.length) ∧ (∀ r ∈ arr, ys[r.1]? = some r.2) ∧
      wst = fin (arr.foldl g init) := by
  obtain ⟨ys, hys⟩ := outputs_exist hc.all_ok
  obtain ⟨arr, hperm, hgood, hw⟩ := hc.fold habs hfin
  exact ⟨ys, arr, hys, (arrival_indexed hys hperm hgood).1, (arrival_indexed hys hperm hgood).2, hw⟩

theorem Complete.reorder {absorb : Reorder.St β → Nat × β → Except ε (Reorder.St β)}
    {finish : Reorder.St β → Except ε (Reorder.St β)} {init wst : Reorder.St β}
    (habs : ∀ st r, absorb st r = .ok (Reorder.recv st r)) (hfin : ∀ st, finish st = .ok st)
    (hinit : init = ⟨[], 0, []⟩) (hc : Complete items F absorb finish init wst) :
    wst.out.map Except.ok = items.map F := by
  obtain ⟨ys, arr, hys, hperm, hgood, rfl⟩ := hc.total _ id habs hfin
  rw [hinit, hys]; exact congrArg _ (run_eq_of_indexed hperm hgood)

theorem Complete.commutative {g : σ → Nat × β → σ} (habs : ∀ st r, absorb st r = .ok (g st r))
    (hfin : ∀ st, finish st = .ok st) (hcomm : ∀ st a b, g (g st a) b = g (g st b) a)
    (hc : Complete items F absorb finish init wst) {recf : Nat → Option (Nat × β)}
    (hrec : ∀ r : Nat × β, (∃ x, items[r.1]? = some x ∧ F x = .ok r.2) → recf r.1 = some r) :
    wst = ((List.range items.length).filterMap recf).foldl g init := by
  obtain ⟨recs, hperm, hgood, rfl⟩ := hc.fold habs hfin
  rw [eq_filterMap_fst fun r hr => hrec r (hgood r hr)]
  exact List.Perm.foldl_eq' (hperm.filterMap _) (fun x _ y _ z => hcomm z x y) _

/-- the four disjuncts are `ErrSource` of either model -/
theorem no_source {readFail : Option (Nat × ε)} {e : ε} (hrf : readFail = none) (hf : ∀ x ∈ items, ∃ y, F x = .ok y)
    (ha : ∀ st r, ∃ st', absorb st r = .ok st') (hfin : ∀ st, ∃ st', finish st = .ok st')
    (h : (∃ k, readFail = some (k, e)) ∨ (∃ x ∈ items, F x = .error e) ∨
      (∃ st r, absorb st r = .error e) ∨ (∃ st, finish st = .error e)) : False := by
  rcases h with ⟨k, h⟩ | ⟨x, hx, h⟩ | ⟨st, r, h⟩ | ⟨st, h⟩
  · rw [hrf] at h; cases h
  · obtain ⟨y, hy⟩ := hf x hx; rw [hy] at h; cases h
  · obtain ⟨st', hy⟩ := ha st r; rw [hy] at h; cases h
  · obtain ⟨st', hy⟩ := hfin st; rw [hy] at h; cases h

end

end Gofasta.Lemmas.Outcome
