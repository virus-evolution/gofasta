import Gofasta.Lemmas.ListFacts
/-
Rows written position by position: `lay n seg base` = seg 0, base 0, seg 1, base 1, …, base (n-1), seg n : the columns
inserted before reference position p (`seg p`) followed by the column of position p (`base p`), for the first n
positions, and the columns inserted after the last of them. The pair of `sam toPairAlign` (model and specification),
the rows of the paired CIGAR walk and the columns the indel scanner reads are layouts over the reference positions.
-/
namespace Gofasta.Lemmas.PairMulti
-- `pre`, `lay` and `pre_zero` carry the names under which the theorems of Lemmas/PairMulti are stated
section
variable {α : Type}

def pre (seg : Nat → List α) (base : Nat → α) (p : Nat) : List α :=
  (List.range p).flatMap fun i => seg i ++ [base i]

def lay (n : Nat) (seg : Nat → List α) (base : Nat → α) : List α := pre seg base n ++ seg n

theorem pre_zero (seg : Nat → List α) (base : Nat → α) : pre seg base 0 = [] := rfl

end
end Gofasta.Lemmas.PairMulti

namespace Gofasta.Lemmas.Layout
open Gofasta.Lemmas Gofasta.Lemmas.PairMulti
variable {α : Type}

/-- what follows the columns inserted before position p in a layout over n positions -/
def post (seg : Nat → List α) (base : Nat → α) (p n : Nat) : List α :=
  (List.range (n - p)).flatMap fun i => base (p + i) :: seg (p + i + 1)

theorem pre_succ (seg : Nat → List α) (base : Nat → α) (p : Nat) :
    pre seg base (p + 1) = pre seg base p ++ (seg p ++ [base p]) := by
  unfold pre
  rw [List.range_succ, List.flatMap_append, List.flatMap_singleton]

theorem lay_succ (seg : Nat → List α) (base : Nat → α) (n : Nat) :
    lay (n + 1) seg base = lay n seg base ++ base n :: seg (n + 1) := by
  unfold lay
  rw [pre_succ]
  simp only [List.append_assoc, List.singleton_append]

theorem pre_congr (seg seg' : Nat → List α) (base base' : Nat → α) (p : Nat)
    (hs : ∀ i, i < p → seg i = seg' i) (hb : ∀ i, i < p → base i = base' i) : pre seg base p = pre seg' base' p :=
  flatMap_congr _ _ _ fun i hi => by rw [hs i (List.mem_range.1 hi), hb i (List.mem_range.1 hi)]

theorem post_congr (seg seg' : Nat → List α) (base base' : Nat → α) (p n : Nat)
    (hs : ∀ i, p < i → i ≤ n → seg i = seg' i) (hb : ∀ i, p ≤ i → i < n → base i = base' i) :
    post seg base p n = post seg' base' p n :=
  flatMap_congr _ _ _ fun i hi => by
    have hi' := List.mem_range.1 hi
    rw [hs (p + i + 1) (by omega) (by omega), hb (p + i) (by omega) (by omega)]

theorem lay_congr (seg seg' : Nat → List α) (base base' : Nat → α) (n : Nat)
    (hs : ∀ i, i ≤ n → seg i = seg' i) (hb : ∀ i, i < n → base i = base' i) : lay n seg base = lay n seg' base' := by
  unfold lay
  rw [pre_congr seg seg' base base' n (fun i hi => hs i (Nat.le_of_lt hi)) hb, hs n (Nat.le_refl _)]

theorem post_succ (seg : Nat → List α) (base : Nat → α) (p d : Nat) :
    post seg base p (p + d + 1) = post seg base p (p + d) ++ base (p + d) :: seg (p + d + 1) := by
  unfold post
  rw [show p + d + 1 - p = d + 1 by omega, show p + d - p = d by omega, List.range_succ, List.flatMap_append,
    List.flatMap_singleton]

theorem lay_split (seg : Nat → List α) (base : Nat → α) (p n : Nat) (h : p ≤ n) :
    lay n seg base = pre seg base p ++ seg p ++ post seg base p n := by
  obtain ⟨d, rfl⟩ := Nat.exists_eq_add_of_le h
  induction d with
  | zero => simp [lay, post]
  | succ d ih => rw [← Nat.add_assoc, lay_succ, ih (Nat.le_add_right p d), post_succ, List.append_assoc]

/-- with f the widths of the `seg`s, the number of inserted columns before position p -/
def sumTo (f : Nat → Nat) (p : Nat) : Nat := ((List.range p).map f).sum

theorem sumTo_succ (f : Nat → Nat) (p : Nat) : sumTo f (p + 1) = sumTo f p + f p := by
  unfold sumTo
  rw [List.range_succ, List.map_append, List.sum_append]
  simp

theorem sumTo_congr (f g : Nat → Nat) (n : Nat) (h : ∀ i, i < n → f i = g i) : sumTo f n = sumTo g n :=
  congrArg List.sum (List.map_congr_left fun i hi => h i (List.mem_range.1 hi))

theorem pre_length (seg : Nat → List α) (base : Nat → α) (p : Nat) :
    (pre seg base p).length = p + sumTo (fun i => (seg i).length) p := by
  induction p with
  | zero => rfl
  | succ p ih =>
    rw [pre_succ, List.length_append, ih, sumTo_succ, List.length_append, List.length_singleton]
    omega

theorem lay_length (seg : Nat → List α) (base : Nat → α) (n : Nat) :
    (lay n seg base).length = n + sumTo (fun i => (seg i).length) (n + 1) := by
  unfold lay
  rw [List.length_append, pre_length, sumTo_succ, Nat.add_assoc]

theorem lay_map {β : Type} (f : α → β) (seg : Nat → List α) (base : Nat → α) (n : Nat) :
    (lay n seg base).map f = lay n (fun p => (seg p).map f) (fun p => f (base p)) := by
  induction n with
  | zero => simp [lay, pre]
  | succ n ih => rw [lay_succ, lay_succ, List.map_append, ih, List.map_cons]

theorem lay_shift (seg : Nat → List α) (base : Nat → α) (a : Nat) (h0 : ∀ i, i < a → seg i = []) : ∀ (n : Nat),
    lay (a + n) seg base = (List.range a).map base ++ lay n (fun i => seg (a + i)) (fun i => base (a + i)) := by
  intro n
  induction n with
  | zero =>
    simp only [Nat.add_zero, lay, pre_zero, List.nil_append]
    congr 1
    induction a with
    | zero => rfl
    | succ a ih =>
      rw [pre_succ, List.range_succ, List.map_append, ih (fun i hi => h0 i (by omega)), h0 a (by omega)]
      rfl
  | succ n ih => rw [← Nat.add_assoc, lay_succ, ih, lay_succ, List.append_assoc, Nat.add_assoc]

theorem lay_extend (seg : Nat → List α) (base : Nat → α) (n : Nat) (h0 : ∀ i, n < i → seg i = []) : ∀ (d : Nat),
    lay (n + d) seg base = lay n seg base ++ (List.range d).map fun i => base (n + i) := by
  intro d
  induction d with
  | zero => simp
  | succ d ih =>
    rw [← Nat.add_assoc, lay_succ, ih, h0 (n + d + 1) (by omega), List.range_succ, List.map_append, List.append_assoc]
    rfl

theorem lay_pad (seg : Nat → List α) (base : Nat → α) (v : α) (E M : Nat) (h : E ≤ M)
    (hs : ∀ i, E < i → ∀ y ∈ seg i, y = v) (hb : ∀ i, E ≤ i → base i = v) :
    ∃ k, lay M seg base = lay E seg base ++ List.replicate k v := by
  refine ⟨(post seg base E M).length, ?_⟩
  rw [lay_split seg base E M h]
  refine congrArg (lay E seg base ++ ·) (List.eq_replicate_iff.2 ⟨rfl, fun y hy => ?_⟩)
  obtain ⟨i, _, hy⟩ := List.mem_flatMap.1 hy
  rcases List.mem_cons.1 hy with rfl | hy
  · exact hb _ (Nat.le_add_right E i)
  · exact hs _ (by omega) y hy

/-- `lay_shift` in the form the CIGAR walk uses it: the first a base columns are given as a list `A` of the caller's
(a slice of the reference, a run of '-'), with the equation `hA` to show for it -/
theorem lay_prepend_bases (seg seg' : Nat → List α) (base base' : Nat → α) (a n : Nat) (A : List α)
    (hA : A = (List.range a).map base) (h0 : ∀ i, i < a → seg i = []) (hs : ∀ i, i ≤ n → seg (a + i) = seg' i)
    (hb : ∀ i, i < n → base (a + i) = base' i) : lay (a + n) seg base = A ++ lay n seg' base' := by
  rw [lay_shift seg base a h0 n, hA, lay_congr _ seg' _ base' n hs hb]

theorem lay_prepend_seg (seg seg' : Nat → List α) (base : Nat → α) (n : Nat) (A : List α)
    (h0 : seg 0 = A ++ seg' 0) (hs : ∀ i, 0 < i → i ≤ n → seg i = seg' i) : lay n seg base = A ++ lay n seg' base := by
  rw [lay_split seg base 0 n (Nat.zero_le _), lay_split seg' base 0 n (Nat.zero_le _), h0,
    post_congr seg seg' base base 0 n hs (fun _ _ _ => rfl)]
  simp only [pre_zero, List.nil_append, List.append_assoc]

theorem lay_succ_left (seg : Nat → List α) (base : Nat → α) : ∀ (n : Nat),
    lay (n + 1) seg base = seg 0 ++ base 0 :: lay n (fun i => seg (i + 1)) (fun i => base (i + 1)) := by
  intro n
  induction n with
  | zero => rw [lay_succ]; simp [lay, pre_zero]
  | succ n ih => rw [lay_succ, ih, lay_succ (fun i => seg (i + 1)), List.append_assoc, List.cons_append]

theorem filter_lay (f : α → Bool) (seg : Nat → List α) (base : Nat → α) : ∀ (n : Nat),
    (∀ p, p ≤ n → ∀ x ∈ seg p, f x = false) → (∀ p, p < n → f (base p) = true) →
    (lay n seg base).filter f = (List.range n).map base := by
  intro n
  induction n with
  | zero =>
    intro hs _
    exact filter_nil_of _ f (hs 0 (Nat.le_refl 0))
  | succ n ih =>
    intro hs hb
    rw [lay_succ, List.filter_append, ih (fun p hp => hs p (Nat.le_succ_of_le hp)) (fun p hp => hb p (Nat.lt_succ_of_lt hp)),
      List.filter_cons, if_pos (hb n (Nat.lt_succ_self n)), filter_nil_of _ f (hs (n + 1) (Nat.le_refl _)),
      List.range_succ, List.map_append]
    rfl

theorem mem_lay (seg : Nat → List α) (base : Nat → α) (n : Nat) (x : α) (h : x ∈ lay n seg base) :
    (∃ p, p ≤ n ∧ x ∈ seg p) ∨ ∃ p, p < n ∧ x = base p := by
  rcases List.mem_append.1 h with h | h
  · obtain ⟨p, hp, h⟩ := List.mem_flatMap.1 h
    rcases List.mem_append.1 h with h | h
    · exact .inl ⟨p, Nat.le_of_lt (List.mem_range.1 hp), h⟩
    · exact .inr ⟨p, List.mem_range.1 hp, List.mem_singleton.1 h⟩
  · exact .inl ⟨n, Nat.le_refl n, h⟩

end Gofasta.Lemmas.Layout
