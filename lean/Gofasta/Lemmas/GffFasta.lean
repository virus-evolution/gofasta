import Gofasta.Lemmas.GffRoundTrip
import Gofasta.Lemmas.FastaLayout
/-
The FASTA section of a GFF3 file: the section reader of the GFF model (Model/GffText, its own copy of the FASTA loop)
agrees with the FASTA model `readFastaList`, line by line and on whole texts; and ReadGFF on the bytes of a file with
such a section.
-/
-- `FromBytes` because the full names `FromBytes.fasta_section_agrees`, `FromBytes.gff_fasta_from_bytes` are referred to from outside the Lean sources
namespace Gofasta.Lemmas.FromBytes
open Gofasta Model
open Gofasta.Model.GffText (FaSt FaRecord faStep faLoop faFinish faRec firstFieldU fields fieldsAux Err)
open Gofasta.Lemmas.GffRT (fieldsAux_collect fieldsAux_skip fieldsAux_first)

/-- no byte that starts a multi-byte white-space character of unicode.IsSpace (U+0085, U+00A0 start with 0xC2 ;
U+1680 with 0xE1 ; U+2000..U+200A, U+2028, U+2029, U+202F, U+205F with 0xE2 ; U+3000 with 0xE3). Every ASCII text
(bytes below 128) qualifies. -/
def NoWideSpace (d : List Nat) : Prop := ∀ b ∈ d, b ≠ 0xC2 ∧ b ≠ 0xE1 ∧ b ≠ 0xE2 ∧ b ≠ 0xE3

instance (d : List Nat) : Decidable (NoWideSpace d) := by unfold NoWideSpace; infer_instance

theorem noWideSpace_of_ascii (d : List Nat) (h : ∀ b ∈ d, b < 128) : NoWideSpace d := by
  intro b hb
  have := h b hb
  omega

/-- **strings.Fields(d)[0] on text without wide white space** is the ASCII rule of the FASTA model -/
theorem firstFieldU_eq (d : List Nat) (h : NoWideSpace d) : firstFieldU d = firstField d := by
  unfold firstFieldU fields firstField
  rw [fieldsAux_skip d h]
  cases ht : d.dropWhile isSpaceB with
  | nil => simp [fieldsAux]
  | cons b u =>
    obtain ⟨hbn, hu⟩ := List.forall_mem_cons.1 (ht ▸ fun x hx => h x ((List.dropWhile_suffix _).subset hx) : NoWideSpace (b :: u))
    have hb : isSpaceB b = false := by
      have := List.head?_dropWhile_not isSpaceB d
      rwa [ht] at this
    rw [fieldsAux_collect b u [] hbn hb, fieldsAux_first u [b] hu (List.cons_ne_nil _ _)]
    simp [hb]

/-- the hypothesis is needed: a header whose ID is followed by U+00A0 (bytes C2 A0) -/
example : firstFieldU [97, 0xC2, 0xA0, 98] = some [97] ∧ firstField [97, 0xC2, 0xA0, 98] = some [97, 0xC2, 0xA0, 98] := by
  decide +kernel

/-- a record of the FASTA model as the GFF reader returns it: the sequence decoded, no score -/
def conv (r : FaRec) : FaRecord := ⟨r.id, r.desc, r.seq.map dec, r.idx⟩

/-- the state of the FASTA model as a state of the GFF reader's copy of the loop. The GFF reader keeps the flag the other
way round: `FaSt.first` is true BEFORE the first header, `RdState.started` after it. -/
def toFa (t : RdState) : FaSt :=
  ⟨!t.started, t.id, t.desc, t.buf, t.width, t.counter, t.out.map conv⟩

/-- the error classes of the two readers: the GFF reader tells "first line is not a header" from "header without an
ID", the model has one class for both -/
def errMap : Err → RdErr
  | .faDiffLen => .diffLen
  | .faInvalid => .invalidNuc
  | .faEmpty => .empty
  | _ => .badFormat

/-- the classes correspond, with ONE exception: at a header line that both lacks an ID and closes a record of the wrong
length, the GFF reader reports the length, the model (the order of the repair F-C16b) the missing ID -/
def ErrRel (e : Err) (e' : RdErr) : Prop := e' = errMap e ∨ (e = .faDiffLen ∧ e' = .badFormat)

def Rel {α β : Type} (R : α → β → Prop) : Except Err α → Except (List FaRec × RdErr) β → Prop
  | .ok a, .ok b => R a b
  | .error e, .error x => ErrRel e x.2
  | _, _ => False

theorem Rel.cases {α β : Type} {R : α → β → Prop} {x : Except Err α} {y : Except (List FaRec × RdErr) β}
    (h : Rel R x y) :
    (∃ a b, x = .ok a ∧ y = .ok b ∧ R a b) ∨ (∃ e z, x = .error e ∧ y = .error z ∧ ErrRel e z.2) := by
  cases x <;> cases y
  · exact Or.inr ⟨_, _, rfl, rfl, h⟩
  · exact h.elim
  · exact h.elim
  · exact Or.inl ⟨_, _, rfl, rfl, h⟩

abbrev StepRel := Rel fun (s : FaSt) (t : RdState) => s = toFa t

abbrev ResRel := Rel fun (a : List FaRecord) (b : List FaRec) => a = b.map conv

theorem faRec_toFa (t : RdState) : faRec (toFa t) = conv (mkRec t) := rfl

/-- what is asked of a line of the section: IF it is a header line ('>' first), the text after the '>' has no wide
white space. Every other line qualifies. -/
def HeaderOk (line : List Nat) : Prop := ∀ d, line = 62 :: d → NoWideSpace d

instance (line : List Nat) : Decidable (HeaderOk line) := by
  unfold HeaderOk
  cases line with
  | nil => exact isTrue (fun d h => by cases h)
  | cons b t =>
    by_cases hb : b = 62
    · by_cases ht : NoWideSpace t
      · exact isTrue (fun d h => by cases h; exact ht)
      · exact isFalse (fun hh => ht (hh t (by rw [hb])))
    · exact isTrue (fun d h => by cases h; exact absurd rfl hb)

theorem errRel_map (e : Err) : ErrRel e (errMap e) := Or.inl rfl

theorem step_sim (t : RdState) (line : List Nat) (h : HeaderOk line) :
    StepRel (faStep (toFa t) line) (rdStep (.encoded false) t line) := by
  cases line with
  | nil => exact rfl
  | cons b d =>
    by_cases hb : b = 62
    · subst hb
      -- a header line: the readers test "started", the ID and the width of the closed record in different orders
      simp only [faStep, rdStep, firstFieldU_eq d (h d rfl), toFa]
      cases hst : t.started <;> cases hid : firstField d <;>
        by_cases hw : t.counter ≠ 0 ∧ t.buf.length ≠ t.width <;>
        simp [Rel, ErrRel, errMap, toFa, faRec, conv, mkRec, hw]
      -- left: a further header with an ID after a record of the right width; the two new `width` fields are the same
      -- `if t.counter = 0 …` with different Decidable instances
      rfl
    · rw [rdStep_seq _ t (b :: d) ⟨List.cons_ne_nil b d, by simpa using hb⟩]
      simp only [faStep, hb, if_false, toFa, seqLine]
      cases hst : t.started
      · exact Or.inl rfl
      · rw [if_neg (by decide), if_neg (by decide)]
        cases henc : encodeLine false (b :: d)
        · exact Or.inl rfl
        · simp only [Rel, toFa, addBuf, hst, Bool.not_true]

def LoopRel : Except Err FaSt → Except (List FaRec × RdErr) RdState → Prop := StepRel

theorem loop_sim : ∀ (lines : List (List Nat)) (t : RdState), (∀ l ∈ lines, HeaderOk l) →
    StepRel (faLoop (toFa t) lines) (rdLines (.encoded false) t lines)
  | [], _, _ => rfl
  | l :: ls, t, h => by
    obtain ⟨hl, hls⟩ := List.forall_mem_cons.1 h
    rw [faLoop, rdLines]
    rcases (step_sim t l hl).cases with ⟨_, t', hx, hy, rfl⟩ | ⟨e, z, hx, hy, r⟩
    · rw [hx, hy]
      exact loop_sim ls t' hls
    · rw [hx, hy]
      exact r

theorem finish_sim (t : RdState) : ResRel (faFinish (toFa t)) (rdFinish t) := by
  simp only [faFinish, rdFinish, toFa, Bool.or_eq_true, Bool.and_eq_true, decide_eq_true_eq, bne_iff_ne]
  by_cases hb : t.buf.length > 0 ∨ t.counter > 0
  · simp only [hb, if_true]
    by_cases hw : t.counter > 0 ∧ t.buf.length ≠ t.width
    · simp [hw, Rel, ErrRel, errMap]
    · simp [hw, Rel, faRec, conv, mkRec]
  · simp only [hb, if_false]
    exact Or.inl rfl

def gffFastaOnLines (lines : List (List Nat)) : Except Err (List FaRecord) :=
  match faLoop {} lines with
  | .ok s => faFinish s
  | .error e => .error e

def modelFastaOnLines (lines : List (List Nat)) : Except (List FaRec × RdErr) (List FaRec) :=
  match rdLines (.encoded false) {} lines with
  | .ok s => rdFinish s
  | .error e => .error e

theorem fasta_lines_agree (lines : List (List Nat)) (h : ∀ l ∈ lines, HeaderOk l) :
    ResRel (gffFastaOnLines lines) (modelFastaOnLines lines) := by
  unfold gffFastaOnLines modelFastaOnLines
  rcases (loop_sim lines {} h).cases with ⟨_, t', hx, hy, rfl⟩ | ⟨e, z, hx, hy, r⟩
  · rw [show faLoop {} lines = _ from hx, hy]
    exact finish_sim t'
  · rw [show faLoop {} lines = _ from hx, hy]
    exact r

def errOf {ε α : Type} : Except ε α → Option ε
  | .error e => some e
  | .ok _ => none

/-- the exception in `ErrRel` is real: ">a / AC / >b / A / >" (third header: no ID, and record b too short) -/
example : errOf (gffFastaOnLines [[62, 97], [65, 67], [62, 98], [65], [62]]) = some .faDiffLen ∧
    (errOf (modelFastaOnLines [[62, 97], [65, 67], [62, 98], [65], [62]])).map (·.2) = some .badFormat := by
  refine ⟨by decide +kernel, by decide +kernel⟩

/-- the loop end on both sides: ">a / ACGT / >b" (a last header without a sequence) is refused with
"different length sequences" by the FASTA-section reader of the GFF model and by the FASTA model; two headers and
nothing else are two records of width 0; one single header is "no record" -/
example : errOf (gffFastaOnLines [[62, 97], [65, 67, 71, 84], [62, 98]]) = some .faDiffLen ∧
    (errOf (modelFastaOnLines [[62, 97], [65, 67, 71, 84], [62, 98]])).map (·.2) = some .diffLen ∧
    (gffFastaOnLines [[62, 97], [62, 98]]).toOption = some [⟨[97], [97], [], 0⟩, ⟨[98], [98], [], 1⟩] ∧
    errOf (gffFastaOnLines [[62, 97]]) = some .faEmpty := by
  refine ⟨by decide +kernel, by decide +kernel, by decide +kernel, by decide +kernel⟩

/-- the hypothesis on headers is needed: ">" followed by U+00A0 has an ID for the model (ASCII white space only) and
none for strings.Fields -/
example : errOf (gffFastaOnLines [[62, 0xC2, 0xA0], [65]]) = some .faNoId ∧
    (modelFastaOnLines [[62, 0xC2, 0xA0], [65]]).toOption.map (·.map conv) = some [⟨[0xC2, 0xA0], [0xC2, 0xA0], [65], 0⟩] := by
  refine ⟨by decide +kernel, by decide +kernel⟩

theorem readFasta_lines (bytes : List Nat) : readFasta (.encoded false) bytes = modelFastaOnLines (splitLines bytes) := rfl

theorem readFastaSection_lines (lines : List (List Nat)) (hne : lines ≠ []) :
    GffText.readFastaSection lines =
      match gffFastaOnLines (lines.map dropCR) with
      | .error e => .error e
      | .ok recs => .ok (GffText.faMap recs []) := by
  have : lines.isEmpty = false := by cases lines <;> simp_all
  unfold GffText.readFastaSection gffFastaOnLines
  simp only [this, Bool.false_eq_true, if_false]
  cases faLoop {} (lines.map dropCR) <;> rfl

/-- the FASTA section of a GFF3 file (its lines as ReadGFF kept them: `splitLines ft` for
the bytes `ft` after the ##FASTA line) against the FASTA model on the same bytes. Hypotheses: the section has a line ;
no line still ends in CR after the scanner took one away (ReadGFF scans the section twice, so `\r\r\n` loses both) ;
header lines have no wide white space. Then: the model returns records iff ReadGFF does, and the GFF3 map holds those
records (decoded) ; otherwise both fail, with corresponding classes. -/
theorem fasta_section_agrees (ft : List Nat) (hne : splitLines ft ≠ [])
    (hcr : ∀ l ∈ splitLines ft, dropCR l = l) (hh : ∀ l ∈ splitLines ft, HeaderOk l) :
    match readFastaList false ft with
    | .ok recs => GffText.readFastaSection (splitLines ft) = .ok (GffText.faMap (recs.map conv) [])
    | .error e' => ∃ e, GffText.readFastaSection (splitLines ft) = .error e ∧ ErrRel e e' := by
  rw [readFastaSection_lines _ hne, map_eq_self.2 hcr, readFastaList, readFasta_lines]
  rcases (fasta_lines_agree (splitLines ft) hh).cases with ⟨_, b, hx, hy, rfl⟩ | ⟨e, z, hx, hy, r⟩
  · rw [hx, hy]
  · rw [hx, hy]
    exact ⟨e, rfl, r⟩

theorem loop_inFasta : ∀ (ls : List (List Nat)) (s : GffText.St), s.inFasta = true →
    GffText.loop s ls = .ok { s with fasta := s.fasta ++ ls } := by
  intro ls
  induction ls with
  | nil => intro s _; simp [GffText.loop]
  | cons l t ih =>
    intro s h
    have e : GffText.step s l = .ok { s with fasta := s.fasta ++ [l] } := by
      unfold GffText.step
      simp [h]
    simp only [GffText.loop, e]
    rw [ih { s with fasta := s.fasta ++ [l] } h]
    simp

theorem step_fastaTag (ver : List Nat) (feats : List GffText.Feature) :
    GffText.step (GffRT.st1 ver feats) GffText.fastaTag = .ok { GffRT.st1 ver feats with inFasta := true } := by
  have h1 : GffText.hasPrefix GffText.fastaTag GffText.fastaTag = true := by decide
  unfold GffText.step
  simp [GffRT.st1, h1]

/-- the bytes of a GFF3 file with a FASTA section: the canonical layout of the rows, the ##FASTA line, then `ft` -/
def renderWithFasta (ver : List Nat) (rows : List GffText.Row) (ft : List Nat) : List Nat :=
  GffText.render ver rows ++ (GffText.fastaTag ++ [10]) ++ ft

/-- a line of `maxToken` bytes or more in `ft` is reported as bufio.ErrTooLong (Scanner.Err is looked at after the loop) -/
theorem readGFF_withFasta (ver : List Nat) (rows : List GffText.Row) (ft : List Nat) (hv : GffRT.VerOk ver)
    (hne : rows ≠ []) (h : ∀ r ∈ rows, GffRT.RowOk r) :
    GffText.readGFF (renderWithFasta ver rows ft) =
      if GffText.tooLong ft then .error .tooLong else
      match GffText.readFastaSection (GffText.scanLines ft) with
      | .error e => .error e
      | .ok fa => .ok { GffRT.expected ver rows with fasta := fa } := by
  have etext : renderWithFasta ver rows ft =
      ((GffText.renderLines ver rows ++ [GffText.fastaTag]).flatMap fun l => l ++ [10]) ++ ft := by
    simp [renderWithFasta, GffText.render]
  have hlines : ∀ l ∈ GffText.renderLines ver rows ++ [GffText.fastaTag], CleanLine l ∧ l.length < GffText.maxToken :=
    List.forall_mem_append.2 ⟨fun l hl => ⟨(GffRT.renderLines_clean ver rows hv h l hl).1,
        Nat.lt_of_succ_lt (GffRT.renderLines_clean ver rows hv h l hl).2.2⟩,
      List.forall_mem_singleton.2 ⟨cleanLine_of _ (by decide), by decide⟩⟩
  have hfit : ∀ l ∈ GffText.renderLines ver rows ++ [GffText.fastaTag], LineFits l := fun l hl =>
    ⟨(hlines l hl).1.1, (hlines l hl).2⟩
  unfold GffText.readGFF
  rw [etext, scanLines_unlines _ ft hfit, tooLong_unlines _ ft hfit,
    map_eq_self.2 fun l hl => dropCR_noCR l (hlines l hl).1.2]
  obtain ⟨r, t, rfl⟩ := List.exists_cons_of_ne_nil hne
  rw [GffText.renderLines, List.cons_append, List.cons_append, List.append_assoc,
    GffRT.loop_file GffText.renderRow GffText.Row.toFeature ver hv r t _ fun y hy => GffRT.featLine_renderRow y (h y hy)]
  simp only [List.singleton_append, GffText.loop, step_fastaTag]
  rw [loop_inFasta _ _ rfl]
  cases GffText.tooLong ft
  · simp only [GffText.finish, GffRT.st1, List.nil_append, Bool.false_eq_true, if_false]
    cases GffText.readFastaSection (GffText.scanLines ft) <;> rfl
  · rfl

/-- a GFF3 file with a FASTA section, read from its bytes, against the FASTA model
`readFastaList` run on the bytes of the section alone. Hypotheses on the section `ft`: every line fits the scanner's
buffer (else the reader reports bufio.ErrTooLong, see `GffRT.long_line_reported`), at least one line, no line ending in CR CR, header
lines without wide white space. When the model reads records, ReadGFF returns the features of the rows and exactly
those records (decoded, keyed by ID, a later record replacing an earlier one with the same ID) ; when the model
fails, ReadGFF fails with the corresponding class. -/
theorem gff_fasta_from_bytes (ver : List Nat) (rows : List GffText.Row) (ft : List Nat) (hv : GffRT.VerOk ver)
    (hne : rows ≠ []) (h : ∀ r ∈ rows, GffRT.RowOk r)
    (hshort : ∀ l ∈ splitLinesAux ft [], l.length < GffText.maxToken) (hne' : splitLines ft ≠ [])
    (hcr : ∀ l ∈ splitLines ft, dropCR l = l) (hh : ∀ l ∈ splitLines ft, HeaderOk l) :
    match readFastaList false ft with
    | .ok recs => GffText.readGFF (renderWithFasta ver rows ft) =
        .ok { GffRT.expected ver rows with fasta := GffText.faMap (recs.map conv) [] }
    | .error e' => ∃ e, GffText.readGFF (renderWithFasta ver rows ft) = .error e ∧ ErrRel e e' := by
  have hs := fasta_section_agrees ft hne' hcr hh
  rw [readGFF_withFasta ver rows ft hv hne h, tooLong_false_of_short ft hshort, scanLines_short ft hshort]
  simp only [Bool.false_eq_true, if_false]
  cases hm : readFastaList false ft with
  | ok recs =>
    rw [hm] at hs
    simp only [] at hs ⊢
    rw [hs]
  | error e' =>
    rw [hm] at hs
    simp only [] at hs ⊢
    obtain ⟨e, he, hr⟩ := hs
    exact ⟨e, by rw [he], hr⟩

end Gofasta.Lemmas.FromBytes
