import Gofasta.Lemmas.Reorder
import Gofasta.Model.Updown
import Gofasta.Lemmas.CsvRoundTrip
/-
C09 — updown topranking gives identical results for CSV and FASTA inputs.
What both routes hand to the ranking core is a record (id, SNP list, ambiguity tracts, ambiguity count). Proved
here: the CSV text layer is a faithful channel for it (`csv_roundtrip`: rendering by `updown list`, Go's encoding/csv
reader with default settings as a byte machine, getAmbArr, strconv.Atoi — `Model/Csv`, `Lemmas/CsvRoundTrip`), the
direction and distance of a pair depend on the SNPs and tracts alone (`whichWay_core`; that the whole ranking reads
nothing else of a record is `topRankingQuery_core` with `whichWay_query` in Lemmas/CsvFasta), and results are placed
by query index. The closing theorem, that the model prints the same text for all four combinations of CSV and FASTA
inputs, is `four_routes` / `four_routes_fasta` in Lemmas/CsvFasta. The correspondence stream runs the same four-way
comparison on the binary; stream C09csv ties the CSV model to the real writer and readers.
-/
namespace Gofasta.Props.C09
open Gofasta Model

/-- the fields of a record that topranking reads -/
def coreFields (l : UDLine) : String × List Snp × List (Nat × Nat) × Nat := (l.id, l.snps, l.ambs, l.ambCount)

/-- two targets that agree on (id, SNPs, tracts, ambcount) get the same direction and distance from every query:
`whichWay` reads the SNPs and the tracts and nothing else -/
theorem whichWay_core (q t t' : UDLine) (n d : Nat) (h : coreFields t = coreFields t') :
    whichWay q t n d = whichWay q t' n d := by
  simp only [coreFields, Prod.mk.injEq] at h
  obtain ⟨_, h2, h3, _⟩ := h
  simp [whichWay, whichWayTable, h2, h3]

/-- C09 — one output row per query, in query-file order: the result array is written by
query index, so the rows come out in file order whatever order the per-query workers finish in -/
theorem rows_by_query_index (rows : Nat → String) (n : Nat) (arrival : List Nat)
    (h : arrival.Perm (List.range n)) :
    Reorder.run (arrival.map fun i => (i, rows i)) = (List.range n).map rows :=
  Reorder.run_perm rows n arrival h

/-- why the indices must be distinct (from the CSV list reader of the Go code before its repair every query carried
index 0): `Reorder.run` emits a record when its index is the next one due, so of two records with index 0 the second
never comes out. gofasta stores the results in an array by index (`QResultsArray[result.qidx]` in `TopRanking`,
pkg/updown/topranking.go), where the second overwrites the first and slot 1 stays empty: another loss, of the same
cause. With indices 0..m-1 every place is filled exactly once -/
theorem distinct_indices_needed : Reorder.run [(0, "a"), (0, "b")] = ["a"] ∧ Reorder.run [(0, "a"), (1, "b")] = ["a", "b"] := by
  decide

open Gofasta.Model.Csv Gofasta.Lemmas.CsvRT in
/-- **C09.csv_roundtrip** — for every list of rows `updown list` can write (positions and counts within int, SNP
symbols that are not delimiters, IDs of any bytes but line breaks — commas and double quotes included), reading the
CSV back gives exactly the IDs, SNP strings, SNP positions, ambiguity ranges and ambiguity counts that were written,
in order: the CSV route hands the ranking core the same records as the FASTA route -/
theorem csv_roundtrip (rows : List (Bytes × UDLine)) (h : ∀ r ∈ rows, RowOk r.1 r.2) :
    readUDL (fileB rows) = .ok (rows.map fun r => expected r.1 r.2) :=
  Gofasta.Lemmas.CsvRT.csv_roundtrip rows h

open Gofasta.Model.Csv Gofasta.Lemmas.CsvRT in
/-- non-vacuity: an ID with a comma and a double quote, two SNPs, a one-column and a longer ambiguity range -/
example : RowOk ("t\"1,z".toList.map Char.toNat)
    { id := "x", snps := [(10, 67, 65), (245, 71, 84)], ambs := [(3, 3), (7, 12)], snpCount := 2, ambCount := 7 } := by
  refine ⟨by decide, ?_, ?_, by decide⟩
  · intro s hs
    simp only [List.mem_cons, List.not_mem_nil, or_false] at hs
    rcases hs with rfl | rfl <;> exact ⟨by decide, ⟨by decide, by decide, by decide, by decide, by decide⟩, ⟨by decide, by decide, by decide, by decide, by decide⟩⟩
  · intro a ha
    simp only [List.mem_cons, List.not_mem_nil, or_false] at ha
    rcases ha with rfl | rfl <;> exact ⟨by decide, by decide⟩

end Gofasta.Props.C09
