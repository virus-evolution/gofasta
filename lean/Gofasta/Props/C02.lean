import Gofasta.Model.Sam
import Gofasta.Spec.Sam
import Gofasta.Props.C01
import Gofasta.Lemmas.ListFacts
/-
C02 — sam toPairAlign reconstructs each pairwise alignment losslessly.
Here: the two paired operator tables against the generated ones, the case split over the operators (`op_cases`), `degap`
and `NoDash`, and the reference row of one CIGAR walk. The theorems about `blockToSeqPair` and the command are in
Lemmas/PairSingle (one record), PairSpec (the specification), PairMulti (any block) and PairSkipIns (--skip-insertions).
-/
namespace Gofasta.Props.C02
open Gofasta Base Model Spec Gofasta.Props.C01

/-- paired walk with insertions, per SAM: M = X copy query and reference bases; I writes the inserted bases
    against '-' in the reference row; D writes '-' against the reference bases; N no-coverage against them -/
def samInsRef : List (Nat × Bool × Bool × Nat × Nat) :=
  [(0, true, true, 1, 4), (1, true, false, 1, 2), (2, false, true, 2, 4), (3, false, true, 3, 4), (4, true, false, 0, 0),
   (5, false, false, 0, 0), (6, false, false, 0, 0), (7, true, true, 1, 4), (8, true, true, 1, 4)]

/-- the same with insertions discarded (--skip-insertions) -/
def samNoInsRef : List (Nat × Bool × Bool × Nat × Nat) :=
  [(0, true, true, 1, 4), (1, true, false, 0, 0), (2, false, true, 2, 4), (3, false, true, 3, 4), (4, true, false, 0, 0),
   (5, false, false, 0, 0), (6, false, false, 0, 0), (7, true, true, 1, 4), (8, true, true, 1, 4)]

/-- **C02.op_table_ins_is_sam** — the paired operator table regenerated from the Go source is the SAM semantics … -/
theorem op_table_ins_is_sam : Gen.cigarTab3 = samInsRef := by decide

/-- … and so is the one of --skip-insertions -/
theorem op_table_noins_is_sam : Gen.cigarTab2 = samNoInsRef := by decide

/-- the paired no-insertion table and the toMultiAlign table agree in the columns that decide the query row: operator, the
    two consumption flags, query-row kind. That the two walks then write the same query row (which ties C02's
    --skip-insertions to C01) is `Lemmas.PairSkipIns.walkWithRef_noIns_query` -/
theorem query_rows_agree : samNoInsRef.map (fun e => (e.1, e.2.1, e.2.2.1, e.2.2.2.1)) =
    samNoIns.map (fun e => (e.1, e.2.1, e.2.2.1, e.2.2.2.1)) := by decide

/-- the nine operators by what they do (SAMv1 §1.4.6), with their entries in the toMultiAlign table and in the
    paired table with insertions; any other number is in neither -/
theorem op_cases (op : Nat) :
    (op = 0 ∨ op = 7 ∨ op = 8) ∧ opEntry samNoIns op = some (true, true, 1, 0) ∧ opEntry samInsRef op = some (true, true, 1, 4) ∨
    op = 1 ∧ opEntry samNoIns op = some (true, false, 0, 0) ∧ opEntry samInsRef op = some (true, false, 1, 2) ∨
    op = 2 ∧ opEntry samNoIns op = some (false, true, 2, 0) ∧ opEntry samInsRef op = some (false, true, 2, 4) ∨
    op = 3 ∧ opEntry samNoIns op = some (false, true, 3, 0) ∧ opEntry samInsRef op = some (false, true, 3, 4) ∨
    op = 4 ∧ opEntry samNoIns op = some (true, false, 0, 0) ∧ opEntry samInsRef op = some (true, false, 0, 0) ∨
    (op = 5 ∨ op = 6) ∧ opEntry samNoIns op = some (false, false, 0, 0) ∧ opEntry samInsRef op = some (false, false, 0, 0) ∨
    9 ≤ op ∧ opEntry samNoIns op = none ∧ opEntry samInsRef op = none :=
  match op with
  | 0 => .inl ⟨.inl rfl, rfl, rfl⟩
  | 1 => .inr (.inl ⟨rfl, rfl, rfl⟩)
  | 2 => .inr (.inr (.inl ⟨rfl, rfl, rfl⟩))
  | 3 => .inr (.inr (.inr (.inl ⟨rfl, rfl, rfl⟩)))
  | 4 => .inr (.inr (.inr (.inr (.inl ⟨rfl, rfl, rfl⟩))))
  | 5 => .inr (.inr (.inr (.inr (.inr (.inl ⟨.inl rfl, rfl, rfl⟩)))))
  | 6 => .inr (.inr (.inr (.inr (.inr (.inl ⟨.inr rfl, rfl, rfl⟩)))))
  | 7 => .inl ⟨.inr (.inl rfl), rfl, rfl⟩
  | 8 => .inl ⟨.inr (.inr rfl), rfl, rfl⟩
  | n + 9 =>
    have h0 : ∀ e ∈ samNoIns, e.1 < 9 := by decide
    have h3 : ∀ e ∈ samInsRef, e.1 < 9 := by decide
    .inr (.inr (.inr (.inr (.inr (.inr ⟨Nat.le_add_left 9 n,
      opEntry_eq_none fun e he => Nat.ne_of_lt (Nat.lt_of_lt_of_le (h0 e he) (Nat.le_add_left 9 n)),
      opEntry_eq_none fun e he => Nat.ne_of_lt (Nat.lt_of_lt_of_le (h3 e he) (Nat.le_add_left 9 n))⟩)))))

def degap (s : List Nat) : List Nat := s.filter (· != dash)

def NoDash (s : List Nat) : Prop := ∀ b ∈ s, b ≠ dash

theorem degap_append (a b : List Nat) : degap (a ++ b) = degap a ++ degap b := List.filter_append a b

theorem degap_noDash {s : List Nat} (h : NoDash s) : degap s = s :=
  List.filter_eq_self.2 fun b hb => by simpa using h b hb

theorem degap_replicate_dash (n : Nat) : degap (List.replicate n dash) = [] :=
  List.filter_eq_nil_iff.2 fun b hb => by simp [List.eq_of_mem_replicate hb]

theorem length_dash_add_degap (s : List Nat) : (s.filter (· == dash)).length + (degap s).length = s.length := by
  induction s with
  | nil => rfl
  | cons a t ih =>
    unfold degap at ih ⊢
    rw [List.filter_cons, List.filter_cons]
    by_cases h : a = dash
    · rw [if_pos (by simpa using h), if_neg (by simpa using h), List.length_cons, List.length_cons]
      omega
    · rw [if_neg (by simpa using h), if_pos (by simpa using h), List.length_cons, List.length_cons]
      omega

theorem noDash_slice {s : List Nat} (h : NoDash s) (a b : Nat) : NoDash ((s.drop a).take b) :=
  fun x hx => h x (List.mem_of_mem_drop (List.mem_of_mem_take hx))

/-- **C02.ref_row_degap** — removing '-' from the reference row written by the CIGAR walk gives
back exactly the stretch of reference the CIGAR spans: inserted columns are the only gaps, and every
reference base under M, D, N, = and X is present, in order -/
theorem ref_row_degap (ref : List Nat) (hnd : NoDash ref) : ∀ (cigar : List (Nat × Nat)) (seq : List Nat) (q r : Nat),
    degap (walkOps samInsRef seq ref cigar q r).2 = (ref.drop r).take (refSpan samInsRef cigar) := by
  intro cigar
  induction cigar with
  | nil => intro seq q r; rfl
  | cons c rest ih =>
    intro seq q r
    obtain ⟨op, len⟩ := c
    -- M D N = X copy the reference bases in front of the rest of the row; I writes only '-'; S H P write nothing
    have hcopy : degap ((ref.drop r).take len) ++ (ref.drop (r + len)).take (refSpan samInsRef rest) =
        (ref.drop r).take (len + refSpan samInsRef rest) := by
      rw [degap_noDash (noDash_slice hnd r len), ← List.drop_drop, List.take_add]
    rcases op_cases op with ⟨_, _, he⟩ | ⟨_, _, he⟩ | ⟨_, _, he⟩ | ⟨_, _, he⟩ | ⟨_, _, he⟩ | ⟨_, _, he⟩ | ⟨_, _, he⟩ <;>
      simp only [walkOps, refSpan, he, emit, degap_append, degap_replicate_dash, ih, if_true, Bool.false_eq_true, if_false,
        List.nil_append, Nat.zero_add] <;>
      exact hcopy

/-- total inserted length of a CIGAR -/
def insSpan : List (Nat × Nat) → Nat
  | [] => 0
  | (op, len) :: rest => (if op = 1 then len else 0) + insSpan rest

/-- one '-' for each inserted base; the count of '-' itself is `Lemmas.single_gap_count` -/
theorem ref_row_length (ref : List Nat) : ∀ (cigar : List (Nat × Nat)) (seq : List Nat) (q r : Nat),
    r + refSpan samInsRef cigar ≤ ref.length →
    (walkOps samInsRef seq ref cigar q r).2.length = refSpan samInsRef cigar + insSpan cigar := by
  intro cigar
  induction cigar with
  | nil => intro seq q r _; rfl
  | cons c rest ih =>
    intro seq q r hr
    obtain ⟨op, len⟩ := c
    -- in every class: what the operator writes, the rest of the row by induction, and `op = 1` only for I
    rcases op_cases op with ⟨ho, _, he⟩ | ⟨ho, _, he⟩ | ⟨ho, _, he⟩ | ⟨ho, _, he⟩ | ⟨ho, _, he⟩ | ⟨ho, _, he⟩ | ⟨ho, _, he⟩ <;>
      simp only [refSpan, he] at hr <;>
      simp (disch := omega) only [walkOps, refSpan, insSpan, he, emit, List.length_append, Lemmas.length_slice,
        List.length_replicate, List.length_nil, if_true, Bool.false_eq_true, if_false] <;>
      rw [ih seq _ _ (by omega)] <;>
      split <;>
      omega

theorem walkWithRef_ins (rec : SamRec) (ref : List Nat) :
    walkWithRef rec ref true = (List.replicate rec.pos star ++ (walkOps samInsRef rec.seq ref rec.cigar 0 rec.pos).1,
      ref.take rec.pos ++ (walkOps samInsRef rec.seq ref rec.cigar 0 rec.pos).2) := by
  simp only [walkWithRef, if_true, op_table_ins_is_sam]

/-- non-vacuity: 3M2I2M1D2M at POS 2 on ACGTACGTAC -/
def exRec : SamRec := ⟨"q", 0, 1, [(0, 3), (1, 2), (0, 2), (2, 1), (0, 2)], [67, 71, 84, 78, 78, 65, 67, 84, 65]⟩

example : walkWithRef exRec [65, 67, 71, 84, 65, 67, 71, 84, 65, 67] true =
    ([42, 67, 71, 84, 78, 78, 65, 67, 45, 84, 65], [65, 67, 71, 84, 45, 45, 65, 67, 71, 84, 65]) := by decide

end Gofasta.Props.C02
