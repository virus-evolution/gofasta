import Gofasta.Model.Variants
import Gofasta.Spec.Variants
import Gofasta.Lemmas.ListFacts
/-
The run-length scanner of getIndelsPair decomposes into two independent machines (insertions,
deletions) sharing only the running count of reference bases (`proj_step`); each machine is shown here to emit the
runs of the declarative specification (`insMachine_spec`, `delMachine_spec`). The two are put together into
`insOf (getIndelsPair ref q) = …` and `delOf (getIndelsPair ref q) = …` in Props/C05 (`ins_spec_enc`, `del_spec_enc`).
-/
namespace Gofasta.Lemmas
open Gofasta Model Spec

/-- `Int.toNat` sends a negative position to 0: the scanner writes none, but a list from elsewhere may hold one. -/
def insOf (vs : List Variant) : List (Nat × Nat) :=
  vs.filterMap fun v => if v.kind = .ins then some (v.pos.toNat, v.len) else none

def delOf (vs : List Variant) : List (Nat × Nat) :=
  vs.filterMap fun v => if v.kind = .del then some (v.pos.toNat, v.len) else none

/-- the state of either machine, insertions or deletions: (open?, start, length, reference bases so far, emitted);
`start` of a deletion is the 0-based reference index of the first deleted base -/
structure RunSt where
  opn : Bool
  start : Nat
  len : Nat
  n : Nat
  out : List (Nat × Nat)
  deriving DecidableEq

def insStep (s : RunSt) (c : Nat × Nat) : RunSt :=
  if c.1 = gapCode then
    if c.2 = gapCode then s
    else if s.opn then { s with len := s.len + 1 }
    else { s with opn := true, start := s.n, len := 1 }
  else
    if s.opn then { opn := false, start := s.start, len := s.len, n := s.n + 1, out := s.out ++ [(s.start, s.len)] }
    else { s with n := s.n + 1 }

def insProj (s : IndelState) : RunSt :=
  { opn := s.insOpen, start := s.insStart, len := s.insLen, n := s.refBases, out := insOf s.out }

def delStepQ (s : RunSt) (q : Nat) : RunSt :=
  if q = gapCode then
    if s.opn then { s with len := s.len + 1, n := s.n + 1 }
    else { s with opn := true, start := s.n, len := 1, n := s.n + 1 }
  else
    if s.opn then { opn := false, start := s.start, len := s.len, n := s.n + 1,
                    out := if s.start ≠ 0 then s.out ++ [(s.start + 1, s.len)] else s.out }
    else { s with n := s.n + 1 }

def delStep (s : RunSt) (c : Nat × Nat) : RunSt := if c.1 = gapCode then s else delStepQ s c.2

def delProj (s : IndelState) : RunSt :=
  { opn := s.delOpen, start := s.delStart, len := s.delLen, n := s.refBases, out := delOf s.out }

theorem insOf_append (a b : List Variant) : insOf (a ++ b) = insOf a ++ insOf b := by simp [insOf]
theorem delOf_append (a b : List Variant) : delOf (a ++ b) = delOf a ++ delOf b := by simp [delOf]

theorem proj_step (s : IndelState) (c : Nat × Nat) :
    insProj (indelStep s c) = insStep (insProj s) c ∧ delProj (indelStep s c) = delStep (delProj s) c := by
  obtain ⟨r, q⟩ := c
  simp only [indelStep, insStep, delStep, delStepQ, insProj, delProj]
  by_cases hr : r = gapCode
  · by_cases hq : q = gapCode
    · simp [hr, hq]
    · by_cases ho : s.insOpen = true <;> simp [hr, hq, ho]
  · by_cases ho : s.insOpen = true <;> by_cases hq : q = gapCode <;> by_cases hd : s.delOpen = true <;>
      by_cases h0 : s.delStart = 0 <;> simp [hr, ho, hq, hd, h0, insOf, delOf]

def insFinish (s : RunSt) : List (Nat × Nat) := if s.opn then s.out ++ [(s.start, s.len)] else s.out

/-- The two conjuncts are the invariant of the induction for a machine started with a run open and with none open: an
open run grows by the reference gaps that follow, then the rest is scanned with no run open. -/
theorem insMachine_spec : ∀ (cols : List (Nat × Nat)), (∀ c ∈ cols, ¬ (c.1 = gapCode ∧ c.2 = gapCode)) →
    (∀ (a l n : Nat) (out : List (Nat × Nat)),
      insFinish (cols.foldl insStep { opn := true, start := a, len := l, n := n, out := out }) =
        out ++ (a, l + (cols.takeWhile fun c => c.1 == gapCode).length) ::
          specInsBy (· == gapCode) n (cols.dropWhile fun c => c.1 == gapCode)) ∧
    (∀ (a l n : Nat) (out : List (Nat × Nat)),
      insFinish (cols.foldl insStep { opn := false, start := a, len := l, n := n, out := out }) = out ++ specInsBy (· == gapCode) n cols) := by
  intro cols
  induction cols with
  | nil =>
    intro _
    constructor
    · intro a l n out; simp [insFinish, specInsBy]
    · intro a l n out; simp [insFinish, specInsBy]
  | cons c t ih =>
    intro hn
    obtain ⟨r, q⟩ := c
    have hc := hn (r, q) (by simp)
    obtain ⟨ihA, ihB⟩ := ih (fun c hc => hn c (by simp [hc]))
    by_cases hr : r = gapCode
    · have hq : q ≠ gapCode := fun h => hc ⟨hr, h⟩
      constructor
      · intro a l n out
        simp only [List.foldl_cons, insStep, hr, hq, if_true, if_false]
        rw [ihA]
        simp only [List.takeWhile_cons, List.dropWhile_cons, beq_self_eq_true, if_true, List.length_cons]
        have : l + 1 + (t.takeWhile fun c => c.1 == gapCode).length = l + ((t.takeWhile fun c => c.1 == gapCode).length + 1) := by omega
        rw [this]
      · intro a l n out
        simp only [List.foldl_cons, insStep, hr, hq, if_true, if_false, Bool.false_eq_true]
        rw [ihA]
        rw [specInsBy]
        simp
    · have hrb : (r == gapCode) = false := by simpa using hr
      constructor
      · intro a l n out
        simp only [List.foldl_cons, insStep, hr, if_false, if_true]
        rw [ihB]
        simp only [List.takeWhile_cons, List.dropWhile_cons, hrb, Bool.false_eq_true, if_false, List.length_nil, Nat.add_zero]
        rw [specInsBy]
        simp [hrb, List.append_assoc]
      · intro a l n out
        simp only [List.foldl_cons, insStep, hr, if_false, Bool.false_eq_true]
        rw [ihB]
        conv => rhs; rw [specInsBy]
        simp [hrb]

theorem del_fold_refcols (cols : List (Nat × Nat)) (s : RunSt) :
    cols.foldl delStep s = (refColumnQueryBy (· == gapCode) cols).foldl delStepQ s := by
  rw [refColumnQueryBy, List.foldl_map, List.foldl_filter]
  congr
  funext s c
  by_cases h : c.1 = gapCode <;> simp [delStep, h]

/-- the deletion machine on the reference-column subsequence emits exactly the maximal runs that contain
neither the first nor the last reference base; as for insertions, one conjunct for a run open and one for none.
The machine has no final flush, so a run still open at the end is never emitted: with `N` the number of reference
bases that is the run the filter's `d.1 + d.2 - 1 ≠ N` removes, and `a + l = i` (the open run reaches up to the
cursor) is what lets the proof see it. The machine's test `start ≠ 0` is the filter's `d.1 ≠ 1`. -/
theorem delMachine_spec (N : Nat) : ∀ (qs : List Nat) (i : Nat), i + qs.length = N →
    (∀ (a l : Nat) (out : List (Nat × Nat)), a + l = i →
      (qs.foldl delStepQ { opn := true, start := a, len := l, n := i, out := out }).out =
        out ++ ((a + 1, l + (qs.takeWhile (· == gapCode)).length) ::
                specDelRunsBy (· == gapCode) (i + (qs.takeWhile (· == gapCode)).length) (qs.dropWhile (· == gapCode))).filter
              (fun d => d.1 ≠ 1 ∧ d.1 + d.2 - 1 ≠ N)) ∧
    (∀ (a l : Nat) (out : List (Nat × Nat)),
      (qs.foldl delStepQ { opn := false, start := a, len := l, n := i, out := out }).out =
        out ++ (specDelRunsBy (· == gapCode) i qs).filter (fun d => d.1 ≠ 1 ∧ d.1 + d.2 - 1 ≠ N)) := by
  intro qs
  induction qs with
  | nil =>
    intro i hN
    constructor
    · intro a l out hal
      simp only [List.foldl_nil, List.takeWhile_nil, List.length_nil, Nat.add_zero, List.dropWhile_nil]
      rw [specDelRunsBy]
      have : a + 1 + l - 1 = N := by simp at hN; omega
      simp [this]
    · intro a l out
      simp [specDelRunsBy]
  | cons q t ih =>
    intro i hN
    have hN' : (i + 1) + t.length = N := by simp only [List.length_cons] at hN; omega
    obtain ⟨ihA, ihB⟩ := ih (i + 1) hN'
    by_cases hq : q = gapCode
    · have hqb : (q == gapCode) = true := by simpa using hq
      constructor
      · intro a l out hal
        simp only [List.foldl_cons, delStepQ, hq, if_true]
        rw [ihA a (l + 1) out (by omega)]
        simp only [List.takeWhile_cons, List.dropWhile_cons, beq_self_eq_true, if_true, List.length_cons]
        have e1 : l + 1 + (t.takeWhile (· == gapCode)).length = l + ((t.takeWhile (· == gapCode)).length + 1) := by omega
        have e2 : i + 1 + (t.takeWhile (· == gapCode)).length = i + ((t.takeWhile (· == gapCode)).length + 1) := by omega
        rw [e1, e2]
      · intro a l out
        simp only [List.foldl_cons, delStepQ, hq, if_true, Bool.false_eq_true, if_false]
        rw [ihA i 1 out rfl]
        conv => rhs; rw [specDelRunsBy]
        simp
    · have hqb : (q == gapCode) = false := by simpa using hq
      constructor
      · intro a l out hal
        simp only [List.foldl_cons, delStepQ, hq, if_false, if_true]
        rw [ihB]
        simp only [List.takeWhile_cons, List.dropWhile_cons, hqb, Bool.false_eq_true, if_false, List.length_nil, Nat.add_zero]
        conv => rhs; rw [specDelRunsBy]
        simp only [hqb, Bool.false_eq_true, if_false, List.filter_cons]
        have hlast : a + 1 + l - 1 ≠ N := by simp only [List.length_cons] at hN; omega
        by_cases ha : a = 0
        · simp [ha]
        · have hlast' : ¬ (a + l = N) := by omega
          simp [ha, hlast', List.append_assoc]
      · intro a l out
        simp only [List.foldl_cons, delStepQ, hq, if_false, Bool.false_eq_true]
        rw [ihB]
        conv => rhs; rw [specDelRunsBy]
        simp [hqb]

/-! ### transfer along a symbol map that preserves "is a gap" (raw bytes -> codes) -/

theorem specInsBy_map (f : Nat → Nat) (g g' : Nat → Bool) : ∀ (k : Nat) (l : List (Nat × Nat)) (n : Nat), l.length ≤ k →
    (∀ c ∈ l, g' (f c.1) = g c.1) → specInsBy g' n (l.map (Prod.map f f)) = specInsBy g n l := by
  intro k l n hk
  clear hk k
  fun_induction specInsBy g n l with
  | case1 n => intro _; rw [List.map_nil, specInsBy]
  | case2 n r q t hg _ ih =>
    intro h
    have ht : ∀ c ∈ t, g' (f c.1) = g c.1 := fun x hx => h x (List.mem_cons_of_mem _ hx)
    obtain ⟨e1, e2⟩ := takeWhile_dropWhile_map (Prod.map f f) (fun c => g c.1) (fun c => g' c.1) t ht
    rw [List.map_cons, Prod.map_apply, specInsBy, if_pos ((h (r, q) List.mem_cons_self).trans hg), e1, e2,
      List.length_map, ih fun x hx => ht x ((List.dropWhile_sublist _).subset hx)]
  | case3 n r q t hg ih =>
    intro h
    rw [List.map_cons, Prod.map_apply, specInsBy, if_neg (by rw [h (r, q) List.mem_cons_self]; exact hg),
      ih fun x hx => h x (List.mem_cons_of_mem _ hx)]

theorem specDelRunsBy_map (f : Nat → Nat) (g g' : Nat → Bool) : ∀ (k : Nat) (l : List Nat) (i : Nat), l.length ≤ k →
    (∀ b ∈ l, g' (f b) = g b) → specDelRunsBy g' i (l.map f) = specDelRunsBy g i l := by
  intro k l i hk
  clear hk k
  fun_induction specDelRunsBy g i l with
  | case1 i => intro _; rw [List.map_nil, specDelRunsBy]
  | case2 i q t hg _ ih =>
    intro h
    have ht : ∀ b ∈ t, g' (f b) = g b := fun x hx => h x (List.mem_cons_of_mem _ hx)
    obtain ⟨e1, e2⟩ := takeWhile_dropWhile_map f g g' t ht
    rw [List.map_cons, specDelRunsBy, if_pos ((h q List.mem_cons_self).trans hg), e1, e2,
      List.length_map, ih fun x hx => ht x ((List.dropWhile_sublist _).subset hx)]
  | case3 i q t hg ih =>
    intro h
    rw [List.map_cons, specDelRunsBy, if_neg (by rw [h q List.mem_cons_self]; exact hg),
      ih fun x hx => h x (List.mem_cons_of_mem _ hx)]

/-! ### the runs come in ascending order, and the deletion runs do not touch each other -/

theorem specDelRunsBy_ge (g : Nat → Bool) (i : Nat) (l : List Nat) : ∀ x ∈ specDelRunsBy g i l, i + 1 ≤ x.1 := by
  fun_induction specDelRunsBy g i l with
  | case1 i => intro x hx; cases hx
  | case2 i q t _ _ ih =>
    intro x hx
    rcases List.mem_cons.1 hx with rfl | h
    · exact Nat.le_refl _
    · have := ih x h; omega
  | case3 i q t _ ih => intro x hx; exact Nat.le_of_succ_le (ih x hx)

theorem specDelRunsBy_separated (g : Nat → Bool) (i : Nat) (l : List Nat) :
    (specDelRunsBy g i l).Pairwise (fun x y => x.1 + x.2 < y.1) := by
  fun_induction specDelRunsBy g i l with
  | case1 i => exact List.Pairwise.nil
  | case2 i q t _ _ ih =>
    refine List.Pairwise.cons (fun y hy => ?_) ih
    -- what follows the run starts with a symbol that ends it, so the index has moved on by one more
    match hD : t.dropWhile g with
    | [] => rw [hD, specDelRunsBy] at hy; cases hy
    | q' :: t' =>
      have hg : g q' = false := by
        have := List.head?_dropWhile_not g t
        rwa [hD] at this
      rw [hD, specDelRunsBy, if_neg (by rw [hg]; exact Bool.false_ne_true)] at hy
      have := specDelRunsBy_ge g _ t' y hy
      show i + 1 + (1 + (t.takeWhile g).length) < y.1
      omega
  | case3 i q t _ ih => exact ih

theorem specInsBy_ge (g : Nat → Bool) (n : Nat) (l : List (Nat × Nat)) : ∀ x ∈ specInsBy g n l, n ≤ x.1 := by
  fun_induction specInsBy g n l with
  | case1 n => intro x hx; cases hx
  | case2 n r q t _ _ ih =>
    intro x hx
    rcases List.mem_cons.1 hx with rfl | h
    · exact Nat.le_refl _
    · exact ih x h
  | case3 n r q t _ ih => intro x hx; exact Nat.le_of_succ_le (ih x hx)

theorem specInsBy_increasing (g : Nat → Bool) (n : Nat) (l : List (Nat × Nat)) :
    (specInsBy g n l).Pairwise (fun x y => x.1 < y.1) := by
  fun_induction specInsBy g n l with
  | case1 n => exact List.Pairwise.nil
  | case2 n r q t _ _ ih =>
    refine List.Pairwise.cons (fun y hy => ?_) ih
    -- what follows the run starts with a reference base, so the count has moved on
    match hD : t.dropWhile fun c => g c.1 with
    | [] => rw [hD, specInsBy] at hy; cases hy
    | (r', q') :: t' =>
      have hg : g r' = false := by
        have := List.head?_dropWhile_not (fun c : Nat × Nat => g c.1) t
        rwa [hD] at this
      rw [hD, specInsBy, if_neg (by rw [hg]; exact Bool.false_ne_true)] at hy
      exact specInsBy_ge g (n + 1) t' y hy
  | case3 n r q t _ ih => exact ih

theorem specDels_pos (cols : List (Nat × Nat)) : ∀ d ∈ specDels cols, 1 ≤ d.1 :=
  fun d hd => Nat.zero_add 1 ▸ specDelRunsBy_ge isGap 0 _ d (List.mem_filter.1 hd).1

theorem specIns_unique (cols : List (Nat × Nat)) : ∀ a ∈ specIns 0 cols, ∀ b ∈ specIns 0 cols, a.1 = b.1 → a = b :=
  inj_of_pairwise_ne Prod.fst ((specInsBy_increasing isGap 0 cols).imp Nat.ne_of_lt)

theorem specDels_unique (cols : List (Nat × Nat)) : ∀ a ∈ specDels cols, ∀ b ∈ specDels cols, a.1 = b.1 → a = b :=
  inj_of_pairwise_ne Prod.fst ((List.Pairwise.filter _ (specDelRunsBy_separated isGap 0 _)).imp fun h =>
    Nat.ne_of_lt (Nat.lt_of_le_of_lt (Nat.le_add_right _ _) h))

end Gofasta.Lemmas
