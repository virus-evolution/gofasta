import Gofasta.Props.C18
/-
What the FASTA readers accept, for ANY text: `readFasta_ok_iff` (a text is read exactly when its non-blank lines are
the lines of records with IDs, accepted sequence lines and one width, and then the result is those records), and
`rdLines_ok_cases` (the state after any lines that are read is the initial one or a pending one of
`Lemmas/FastaLayout`). A defect of one line is not treated here: `Props.C18.error_anywhere` makes the reader fail on
it wherever it sits, from any state.
-/
namespace Gofasta.Lemmas
open Gofasta Base Model Spec

def IsPending (g : Nat → Nat) (s : RdState) : Prop :=
  ∃ W pre z, (∀ x ∈ pre, x.seq.length = W) ∧ (pre = [] → z.seq.length = W) ∧ s = pending g W pre z

theorem rdStep_ok_cases (m : Mode) (s s' : RdState) (l : List Nat) (h : s = {} ∨ IsPending (gOf m) s)
    (hs : rdStep m s l = .ok s') : s' = {} ∨ IsPending (gOf m) s' := by
  rcases Props.C16.line_cases l with rfl | ⟨d, rfl⟩ | hl
  · cases hs; exact h
  · rw [rdStep_header] at hs
    cases hid : firstField d with
    | none => rw [hid] at hs; cases hs
    | some id =>
      rw [hid] at hs
      rcases h with rfl | ⟨W, pre, z, hp, hW, rfl⟩
      · cases hs
        exact .inr ⟨0, [], ⟨id, d, []⟩, (fun _ h => nomatch h), fun _ => rfl, rfl⟩
      · simp only [show (pending (gOf m) W pre z).started = true from rfl, Bool.true_eq_false, if_false] at hs
        split at hs
        · cases hs
        · rename_i hc
          cases hs
          have hz : z.seq.length = W := by
            cases pre with
            | nil => exact hW rfl
            | cons p ps => simpa [pending] using hc
          refine .inr ⟨W, pre ++ [z], ⟨id, d, []⟩, ?_, by simp, ?_⟩
          · intro x hx
            rcases List.mem_append.1 hx with hx | hx
            · exact hp x hx
            · rw [List.mem_singleton.1 hx, hz]
          · rw [← pending_next (gOf m) W pre z ⟨id, d, []⟩ hW]
            exact (addBuf_nil _).symm
  · rw [rdStep_seq m s l hl] at hs
    rcases h with rfl | ⟨W, pre, z, hp, hW, rfl⟩
    · cases hs
    · simp only [show (pending (gOf m) W pre z).started = true from rfl, Bool.true_eq_false, if_false] at hs
      rcases seqLine_cases m l with hn | hn <;> rw [hn] at hs
      · cases hs
      · cases hs
        -- a sequence line lengthens the pending record `z`; while `pre = []` the width `W` of `pending` is not stored in
        -- the state (`rdLines_first`), so it is chosen anew, as the new length of `z`
        refine .inr ⟨if pre = [] then z.seq.length + l.length else W, pre, ⟨z.id, z.desc, z.chunks ++ [l]⟩, ?_, ?_, ?_⟩
        · intro x hx
          rw [if_neg (List.ne_nil_of_mem hx)]
          exact hp x hx
        · intro h
          simp [h, LRec.seq]
        · cases pre <;> simp [pending, addBuf, LRec.seq]

theorem rdLines_ok_cases (m : Mode) : ∀ (lines : List (List Nat)) (s0 s : RdState), (s0 = {} ∨ IsPending (gOf m) s0) →
    rdLines m s0 lines = .ok s → s = {} ∨ IsPending (gOf m) s
  | [], s0, s, h0, h => by cases h; exact h0
  | l :: t, s0, s, h0, h => by
    rw [rdLines] at h
    cases hs : rdStep m s0 l with
    | error e => rw [hs] at h; cases h
    | ok s1 =>
      rw [hs] at h
      exact rdLines_ok_cases m t s1 s (rdStep_ok_cases m s0 s1 l h0 hs) h

theorem no_failing_line {m : Mode} {s s' : RdState} {lines : List (List Nat)} (h : rdLines m s lines = .ok s')
    {l : List Nat} (hl : l ∈ lines) : ¬ ∀ s, ∃ e, rdStep m s l = .error e := by
  intro hf
  obtain ⟨pre, post, rfl⟩ := List.append_of_mem hl
  obtain ⟨e, he⟩ := Props.C18.error_anywhere hf pre s post
  rw [he] at h
  cases h

/-- records cut out of lines (`lines_records`) carry the ID `[]`; this gives each the ID its header holds, which is what
`WFRec.hid` asks, and the lines do not change (`renderLines_normId`) -/
def normId (r : LRec) : LRec := { r with id := (firstField r.desc).getD [] }

theorem renderLines_normId (recs : List LRec) : renderLines (recs.map normId) = renderLines recs := by
  rw [renderLines, List.flatMap_map]
  rfl

theorem wf_of_read (m : Mode) (recs : List LRec) (hc : ∀ r ∈ recs, ∀ l ∈ r.chunks, SeqLine l) (s s' : RdState)
    (h : rdLines m s (renderLines recs) = .ok s') : ∀ x ∈ recs.map normId, WFRec m (gOf m) x.seq.length x := by
  intro x hx
  obtain ⟨r, hr, rfl⟩ := List.mem_map.1 hx
  have hmem : ∀ l ∈ r.lines, l ∈ renderLines recs := fun l hl => List.mem_flatMap.2 ⟨r, hr, hl⟩
  refine ⟨?_, fun l hl => ⟨hc r hr l hl, ?_⟩, rfl⟩
  · cases hd : firstField r.desc with
    | some id => simp [normId, hd]
    | none =>
      exact absurd (fun s => ⟨_, rdStep_header_no_id m s hd⟩)
        (no_failing_line h (hmem (62 :: r.desc) (by simp [LRec.lines])))
  · refine (seqLine_cases m l).resolve_left fun hn => ?_
    exact no_failing_line h (hmem l (by simp [LRec.lines, normId] at hl ⊢; exact .inr hl))
      (rdStep_refused m l (hc r hr l hl) hn)

theorem read_ok_records (m : Mode) (recs : List LRec) (hc : ∀ r ∈ recs, ∀ l ∈ r.chunks, SeqLine l) (out : List FaRec)
    (h : (rdLines m {} (renderLines recs)).bind rdFinish = .ok out) :
    ∃ r0 rs, recs = r0 :: rs ∧ (∀ x ∈ recs.map normId, WFRec m (gOf m) r0.seq.length x) ∧
      (0 < r0.seq.length ∨ rs ≠ []) ∧ out = recsFrom (gOf m) (recs.map normId) 0 := by
  cases hl : rdLines m {} (renderLines recs) with
  | error e => rw [hl] at h; cases h
  | ok s =>
    have hwf := wf_of_read m recs hc _ _ hl
    cases recs with
    | nil => cases h
    | cons r0 rs =>
      rw [← renderLines_normId] at h
      obtain ⟨h1, h2, h3⟩ := (read_records_iff m (gOf m) _ _ out hwf).1 h
      refine ⟨r0, rs, rfl, fun x hx => ⟨(hwf x hx).hid, (hwf x hx).hchunks, ?_⟩, h2.imp_right (by simp), h3⟩
      exact (List.mem_cons.1 hx).elim (· ▸ rfl) (h1 x)

theorem lines_records : ∀ (lines : List (List Nat)), (∀ l ∈ lines, l ≠ []) →
    ∃ junk recs, lines = junk ++ renderLines recs ∧ (∀ l ∈ junk, SeqLine l) ∧ ∀ r ∈ recs, ∀ l ∈ r.chunks, SeqLine l
  | [], _ => ⟨[], [], rfl, (fun _ h => nomatch h), fun _ h => nomatch h⟩
  | l :: t, h => by
    obtain ⟨junk, recs, rfl, hj, hr⟩ := lines_records t fun x hx => h x (by simp [hx])
    rcases Props.C16.line_cases l with rfl | ⟨d, rfl⟩ | hl
    · exact absurd rfl (h [] (by simp))
    · refine ⟨[], ⟨[], d, junk⟩ :: recs, by simp [renderLines, LRec.lines], (fun _ h => nomatch h), fun r hr' => ?_⟩
      rcases List.mem_cons.1 hr' with rfl | hr'
      · exact hj
      · exact hr r hr'
    · exact ⟨l :: junk, recs, rfl, fun x hx => (List.mem_cons.1 hx).elim (· ▸ hl) (hj x), hr⟩

theorem readFasta_ok_iff (m : Mode) (text : List Nat) (out : List FaRec) :
    readFasta m text = .ok out ↔
      ∃ r0 rs, (splitLines text).filter (fun l => !l.isEmpty) = renderLines (r0 :: rs) ∧
        (∀ x ∈ r0 :: rs, WFRec m (gOf m) r0.seq.length x) ∧ (0 < r0.seq.length ∨ rs ≠ []) ∧
        out = recsFrom (gOf m) (r0 :: rs) 0 := by
  rw [readFasta_eq_bind, ← Props.C16.blank_lines_irrelevant]
  constructor
  · intro hb
    obtain ⟨junk, recs, e, hj, hr⟩ :=
      lines_records ((splitLines text).filter fun l => !l.isEmpty) fun l hl e => by simp [e] at hl
    rw [e] at hb
    cases junk with
    | cons j t =>
      obtain ⟨hne, hh⟩ := hj j (by simp)
      rw [List.cons_append, rdLines, Props.C16.no_leading_header m j hne hh] at hb
      cases hb
    | nil =>
      rw [List.nil_append] at e hb
      obtain ⟨r0, rs, rfl, hwf, h2, h3⟩ := read_ok_records m recs hr out hb
      exact ⟨normId r0, rs.map normId, by rw [e, ← renderLines_normId]; rfl, hwf, h2.imp_right (by simp), h3⟩
  · rintro ⟨r0, rs, e, hwf, hpos, rfl⟩
    rw [e]
    exact rdLines_wfRecs m (gOf m) r0.seq.length r0 rs hpos hwf

end Gofasta.Lemmas
