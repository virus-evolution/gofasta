import Gofasta.Lemmas.Enc
import Gofasta.Model.Variants
import Gofasta.Spec.Variants
import Gofasta.Props.C17
import Gofasta.Lemmas.SortSpec
import Gofasta.Lemmas.ListFacts
/-
C04: the nucleotide and amino-acid records the model produces are, codon by codon and position by position, the
records of the specification (`regionRecords`, intergenic `nucRecord`s) — for every annotated reference and query.
-/
namespace Gofasta.Lemmas
open Gofasta Base Model Spec

/-- a symbol of the 32-character alphabet -/
def Ok (b : Nat) : Prop := b < 256 ∧ enc false b ≠ 0

/-- a row over the alphabet. `Props.C03.Accepted false` (in whose terms C12 and C13 speak) and the `Accepted` of
`Props.C05`, `C07`, `C10` and `C11` (the one Lemmas/SamVarPipeline means) unfold to the same predicate; no lemma
carries one into another. -/
def OkRow (s : List Nat) : Prop := ∀ b ∈ s, Ok b

/-! ### reference position -> alignment column -/

/-- columns counted from `i`, for the induction; `col_pair` is the form the proofs use -/
theorem refCols_lookup : ∀ (r q : List Nat) (i k : Nat), r.length = q.length → OkRow r →
    (∀ c, (refColsFrom i (r.map (enc false)))[k]? = some c →
      i ≤ c ∧ ((r.zip q).filter fun c => !isGap c.1)[k]? = some (r.getD (c - i) 0, q.getD (c - i) 0) ∧ c - i < r.length) ∧
    ((refColsFrom i (r.map (enc false)))[k]? = none → ((r.zip q).filter fun c => !isGap c.1)[k]? = none) := by
  intro r
  induction r with
  | nil => intro q i k _ _; simp [refColsFrom]
  | cons a rs ih =>
    intro q i k hl hok
    match q, hl with
    | x :: xs, hl =>
      -- holds of every number (`enc_gap_iff`), so nothing below uses `OkRow r`
      have hg : enc false a = gapCode ↔ a = 45 := by rw [← beq_iff_eq, gapCode, enc_gap_iff, beq_iff_eq]
      -- the tail, one column further on
      have lift : ∀ (k' : Nat), (∀ (c : Nat), (refColsFrom (i + 1) (rs.map (enc false)))[k']? = some c →
            i ≤ c ∧ ((rs.zip xs).filter fun c => !isGap c.1)[k']? = some ((a :: rs).getD (c - i) 0, (x :: xs).getD (c - i) 0) ∧
              c - i < (a :: rs).length) ∧
          ((refColsFrom (i + 1) (rs.map (enc false)))[k']? = none → ((rs.zip xs).filter fun c => !isGap c.1)[k']? = none) := by
        intro k'
        have := ih xs (i + 1) k' (Nat.succ.inj hl) (fun b hb => hok b (List.mem_cons_of_mem _ hb))
        refine ⟨fun c hc => ?_, this.2⟩
        obtain ⟨h3, h4, h5⟩ := this.1 c hc
        have e : c - i = (c - (i + 1)) + 1 := by omega
        rw [e, List.getD_cons_succ, List.getD_cons_succ, List.length_cons]
        exact ⟨by omega, h4, by omega⟩
      rw [List.map_cons, refColsFrom, List.zip_cons_cons, List.filter_cons]
      by_cases hgap : a = 45
      · rw [if_pos (hg.2 hgap), if_neg (by simp [isGap, hgap])]
        exact lift k
      · rw [if_neg (mt hg.1 hgap), if_pos (by simp [isGap, hgap])]
        cases k with
        | zero => simp
        | succ k' =>
          rw [List.getElem?_cons_succ, List.getElem?_cons_succ]
          exact lift k'

theorem col_pair (ref q : List Nat) (p : Nat) (hl : ref.length = q.length) (hr : OkRow ref) :
    (∀ c, (refCols (ref.map (enc false)))[p - 1]? = some c → pairAt ref q p = some (ref.getD c 0, q.getD c 0) ∧ c < ref.length) ∧
    ((refCols (ref.map (enc false)))[p - 1]? = none → pairAt ref q p = none) := by
  have := refCols_lookup ref q 0 (p - 1) hl hr
  exact ⟨fun c hc => (this.1 c hc).2, this.2⟩

theorem pairAt_ok {ref q : List Nat} {p r x : Nat} (hq : OkRow q) (h : pairAt ref q p = some (r, x)) : Ok x :=
  hq x (List.of_mem_zip (List.mem_filter.1 (List.mem_of_getElem? h)).1).2

/-- everything the model reads at reference position p, in terms of the specification -/
theorem at_pos (ref q : List Nat) (p : Nat) (hl : ref.length = q.length) (hr : OkRow ref) (hq : OkRow q) :
    (∀ c, (refCols (ref.map (enc false)))[p - 1]? = some c →
      ∃ r x, pairAt ref q p = some (r, x) ∧
        (ref.map (enc false)).getD c 0 = enc false r ∧ (q.map (enc false)).getD c 0 = enc false x ∧
        encDiffer (enc false r) (enc false x) = differsAt ref q p ∧
        { kind := .nuc, pos := (p : Int), refAl := [dec (enc false r)], queAl := [dec (enc false x)] } = nucRecord ref q p) ∧
    ((refCols (ref.map (enc false)))[p - 1]? = none → pairAt ref q p = none ∧ differsAt ref q p = false) := by
  have hcp := col_pair ref q p hl hr
  constructor
  · intro c hc
    obtain ⟨hp, hlt⟩ := hcp.1 c hc
    have hlt2 : c < q.length := by omega
    have hr1 := hr _ (getD_mem ref 0 c hlt)
    have hx1 := hq _ (getD_mem q 0 c hlt2)
    refine ⟨ref.getD c 0, q.getD c 0, hp, getD_map _ ref c 0 0 hlt, getD_map _ q c 0 0 hlt2, ?_, ?_⟩
    · rw [encDiffer_iff false _ _ hr1.2 hx1.2]
      unfold differsAt; rw [hp]
    · unfold nucRecord
      rw [hp, dec_enc false _ hr1.2, dec_enc false _ hx1.2]
  · intro hc
    have := hcp.2 hc
    exact ⟨this, by unfold differsAt; rw [this]⟩

theorem nucs_spec (ref q : List Nat) (hl : ref.length = q.length) (hr : OkRow ref) (hq : OkRow q) (inter : List Nat) :
    getNucsPair (ref.map (enc false)) (q.map (enc false)) (refCols (ref.map (enc false))) inter =
      (inter.filter (differsAt ref q)).map (nucRecord ref q) := by
  unfold getNucsPair
  apply filterMap_ite
  intro p
  have h := at_pos ref q p hl hr hq
  cases hc : (refCols (ref.map (enc false)))[p - 1]? with
  | none => simp only [(h.2 hc).2]; rfl
  | some c =>
    obtain ⟨r, x, _, h1, h2, h3, h4⟩ := h.1 c hc
    simp only [h1, h2, h3, h4]

/-! ### one codon: the dictionary against the genetic code -/

/-- NCBI table 1 holds 64 letters or '*': bytes, never 'X' (the model's mark for "no call"), no digit (in a printed
`aa:` record the residue number follows the letter, and Lemmas/AggVariants parses it back) -/
theorem stdCode_bytes : ∀ i < 64, (stdCodeTCAG.getD i 'X').toNat ≠ 88 ∧ (stdCodeTCAG.getD i 'X').toNat < 256 ∧
    ((stdCodeTCAG.getD i 'X').toNat < 48 ∨ 57 < (stdCodeTCAG.getD i 'X').toNat) := by
  -- a string literal is `String.ofList` of its characters; the kernel is slow at evaluating `toList` on it
  unfold stdCodeTCAG
  rw [String.toList_ofList]
  decide +kernel

theorem tcagIdx_le (a : Nat) : tcagIdx a ≤ 3 := by
  unfold tcagIdx; split <;> omega

theorem stdAA_byte (a b c : Nat) : stdAA a b c ≠ 88 ∧ stdAA a b c < 256 ∧ (stdAA a b c < 48 ∨ 57 < stdAA a b c) := by
  unfold stdAA
  apply stdCode_bytes
  have := tcagIdx_le a; have := tcagIdx_le b; have := tcagIdx_le c
  omega

theorem specTranslate_eq_some {x y z t : Nat} (h : specTranslate x y z = some t) : ∃ a b c, t = stdAA a b c := by
  unfold specTranslate at h
  split at h
  · cases h
  · rename_i p ps he
    split at h
    · cases h
      have hm : t ∈ expansions x y z := by rw [he]; exact List.mem_cons_self
      unfold expansions at hm
      simp only [List.mem_flatMap, List.mem_map] at hm
      obtain ⟨a, _, b, _, c, _, rfl⟩ := hm
      exact ⟨a, b, c, rfl⟩
    · cases h

theorem dictLookup_eq_some {c a : List Nat} (h : dictLookup c = some a) : ∃ x y z, a = [stdAA x y z] := by
  rw [Props.C17.dictLookup_eq_specCodon] at h
  unfold specCodon at h
  split at h
  · split at h
    · obtain ⟨t, ht, rfl⟩ := Option.map_eq_some_iff.1 h
      obtain ⟨x, y, z, rfl⟩ := specTranslate_eq_some ht
      exact ⟨x, y, z, rfl⟩
    · cases h
  · cases h

theorem specCodonAA_ne_X (strand : Int) (syms : List Nat) (t : Nat) (h : specCodonAA strand syms = some t) : t ≠ 88 := by
  unfold specCodonAA at h
  split at h
  · split at h <;>
    · obtain ⟨a, b, c, rfl⟩ := specTranslate_eq_some h
      exact (stdAA_byte a b c).1
  · cases h

theorem letterSet_comp {x : Nat} (h : Ok x) : letterSet (compText (upper x)) = (letterSet (upper x)).map compSet :=
  (Props.C17.comp_checks x (List.mem_filter.2 ⟨List.mem_range.2 h.1, (enc_ne_zero_iff false x h.1).1 h.2⟩)).2.2.2.2

theorem dictLookup_spec (strand : Int) (xa xb xc : Nat) (ha : Ok xa) (hb : Ok xb) (hc : Ok xc) :
    dictLookup (if strand = -1 then complement [upper xa, upper xb, upper xc] else [upper xa, upper xb, upper xc]) =
      (specCodonAA strand [xa, xb, xc]).map fun t => [t] := by
  -- the dictionary is the specification on every list, so '-' and '?' need no case of their own
  rw [Props.C17.dictLookup_eq_specCodon, specCodonAA]
  split
  · simp only [complement, List.map_cons, List.map_nil, specCodon, letterSet_comp ha, letterSet_comp hb, letterSet_comp hc]
    cases letterSet (upper xa) <;> cases letterSet (upper xb) <;> cases letterSet (upper xc) <;> rfl
  · simp only [specCodon, List.map_cons, List.map_nil]
    cases letterSet (upper xa) <;> cases letterSet (upper xb) <;> cases letterSet (upper xc) <;> rfl

/-- the amino-acid look-up inside `aaStep`, written out on its own for three query symbols: the codon upper-cased,
complemented on the reverse strand, 'X' where the dictionary has no entry. No lemma connects it with `aaStep`:
`aaStep_midCodon` uses `dictLookup_spec` directly. -/
def modelAA (strand : Int) (xa xb xc : Nat) : List Nat :=
  let codon := [upper xa, upper xb, upper xc]
  let codon' := if strand = -1 then complement codon else codon
  match dictLookup codon' with | some a => a | none => [88]

theorem modelAA_spec (strand : Int) (xa xb xc : Nat) (ha : Ok xa) (hb : Ok xb) (hc : Ok xc) :
    modelAA strand xa xb xc = match specCodonAA strand [xa, xb, xc] with | some t => [t] | none => [88] := by
  unfold modelAA
  simp only [dictLookup_spec strand xa xb xc ha hb hc]
  cases specCodonAA strand [xa, xb, xc] <;> rfl

theorem aaCall_eq_some {ref q : List Nat} {reg : Region} {k : Nat} {codon : List Nat} {v : Variant}
    (h : aaCall ref q reg k codon = some v) :
    ∃ t, specCodonAA reg.strand (codon.filterMap fun p => (pairAt ref q p).map (·.2)) = some t ∧
      t ≠ reg.translation.getD k 0 ∧
      v = { kind := .aa, feature := reg.name, refAl := [reg.translation.getD k 0], queAl := [t],
            pos := ((codon.getD 2 0 : Nat) : Int) - 2 * reg.strand, residue := k + 1,
            snps := joinWith ";" (((codon.filter (differsAt ref q)).map (nucRecord ref q)).map fmtNuc) } := by
  unfold aaCall at h
  dsimp only at h
  split at h
  · rename_i t ht
    split at h
    · rename_i hne
      cases h
      exact ⟨t, ht, hne, rfl⟩
    · cases h
  · cases h

/-! ### three positions = one codon -/

/-- the records the specification asks for from one codon -/
def codonRecs (ref q : List Nat) (reg : Region) (k : Nat) (codon : List Nat) : List Variant :=
  match aaCall ref q reg k codon with
  | some v => [v]
  | none => (codon.filter (differsAt ref q)).map (nucRecord ref q)

/-- every position of `ps` has a column: `pairAt` reads index `p - 1` in ℕ, so this is `p ≤` the number of reference
bases, and position 0 qualifies (it reads the column of position 1, in the model's `cols[refPos - 1]?` as well) -/
def ValidPositions (ref q : List Nat) (ps : List Nat) : Prop := ∀ p ∈ ps, pairAt ref q p ≠ none

/-- the state of the scan inside codon k of a feature, after the positions `done` (fewer than three) of that codon -/
def midCodon (ref q : List Nat) (k : Nat) (out : List Variant) (done : List Nat) : AAState :=
  { codonSnps := (done.filter (differsAt ref q)).map (nucRecord ref q),
    codon := (done.filterMap fun p => (pairAt ref q p).map (·.2)).map upper,
    aaCounter := k, out := out }

/-- the state of the scan after the positions `ps`, started at the boundary before codon k with `out` written -/
def scanFrom (ref q : List Nat) (reg : Region) : Nat → List Variant → List Nat → AAState
  | k, out, a :: b :: c :: t => scanFrom ref q reg (k + 1) (out ++ codonRecs ref q reg k [a, b, c]) t
  | k, out, rest => midCodon ref q k out rest

theorem aaStep_midCodon (ref q : List Nat) (reg : Region) (k : Nat) (out : List Variant) (done : List Nat) (p : Nat)
    (hl : ref.length = q.length) (hr : OkRow ref) (hq : OkRow q) (hd : ValidPositions ref q done)
    (hv : pairAt ref q p ≠ none) (hlen : done.length ≤ 2) :
    aaStep (ref.map (enc false)) (q.map (enc false)) (refCols (ref.map (enc false))) reg (midCodon ref q k out done) p =
      if done.length = 2 then midCodon ref q (k + 1) (out ++ codonRecs ref q reg k (done ++ [p])) []
      else midCodon ref q k out (done ++ [p]) := by
  have h := at_pos ref q p hl hr hq
  cases hc : (refCols (ref.map (enc false)))[p - 1]? with
  | none => exact absurd (h.2 hc).1 hv
  | some c =>
    obtain ⟨r, x, hp, h1, h2, h3, h4⟩ := h.1 c hc
    have hox := pairAt_ok hq hp
    have hsn : (if differsAt ref q p = true then (midCodon ref q k out done).codonSnps ++ [nucRecord ref q p]
        else (midCodon ref q k out done).codonSnps) = (midCodon ref q k out (done ++ [p])).codonSnps := by
      simp only [midCodon, List.filter_append, List.map_append, List.filter_cons, List.filter_nil]
      cases differsAt ref q p <;> simp
    have hcod : (midCodon ref q k out done).codon ++ [upper x] = (midCodon ref q k out (done ++ [p])).codon := by
      simp [midCodon, List.filterMap_append, hp]
    unfold aaStep
    simp only [hc, h1, h2, h4]
    rw [encDiffer_comm, h3, dec_enc false x hox.2, hsn, hcod]
    by_cases h2 : done.length = 2
    · match done, h2 with
      | [a, b], _ =>
        obtain ⟨⟨ra, xa⟩, pa⟩ := Option.ne_none_iff_exists'.1 (hd a (by simp))
        obtain ⟨⟨rb, xb⟩, pb⟩ := Option.ne_none_iff_exists'.1 (hd b (by simp))
        have hq3 : ([a, b, p].filterMap fun p => (pairAt ref q p).map (·.2)) = [xa, xb, x] := by
          simp [pa, pb, hp]
        have hcod3 : (midCodon ref q k out ([a, b] ++ [p])).codon = [upper xa, upper xb, upper x] := by
          simp only [midCodon, List.cons_append, List.nil_append, hq3, List.map_cons, List.map_nil]
        rw [hcod3, if_pos (show [upper xa, upper xb, upper x].length = 3 from rfl),
          if_pos (show [a, b].length = 2 from rfl), dictLookup_spec reg.strand xa xb x (pairAt_ok hq pa) (pairAt_ok hq pb) hox]
        unfold codonRecs aaCall
        simp only [midCodon, List.cons_append, List.nil_append, hq3, List.getD_cons_succ, List.getD_cons_zero]
        cases hsp : specCodonAA reg.strand [xa, xb, x] with
        | none => simp
        | some t =>
          have hx := specCodonAA_ne_X _ _ _ hsp
          by_cases hne : t = reg.translation[k]?.getD 0
          · simp [hne]
          · simp [hne, hx]
    · have hlen' : (midCodon ref q k out (done ++ [p])).codon.length ≠ 3 := by
        have := List.length_filterMap_le (fun p => (pairAt ref q p).map (·.2)) (done ++ [p])
        simp only [midCodon, List.length_map, List.length_append, List.length_singleton] at this ⊢
        omega
      rw [if_neg h2, if_neg hlen']
      rfl

theorem aaStep_scanFrom (ref q : List Nat) (reg : Region) (hl : ref.length = q.length) (hr : OkRow ref) (hq : OkRow q)
    (k : Nat) (out : List Variant) (ps : List Nat) (p : Nat) (hv : ValidPositions ref q (ps ++ [p])) :
    aaStep (ref.map (enc false)) (q.map (enc false)) (refCols (ref.map (enc false))) reg (scanFrom ref q reg k out ps) p =
      scanFrom ref q reg k out (ps ++ [p]) := by
  fun_induction scanFrom ref q reg k out ps with
  | case1 k out a b c t ih => exact ih fun x hx => hv x (by simp only [List.cons_append, List.mem_cons, hx, or_true])
  | case2 k out done h =>
    have hlen : done.length ≤ 2 := by
      match done, h with
      | [], _ | [_], _ | [_, _], _ => simp
      | a :: b :: c :: t, h => exact (h a b c t rfl).elim
    rw [aaStep_midCodon ref q reg k out done p hl hr hq (fun x hx => hv x (List.mem_append_left _ hx))
      (hv p (by simp)) hlen]
    match done, hlen with
    | [], _ | [_], _ | [_, _], _ => rfl

theorem foldl_aaStep (ref q : List Nat) (reg : Region) (hl : ref.length = q.length) (hr : OkRow ref) (hq : OkRow q)
    (k : Nat) (out : List Variant) : ∀ (l ps : List Nat), ValidPositions ref q (ps ++ l) →
    l.foldl (aaStep (ref.map (enc false)) (q.map (enc false)) (refCols (ref.map (enc false))) reg) (scanFrom ref q reg k out ps) =
      scanFrom ref q reg k out (ps ++ l) := by
  intro l
  induction l with
  | nil => intro ps _; rw [List.append_nil]; rfl
  | cons p t ih =>
    intro ps hv
    have hv' : ValidPositions ref q (ps ++ [p] ++ t) := by rwa [List.append_assoc]
    rw [List.foldl_cons, aaStep_scanFrom ref q reg hl hr hq k out ps p (fun x hx => hv' x (List.mem_append_left _ hx)),
      ih (ps ++ [p]) hv', List.append_assoc]
    rfl

theorem three_steps (ref q : List Nat) (reg : Region) (k : Nat) (out : List Variant) (a b c : Nat)
    (hl : ref.length = q.length) (hr : OkRow ref) (hq : OkRow q)
    (ha : pairAt ref q a ≠ none) (hb : pairAt ref q b ≠ none) (hc : pairAt ref q c ≠ none) :
    [a, b, c].foldl (aaStep (ref.map (enc false)) (q.map (enc false)) (refCols (ref.map (enc false))) reg)
        { codonSnps := [], codon := [], aaCounter := k, out := out } =
      { codonSnps := [], codon := [], aaCounter := k + 1, out := out ++ codonRecs ref q reg k [a, b, c] } :=
  foldl_aaStep ref q reg hl hr hq k out [a, b, c] [] (by simp [ValidPositions, ha, hb, hc])

def codonRecsFrom (ref q : List Nat) (reg : Region) : Nat → List Nat → List Variant
  | k, a :: b :: c :: t => codonRecs ref q reg k [a, b, c] ++ codonRecsFrom ref q reg (k + 1) t
  | _, _ => []

theorem scanFrom_out (ref q : List Nat) (reg : Region) (k : Nat) (out : List Variant) (ps : List Nat) :
    (scanFrom ref q reg k out ps).out = out ++ codonRecsFrom ref q reg k ps := by
  fun_induction scanFrom ref q reg k out ps with
  | case1 k out a b c t ih => rw [ih, codonRecsFrom, List.append_assoc]
  | case2 k out rest h => rw [codonRecsFrom, List.append_nil]; rfl; exact h

theorem fold_codons (ref q : List Nat) (reg : Region) (hl : ref.length = q.length) (hr : OkRow ref) (hq : OkRow q) :
    ∀ (n : Nat) (ps : List Nat) (k : Nat) (out : List Variant), ps.length ≤ n → ValidPositions ref q ps →
    (ps.foldl (aaStep (ref.map (enc false)) (q.map (enc false)) (refCols (ref.map (enc false))) reg)
        { codonSnps := [], codon := [], aaCounter := k, out := out }).out = out ++ codonRecsFrom ref q reg k ps :=
  fun _ ps k out _ hv => (congrArg AAState.out (foldl_aaStep ref q reg hl hr hq k out ps [] hv)).trans
    (scanFrom_out ref q reg k out ps)

theorem chunks3_length : ∀ (n : Nat) (ps : List Nat), ps.length ≤ n → (chunks3 ps).length = ps.length / 3 := by
  intro n ps hn
  clear hn
  fun_induction chunks3 ps with
  | case1 a b c t ih => rw [List.length_cons, ih]; simp only [List.length_cons]; omega
  | case2 ps hps =>
    match ps, hps with
    | [], _ | [_], _ | [_, _], _ => simp
    | a :: b :: c :: t, hps => exact (hps a b c t rfl).elim

theorem regionRecords_eq_gen (ref q : List Nat) (reg : Region) (ps : List Nat) (k : Nat) :
    ((chunks3 ps).zip (List.range' k (ps.length / 3))).flatMap (fun ck => codonRecs ref q reg ck.2 ck.1) =
      codonRecsFrom ref q reg k ps := by
  fun_induction codonRecsFrom ref q reg k ps with
  | case1 k a b c t ih =>
    have hdiv : (a :: b :: c :: t).length / 3 = t.length / 3 + 1 := by simp only [List.length_cons]; omega
    rw [hdiv, List.range'_succ, chunks3, List.zip_cons_cons, List.flatMap_cons, ih]
  | case2 ps k hps =>
    have : chunks3 ps = [] := by
      unfold chunks3
      split
      · exact (hps _ _ _ _ rfl).elim
      · rfl
    rw [this]
    rfl

theorem regionRecords_eq (ref q : List Nat) (reg : Region) : regionRecords ref q reg = codonRecsFrom ref q reg 0 reg.positions := by
  unfold regionRecords
  rw [List.range_eq_range']
  exact regionRecords_eq_gen ref q reg reg.positions 0

theorem aas_spec (ref q : List Nat) (reg : Region) (hl : ref.length = q.length) (hr : OkRow ref) (hq : OkRow q)
    (hv : ValidPositions ref q reg.positions) :
    getAAsPair (ref.map (enc false)) (q.map (enc false)) (refCols (ref.map (enc false))) reg = regionRecords ref q reg := by
  rw [regionRecords_eq]
  exact (fold_codons ref q reg hl hr hq _ reg.positions 0 [] (Nat.le_refl _) hv).trans (List.nil_append _)

/-! ### merge, sort, de-duplicate: nothing dropped, nothing invented

`getVariantsPair` runs `dedupRun`. `dedupAdj` is the loop of the Go code before its repair (Model/Variants), which
Lemmas/VariantsOrder compares with it. -/

def isDel0 (v : Variant) : Prop := v.kind = .del ∧ v.pos = 0

theorem mem_dedupAdj_imp : ∀ (l : List Variant) (prev : Option Variant) (v : Variant),
    v ∈ dedupAdj prev l → v ∈ l ∧ ¬ isDel0 v := by
  intro l
  induction l with
  | nil => intro prev v h; cases h
  | cons w t ih =>
    intro prev v h
    have tail : ∀ prev, v ∈ dedupAdj prev t → v ∈ w :: t ∧ ¬ isDel0 v :=
      fun prev h => ⟨List.mem_cons_of_mem _ (ih prev v h).1, (ih prev v h).2⟩
    rw [dedupAdj] at h
    split at h
    · exact tail prev h
    · rename_i hw
      split at h
      · exact tail prev h
      · rcases List.mem_cons.1 h with rfl | h
        · exact ⟨List.mem_cons_self, hw⟩
        · exact tail _ h

theorem mem_dedupAdj_of : ∀ (l : List Variant) (prev : Option Variant) (v : Variant),
    v ∈ l → ¬ isDel0 v → v ∈ dedupAdj prev l ∨ prev = some v := by
  intro l
  induction l with
  | nil => intro prev v h; cases h
  | cons w t ih =>
    intro prev v h hd
    rw [dedupAdj]
    split
    · rename_i hw
      rcases List.mem_cons.1 h with rfl | h
      · exact absurd hw hd
      · exact ih prev v h hd
    · split
      · rename_i hp
        rcases List.mem_cons.1 h with rfl | h
        · exact Or.inr hp
        · exact ih prev v h hd
      · left
        rcases List.mem_cons.1 h with rfl | h
        · exact List.mem_cons_self
        · rcases ih (some w) v h hd with h1 | h1
          · exact List.mem_cons_of_mem _ h1
          · cases h1; exact List.mem_cons_self

theorem mem_dedupAdj (l : List Variant) (v : Variant) : v ∈ dedupAdj none l ↔ v ∈ l ∧ ¬ isDel0 v :=
  ⟨mem_dedupAdj_imp l none v, fun ⟨h1, h2⟩ => (mem_dedupAdj_of l none v h1 h2).resolve_right (fun h => nomatch h)⟩

theorem mem_of_seenInRun (v : Variant) : ∀ (K : List Variant), seenInRun v K = true → v ∈ K := by
  intro K
  induction K with
  | nil => intro h; cases h
  | cons k t ih =>
    intro h
    rw [seenInRun] at h
    split at h
    · simp only [Bool.or_eq_true, beq_iff_eq] at h
      rcases h with h | h
      · rw [h]; exact List.mem_cons_self
      · exact List.mem_cons_of_mem _ (ih h)
    · cases h

theorem mem_dedupRun_iff : ∀ (l : List Variant) (K : List Variant) (v : Variant),
    v ∈ dedupRun K l ↔ v ∈ K ∨ (v ∈ l ∧ ¬ isDel0 v) := by
  intro l
  induction l with
  | nil => intro K v; simp [dedupRun]
  | cons w t ih =>
    intro K v
    have hcons : (v ∈ w :: t ∧ ¬ isDel0 v) ↔ (v = w ∧ ¬ isDel0 w) ∨ (v ∈ t ∧ ¬ isDel0 v) := by
      rw [List.mem_cons, or_and_right]
      exact or_congr_left ⟨fun ⟨e, h⟩ => ⟨e, e ▸ h⟩, fun ⟨e, h⟩ => ⟨e, e ▸ h⟩⟩
    rw [hcons, dedupRun]
    split
    · rename_i hw
      rw [ih, or_iff_right (fun h : v = w ∧ ¬ isDel0 w => h.2 hw)]
    · rename_i hw
      split
      · rename_i hs
        rw [ih, ← or_assoc, or_iff_left_of_imp (fun h : v = w ∧ ¬ isDel0 w => h.1 ▸ mem_of_seenInRun w K hs)]
      · rw [ih, List.mem_cons, and_iff_left (show ¬ isDel0 w from hw), or_comm (a := v = w), or_assoc]

theorem mem_dedupRun (l : List Variant) (v : Variant) : v ∈ dedupRun [] l ↔ v ∈ l ∧ ¬ isDel0 v := by
  rw [mem_dedupRun_iff, or_iff_right List.not_mem_nil]

theorem mem_getVariantsPair_iff (ref q : List Nat) (regions : List Region) (inter : List Nat) (v : Variant) :
    v ∈ getVariantsPair ref q regions inter ↔
      (v ∈ getIndelsPair ref q ∨ v ∈ getNucsPair ref q (refCols ref) inter ∨
        ∃ reg ∈ regions, v ∈ getAAsPair ref q (refCols ref) reg) ∧ ¬ isDel0 v := by
  unfold getVariantsPair
  rw [mem_dedupRun, mem_sortStable, List.mem_append, List.mem_append, List.mem_flatMap, or_assoc]

end Gofasta.Lemmas
