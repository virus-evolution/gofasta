import Gofasta.Gen.ColsUpdown
import Gofasta.Model.Updown
/-
Code of pkg/updown regenerated from the Go source on every run by the go/ast translator `cols.go` (harness) into
`Gen/ColsUpdown.lean` (the method is described in Props/ColsClosest): the condition under which `getLines` lists a
column as a SNP. The theorem below says, for all natural numbers, that it is `encResolved q && encDiffer r q`. These are
the two tests `Model.udScan` makes, in this order (`C10.udScan_res`, `udScan_unres`), but no theorem here mentions
`udScan`: that tie is read off the two equations. A change of the condition in the source changes the generated
definition and breaks the obligation.
-/
namespace Gofasta.Props.Cols
open Gofasta Gofasta.Model Gofasta.Gen.Cols

theorem updown_append (r q : Nat) : input_getLines r q = [encResolved q && encDiffer r q] := by
  simp [input_getLines, encDiffer, encResolved]

end Gofasta.Props.Cols
