import Gofasta.Lemmas.SchedFaultsAgg
import Gofasta.Lemmas.SchedChainHdrStart
/-
(B) - the header write AT ONCE - for `sam variants` and `sam variants --aggregate` (two worker pools): the statements of
Lemmas/SchedChainHdrStart for the chain model, with the commands' writers.
-/
set_option autoImplicit false

namespace Gofasta.Lemmas.SchedFaultsChainHdr
open Gofasta Gofasta.Model
open Gofasta.Lemmas.SchedCommands
open Gofasta.Lemmas.SchedFaults
open Gofasta.Lemmas.SchedFaultsAgg Gofasta.Lemmas.SchedRun

/-! ### `gofasta sam variants`: two worker pools, the streaming writer (two calls per record), the header
written before the loop.  The configuration is `samVarFCfg` of SchedFaults. -/

section samVariantsHeaderFirst
open Gofasta.Model.SchedChain Gofasta.Lemmas.SchedChain Gofasta.Driver Gofasta.Lemmas.SamVarPipeline Gofasta.Base

theorem sam_variants_hdr_fault_reported (d : Dest) (vi : VarIn) (refID : String) (refRaw : List Nat)
    (blocks : List (List SamRec)) (pairOf : List SamRec → List Nat → List Nat × List Nat)
    (caller : List Nat → List Nat → List Region → List Nat → List Variant)
    (regions : List Region) (inter : List Nat) (N1 N2 cap0 cap1 cap2 : Nat) (rf : Option (Nat × RunErr))
    (hN1 : 1 ≤ N1) (hN2 : 1 ≤ N2) (k : Nat) (hd : d = .failFrom k ∨ d = .failOnce k) (hk1 : 1 ≤ k)
    (hkW : k ≤ samVarW refID blocks) {s : State _ _ _}
    (hr : ChainReachFrom (samVarFCfg d vi refID refRaw blocks pairOf caller regions inter N1 N2 cap0 cap1 cap2 rf)
      (chainHdrStart (samVarFCfg d vi refID refRaw blocks pairOf caller regions inter N1 N2 cap0 cap1 cap2 rf) .write
        (d.fails 1)) s) : s.main ≠ .ret none :=
  chain_hdr_fault_reported
    (samVarF_isFW d vi refID refRaw blocks pairOf caller regions inter N1 N2 cap0 cap1 cap2 rf) (two_pools_pos hN1 hN2)
    k hd hk1 (fun _ hys =>
      (samVarF_cmd d vi refID refRaw blocks pairOf caller regions inter N1 N2 cap0 cap1 cap2 rf).calls hys ▸ hkW) hr

theorem sam_variants_hdr_fault_beyond_run_harmless (d : Dest) (vi : VarIn) (refID : String) (refRaw : List Nat)
    (blocks : List (List SamRec)) (pairOf : List SamRec → List Nat → List Nat × List Nat)
    (caller : List Nat → List Nat → List Region → List Nat → List Variant)
    (regions : List Region) (inter : List Nat) (hregs : samRegions vi refRaw = some (regions, inter))
    (hagg : vi.agg = false) (N1 N2 cap0 cap1 cap2 : Nat) (rf : Option (Nat × RunErr))
    (hN1 : 1 ≤ N1) (hN2 : 1 ≤ N2) {s : State _ _ _}
    (hr : ChainReachFrom (samVarFCfg d vi refID refRaw blocks pairOf caller regions inter N1 N2 cap0 cap1 cap2 rf)
      (chainHdrStart (samVarFCfg d vi refID refRaw blocks pairOf caller regions inter N1 N2 cap0 cap1 cap2 rf) .write
        (d.fails 1)) s) (hm : s.main = .ret none) :
    s.wst.sink.text = samVarOn vi refID refRaw blocks pairOf caller ∧ s.wst.sink.calls = samVarW refID blocks ∧
      ∀ i, 1 ≤ i → i ≤ samVarW refID blocks → d.fails i = false := by
  obtain ⟨ys, hys, htext, _, hcalls, hok⟩ := chain_hdr_fault_beyond_run_harmless
    (samVarF_isFW d vi refID refRaw blocks pairOf caller regions inter N1 N2 cap0 cap1 cap2 rf) (two_pools_pos hN1 hN2) hr hm
  have h := samVarF_cmd d vi refID refRaw blocks pairOf caller regions inter N1 N2 cap0 cap1 cap2 rf
  exact ⟨(htext.trans (h.text hys)).trans (samVar_text_eq vi refID refRaw blocks pairOf caller regions inter hregs hagg),
    h.calls hys ▸ hcalls, h.calls hys ▸ hok⟩

theorem sam_variants_hdr_written_is_prefix (d : Dest) (vi : VarIn) (refID : String) (refRaw : List Nat)
    (blocks : List (List SamRec)) (pairOf : List SamRec → List Nat → List Nat × List Nat)
    (caller : List Nat → List Nat → List Region → List Nat → List Variant)
    (regions : List Region) (inter : List Nat) (hregs : samRegions vi refRaw = some (regions, inter))
    (hagg : vi.agg = false) (N1 N2 cap0 cap1 cap2 : Nat) (rf : Option (Nat × RunErr)) {s : State _ _ _}
    (hr : ChainReachFrom (samVarFCfg d vi refID refRaw blocks pairOf caller regions inter N1 N2 cap0 cap1 cap2 rf)
      (chainHdrStart (samVarFCfg d vi refID refRaw blocks pairOf caller regions inter N1 N2 cap0 cap1 cap2 rf) .write
        (d.fails 1)) s) :
    ∃ j, chainAccepted d (svChunks vi refID) "query,mutations\n" 0 s =
        String.join ((callSeq "query,mutations\n" (svChunks vi refID)
          (blocks.map (svBoth refRaw pairOf caller regions inter))).take j) ∧
      String.join (callSeq "query,mutations\n" (svChunks vi refID)
          (blocks.map (svBoth refRaw pairOf caller regions inter))) = samVarOn vi refID refRaw blocks pairOf caller := by
  obtain ⟨j, hj⟩ := chain_hdr_written_is_prefix
    (samVarF_isFW d vi refID refRaw blocks pairOf caller regions inter N1 N2 cap0 cap1 cap2 rf) hr
  dsimp only [samVarFCfg] at hj
  rw [goodPrefix_all_ok svF_items_pass] at hj
  exact ⟨j, hj, (join_callSeq ..).trans (samVar_text_eq vi refID refRaw blocks pairOf caller regions inter hregs hagg)⟩

/-- no hypothesis on the numbers of workers, the capacities, the reader -/
theorem sam_variants_header_fault_immediate (d : Dest) (vi : VarIn) (refID : String) (refRaw : List Nat)
    (blocks : List (List SamRec)) (pairOf : List SamRec → List Nat → List Nat × List Nat)
    (caller : List Nat → List Nat → List Region → List Nat → List Variant)
    (regions : List Region) (inter : List Nat) (N1 N2 cap0 cap1 cap2 : Nat) (rf : Option (Nat × RunErr))
    (hd : d = .failFrom 1 ∨ d = .failOnce 1) {s : State _ _ _}
    (hr : ChainReachFrom (samVarFCfg d vi refID refRaw blocks pairOf caller regions inter N1 N2 cap0 cap1 cap2 rf)
      (chainHdrStart (samVarFCfg d vi refID refRaw blocks pairOf caller regions inter N1 N2 cap0 cap1 cap2 rf) .write
        (d.fails 1)) s) :
    s.arrival = [] ∧ s.writer = .errS .write ∧ s.wst.sink = ⟨"", 1, true⟩ ∧
      chainAccepted d (svChunks vi refID) "query,mutations\n" 0 s = "" ∧ s.main ≠ .ret none :=
  chain_header_fault_immediate
    (samVarF_isFW d vi refID refRaw blocks pairOf caller regions inter N1 N2 cap0 cap1 cap2 rf)
    (Dest.fails_of_at hd) hr

theorem sam_variants_hdr_fault_maximal_run_write_error (d : Dest) (vi : VarIn) (refID : String) (refRaw : List Nat)
    (blocks : List (List SamRec)) (pairOf : List SamRec → List Nat → List Nat × List Nat)
    (caller : List Nat → List Nat → List Region → List Nat → List Variant)
    (regions : List Region) (inter : List Nat) (N1 N2 cap0 cap1 cap2 : Nat)
    (hN1 : 1 ≤ N1) (hN2 : 1 ≤ N2) (k : Nat) (hd : d = .failFrom k ∨ d = .failOnce k) (hk1 : 1 ≤ k)
    (hkW : k ≤ samVarW refID blocks) {s : State _ _ _}
    (hr : ChainReachFrom (samVarFCfg d vi refID refRaw blocks pairOf caller regions inter N1 N2 cap0 cap1 cap2 none)
      (chainHdrStart (samVarFCfg d vi refID refRaw blocks pairOf caller regions inter N1 N2 cap0 cap1 cap2 none) .write
        (d.fails 1)) s)
    (hstuck : enabled (samVarFCfg d vi refID refRaw blocks pairOf caller regions inter N1 N2 cap0 cap1 cap2 none) s = []) :
    s.main = .ret (some .write) :=
  chain_hdr_fault_maximal_run_write_error
    (samVarF_isFW d vi refID refRaw blocks pairOf caller regions inter N1 N2 cap0 cap1 cap2 none) (two_pools_pos hN1 hN2) rfl
    svF_items_pass k hd hk1 (samVarF_nCalls vi refID refRaw blocks pairOf caller regions inter ▸ hkW) hr hstuck

end samVariantsHeaderFirst

/-! ### `gofasta sam variants --aggregate`: two worker pools, the aggregating writer that writes its header
BEFORE the loop: `samVarAggFCfg d [varAggHeader] []` of SchedFaultsAgg (`hs = [header]`, `pre = []`) -/

section samVariantsAggregateHeaderFirst
open Gofasta.Model.SchedChain Gofasta.Lemmas.SchedChain Gofasta.Driver Gofasta.Lemmas.SamVarPipeline Gofasta.Base
open Gofasta.Lemmas.AggVariants

theorem sam_variants_agg_hdr_fault_reported (d : Dest) (vi : VarIn) (refID : String) (refRaw : List Nat)
    (blocks : List (List SamRec)) (pairOf : List SamRec → List Nat → List Nat × List Nat)
    (caller : List Nat → List Nat → List Region → List Nat → List Variant)
    (regions : List Region) (inter : List Nat)
    (hsep : Separated (aggKeys vi.append vi.start vi.stop refID (samLists refRaw blocks pairOf caller regions inter)))
    (N1 N2 cap0 cap1 cap2 : Nat) (rf : Option (Nat × RunErr)) (hN1 : 1 ≤ N1) (hN2 : 1 ≤ N2) (k : Nat)
    (hd : d = .failFrom k ∨ d = .failOnce k) (hk1 : 1 ≤ k)
    (hkW : k ≤ 1 + (varAggLines vi refID (samLists refRaw blocks pairOf caller regions inter)).length)
    {s : State _ _ _}
    (hr : ChainReachFrom (samVarAggFCfg d [varAggHeader] [] vi refID refRaw blocks pairOf caller regions inter
        N1 N2 cap0 cap1 cap2 rf)
      (chainHdrStart (samVarAggFCfg d [varAggHeader] [] vi refID refRaw blocks pairOf caller regions inter
        N1 N2 cap0 cap1 cap2 rf) .write (Sink.putAll d Sink.empty [varAggHeader]).failed) s) : s.main ≠ .ret none :=
  chain_agg_hdr_fault_reported (samVarAggF_isAW [varAggHeader] []) (two_pools_pos hN1 hN2)
    (samVar_rowsAre hsep) k hd hk1 hkW hr

theorem sam_variants_agg_hdr_fault_beyond_run_harmless (d : Dest) (vi : VarIn) (refID : String) (refRaw : List Nat)
    (blocks : List (List SamRec)) (pairOf : List SamRec → List Nat → List Nat × List Nat)
    (caller : List Nat → List Nat → List Region → List Nat → List Variant)
    (regions : List Region) (inter : List Nat) (hregs : samRegions vi refRaw = some (regions, inter))
    (hagg : vi.agg = true)
    (hsep : Separated (aggKeys vi.append vi.start vi.stop refID (samLists refRaw blocks pairOf caller regions inter)))
    (N1 N2 cap0 cap1 cap2 : Nat) (rf : Option (Nat × RunErr)) (hN1 : 1 ≤ N1) (hN2 : 1 ≤ N2) {s : State _ _ _}
    (hr : ChainReachFrom (samVarAggFCfg d [varAggHeader] [] vi refID refRaw blocks pairOf caller regions inter
        N1 N2 cap0 cap1 cap2 rf)
      (chainHdrStart (samVarAggFCfg d [varAggHeader] [] vi refID refRaw blocks pairOf caller regions inter
        N1 N2 cap0 cap1 cap2 rf) .write (Sink.putAll d Sink.empty [varAggHeader]).failed) s)
    (hm : s.main = .ret none) :
    s.wst.sink.text = samVarOn vi refID refRaw blocks pairOf caller ∧
      s.wst.sink.calls = 1 + (varAggLines vi refID (samLists refRaw blocks pairOf caller regions inter)).length ∧
      ∀ i, 1 ≤ i → i ≤ 1 + (varAggLines vi refID (samLists refRaw blocks pairOf caller regions inter)).length →
        d.fails i = false := by
  obtain ⟨h1, _, h3, h4⟩ := chain_agg_hdr_fault_beyond_run_harmless (samVarAggF_isAW [varAggHeader] [])
    (two_pools_pos hN1 hN2) (samVar_rowsAre hsep) hr hm
  exact ⟨h1.trans (samVarAgg_text_eq refID blocks pairOf caller hregs hagg), h3, h4⟩

theorem sam_variants_agg_hdr_written_is_prefix (d : Dest) (vi : VarIn) (refID : String) (refRaw : List Nat)
    (blocks : List (List SamRec)) (pairOf : List SamRec → List Nat → List Nat × List Nat)
    (caller : List Nat → List Nat → List Region → List Nat → List Variant)
    (regions : List Region) (inter : List Nat)
    (hsep : Separated (aggKeys vi.append vi.start vi.stop refID (samLists refRaw blocks pairOf caller regions inter)))
    (N1 N2 cap0 cap1 cap2 : Nat) (rf : Option (Nat × RunErr)) (hN1 : 1 ≤ N1) (hN2 : 1 ≤ N2) {s : State _ _ _}
    (hr : ChainReachFrom (samVarAggFCfg d [varAggHeader] [] vi refID refRaw blocks pairOf caller regions inter
        N1 N2 cap0 cap1 cap2 rf)
      (chainHdrStart (samVarAggFCfg d [varAggHeader] [] vi refID refRaw blocks pairOf caller regions inter
        N1 N2 cap0 cap1 cap2 rf) .write (Sink.putAll d Sink.empty [varAggHeader]).failed) s) :
    ∃ j, chainAggAccepted d [varAggHeader] [] ([], 0) (svAccum vi refID) (varAggRowsOf vi) s =
      String.join ((varAggHeader ::
        varAggLines vi refID (samLists refRaw blocks pairOf caller regions inter)).take j) :=
  chain_agg_hdr_written_is_prefix (samVarAggF_isAW [varAggHeader] []) (two_pools_pos hN1 hN2)
    (samVar_rowsAre hsep) hr

/-- no hypothesis on the numbers of workers, the capacities, the reader, the keys -/
theorem sam_variants_agg_header_fault_immediate (d : Dest) (vi : VarIn) (refID : String) (refRaw : List Nat)
    (blocks : List (List SamRec)) (pairOf : List SamRec → List Nat → List Nat × List Nat)
    (caller : List Nat → List Nat → List Region → List Nat → List Variant)
    (regions : List Region) (inter : List Nat) (N1 N2 cap0 cap1 cap2 : Nat) (rf : Option (Nat × RunErr))
    (hd : d = .failFrom 1 ∨ d = .failOnce 1) {s : State _ _ _}
    (hr : ChainReachFrom (samVarAggFCfg d [varAggHeader] [] vi refID refRaw blocks pairOf caller regions inter
        N1 N2 cap0 cap1 cap2 rf)
      (chainHdrStart (samVarAggFCfg d [varAggHeader] [] vi refID refRaw blocks pairOf caller regions inter
        N1 N2 cap0 cap1 cap2 rf) .write (Sink.putAll d Sink.empty [varAggHeader]).failed) s) :
    s.arrival = [] ∧ s.writer = .errS .write ∧ s.wst.sink = ⟨"", 1, true⟩ ∧
      chainAggAccepted d [varAggHeader] [] ([], 0) (svAccum vi refID) (varAggRowsOf vi) s = "" ∧
      s.main ≠ .ret none :=
  chain_agg_header_fault_immediate (samVarAggF_isAW [varAggHeader] []) (Dest.fails_of_at hd) hr

theorem sam_variants_agg_hdr_fault_maximal_run_write_error (d : Dest) (vi : VarIn) (refID : String)
    (refRaw : List Nat) (blocks : List (List SamRec)) (pairOf : List SamRec → List Nat → List Nat × List Nat)
    (caller : List Nat → List Nat → List Region → List Nat → List Variant)
    (regions : List Region) (inter : List Nat)
    (hsep : Separated (aggKeys vi.append vi.start vi.stop refID (samLists refRaw blocks pairOf caller regions inter)))
    (N1 N2 cap0 cap1 cap2 : Nat) (hN1 : 1 ≤ N1) (hN2 : 1 ≤ N2) (k : Nat)
    (hd : d = .failFrom k ∨ d = .failOnce k) (hk1 : 1 ≤ k)
    (hkW : k ≤ 1 + (varAggLines vi refID (samLists refRaw blocks pairOf caller regions inter)).length)
    {s : State _ _ _}
    (hr : ChainReachFrom (samVarAggFCfg d [varAggHeader] [] vi refID refRaw blocks pairOf caller regions inter
        N1 N2 cap0 cap1 cap2 none)
      (chainHdrStart (samVarAggFCfg d [varAggHeader] [] vi refID refRaw blocks pairOf caller regions inter
        N1 N2 cap0 cap1 cap2 none) .write (Sink.putAll d Sink.empty [varAggHeader]).failed) s)
    (hstuck : enabled (samVarAggFCfg d [varAggHeader] [] vi refID refRaw blocks pairOf caller regions inter
      N1 N2 cap0 cap1 cap2 none) s = []) : s.main = .ret (some .write) :=
  chain_agg_hdr_fault_maximal_run_write_error (samVarAggF_isAW [varAggHeader] []) (two_pools_pos hN1 hN2) rfl
    (all_ok_of_map svF_items_pass) (samVar_rowsAre hsep) k hd hk1 hkW hr hstuck

end samVariantsAggregateHeaderFirst

/-! ## the statements are not vacuous: two pools of two workers, TWO records, runs from the header-first start -/

namespace Examples
open Gofasta.Lemmas.SchedCommands.Examples Gofasta.Lemmas.SchedFaults.Examples
open Gofasta.Driver Gofasta.Lemmas.SamVarPipeline Gofasta.Base Gofasta.Lemmas.AggVariants
open Gofasta.Model.SchedChain

/-- `sam variants` on two queries: pools of two workers, c_0 of capacity 1, c_1 and c_2 of capacity 2; W = 5 -/
def samVarFEx2 (d : Dest) := samVarFCfg d (pvVi "gff" false) "ref" pvRef (samBlocks [pvRec, pvRec2])
  (fun b r => blockToSeqPair b r) modelPair svRegs.1 svRegs.2 2 2 1 2 2 none

/-- `sam variants --aggregate` on the same two queries, the header written before the loop; four rows, W = 5 -/
def samAggHEx2 (d : Dest) := samVarAggFCfg d [varAggHeader] [] (pvVi "gff" true) "ref" pvRef
  (samBlocks [pvRec, pvRec2]) (fun b r => blockToSeqPair b r) modelPair svRegs.1 svRegs.2 2 2 1 2 2 none

/-- the schedule that avoids main's `cErr` arm as long as there is another step: 19 steps -/
def lateSched : List Nat := List.replicate 19 0

set_option maxRecDepth 100000 in
/-- the header call fails: in the start state the reader's send and main's `cErr` arm are enabled; the schedule [1] takes
main's `cErr` arm as the very first step -/
example :
    enabled (samVarFEx2 (.failFrom 1)) (chainHdrStart (samVarFEx2 (.failFrom 1)) .write ((Dest.failFrom 1).fails 1)) =
      [.send .reader, .mainErr .writer] ∧
    (chainRunHdr (samVarFEx2 (.failFrom 1)) .write ((Dest.failFrom 1).fails 1) csched1).main = .ret (some .write) ∧
    (chainRunHdr (samVarFEx2 (.failFrom 1)) .write ((Dest.failFrom 1).fails 1) csched2).main = .ret (some .write) ∧
    (chainRunHdr (samVarFEx2 (.failFrom 1)) .write ((Dest.failFrom 1).fails 1) csched2).arrival = [] ∧
    (chainRunHdr (samVarFEx2 (.failOnce 1)) .write ((Dest.failOnce 1).fails 1) csched1).main = .ret (some .write) ∧
    (chainRunHdr (samVarFEx2 (.failOnce 1)) .write ((Dest.failOnce 1).fails 1) csched2).main = .ret (some .write) ∧
    (chainRunHdr (samVarFEx2 (.failOnce 1)) .write ((Dest.failOnce 1).fails 1) csched2).wst.sink = ⟨"", 1, true⟩ ∧
    (chainRunHdr (samVarFEx2 (.failFrom 1)) .write ((Dest.failFrom 1).fails 1) [1]).main = .ret (some .write) := by
  decide +kernel

set_option maxRecDepth 100000 in
/-- the schedule that lets the chain run as long as possible before main takes the error: both pools drain, both
records sit in c_2 (capacity 2), main gets to stage 3, then only main's `cErr` arm is left - and still nothing has
reached the writer; the next step returns the write error -/
example :
    (chainRunHdr (samVarFEx2 (.failFrom 1)) .write true lateSched).arrival = [] ∧
    (chainRunHdr (samVarFEx2 (.failFrom 1)) .write true lateSched).writer = .errS .write ∧
    (chainRunHdr (samVarFEx2 (.failFrom 1)) .write true lateSched).main = .stage 3 ∧
    ((chainRunHdr (samVarFEx2 (.failFrom 1)) .write true lateSched).chans.map fun ch => ch.queue.map (·.1)) =
      [[], [], [0, 1]] ∧
    enabled (samVarFEx2 (.failFrom 1)) (chainRunHdr (samVarFEx2 (.failFrom 1)) .write true lateSched) =
      [.mainErr .writer] ∧
    (chainRunHdr (samVarFEx2 (.failFrom 1)) .write true (lateSched ++ [0])).main = .ret (some .write) := by
  decide +kernel

set_option maxRecDepth 100000 in
/-- the header call succeeds: the header-first start is `init`; a transient fault at a middle call (the name of the
second query), and no fault -/
example :
    (chainRunHdr (samVarFEx2 (.failOnce 4)) .write ((Dest.failOnce 4).fails 1) csched1).main = .ret (some .write) ∧
    (chainRunHdr (samVarFEx2 (.failOnce 4)) .write ((Dest.failOnce 4).fails 1) csched2).main = .ret (some .write) ∧
    (chainRunHdr (samVarFEx2 (.failOnce 4)) .write ((Dest.failOnce 4).fails 1) csched2).arrival.map (·.1) = [0, 1] ∧
    (chainRunHdr (samVarFEx2 .ok) .write (Dest.ok.fails 1) csched2).main = .ret none ∧
    (chainRunHdr (samVarFEx2 .ok) .write (Dest.ok.fails 1) csched2).wst.sink =
      ⟨"query,mutations\nq,aa:g:A2E(nuc:C5A)|ins:4:1|del:8:2\nr,aa:g:A2V(nuc:C5T)\n", 5, false⟩ := by
  decide +kernel

example (sched : List Nat) :
    (chainRunHdr (samVarFEx2 (.failOnce 1)) .write ((Dest.failOnce 1).fails 1) sched).arrival = [] ∧
    (chainRunHdr (samVarFEx2 (.failOnce 1)) .write ((Dest.failOnce 1).fails 1) sched).wst.sink = ⟨"", 1, true⟩ ∧
    (chainRunHdr (samVarFEx2 (.failOnce 1)) .write ((Dest.failOnce 1).fails 1) sched).main ≠ .ret none := by
  obtain ⟨h1, _, h3, _, h5⟩ := sam_variants_header_fault_immediate (.failOnce 1) (pvVi "gff" false) "ref" pvRef
    (samBlocks [pvRec, pvRec2]) (fun b r => blockToSeqPair b r) modelPair svRegs.1 svRegs.2 2 2 1 2 2 none (Or.inr rfl)
    (chainRunHdr_reachFrom _ _ _ sched)
  exact ⟨h1, h3, h5⟩

/-- the general theorem on this input (a fault at any of the five calls) -/
example (k : Nat) (hk1 : 1 ≤ k) (hk5 : k ≤ 5) (sched : List Nat)
    (hstuck : enabled (samVarFEx2 (.failFrom k))
      (chainRunHdr (samVarFEx2 (.failFrom k)) .write ((Dest.failFrom k).fails 1) sched) = []) :
    (chainRunHdr (samVarFEx2 (.failFrom k)) .write ((Dest.failFrom k).fails 1) sched).main = .ret (some .write) :=
  sam_variants_hdr_fault_maximal_run_write_error (.failFrom k) (pvVi "gff" false) "ref" pvRef
    (samBlocks [pvRec, pvRec2]) (fun b r => blockToSeqPair b r) modelPair svRegs.1 svRegs.2 2 2 1 2 2
    (by decide) (by decide) k (Or.inl rfl) hk1 (by rw [show samVarW "ref" (samBlocks [pvRec, pvRec2]) = 5 by decide]; exact hk5)
    (chainRunHdr_reachFrom _ _ _ sched) hstuck

set_option maxRecDepth 100000 in
/-- (B) for the aggregating writer of the chain that writes its header before the loop: the header call fails; the
header call succeeds, with a fault at a middle row and without a fault -/
example :
    (Sink.putAll (.failFrom 1) Sink.empty [varAggHeader]).failed = true ∧
    (Sink.putAll (.failOnce 3) Sink.empty [varAggHeader]).failed = false ∧
    (chainRunHdr (samAggHEx2 (.failFrom 1)) .write true csched1).main = .ret (some .write) ∧
    (chainRunHdr (samAggHEx2 (.failFrom 1)) .write true csched2).main = .ret (some .write) ∧
    (chainRunHdr (samAggHEx2 (.failFrom 1)) .write true csched2).arrival = [] ∧
    (chainRunHdr (samAggHEx2 (.failOnce 1)) .write true csched2).main = .ret (some .write) ∧
    (chainRunHdr (samAggHEx2 (.failOnce 1)) .write true csched2).wst.sink = ⟨"", 1, true⟩ ∧
    (chainRunHdr (samAggHEx2 (.failFrom 1)) .write true lateSched).arrival = [] ∧
    enabled (samAggHEx2 (.failFrom 1)) (chainRunHdr (samAggHEx2 (.failFrom 1)) .write true lateSched) =
      [.mainErr .writer] ∧
    (chainRunHdr (samAggHEx2 (.failFrom 1)) .write true (lateSched ++ [0])).main = .ret (some .write) ∧
    (chainRunHdr (samAggHEx2 (.failOnce 3)) .write false csched2).main = .ret (some .write) ∧
    (chainRunHdr (samAggHEx2 .ok) .write false csched2).main = .ret none ∧
    (chainRunHdr (samAggHEx2 .ok) .write false csched2).wst.sink.text =
      "mutation,frequency\naa:g:A2E(nuc:C5A),0.500000000\naa:g:A2V(nuc:C5T),0.500000000\nins:4:1,0.500000000\ndel:8:2,0.500000000\n" := by
  decide +kernel

example (sched : List Nat) :
    (chainRunHdr (samAggHEx2 (.failFrom 1)) .write (Sink.putAll (.failFrom 1) Sink.empty [varAggHeader]).failed
      sched).arrival = [] ∧
    (chainRunHdr (samAggHEx2 (.failFrom 1)) .write (Sink.putAll (.failFrom 1) Sink.empty [varAggHeader]).failed
      sched).main ≠ .ret none := by
  obtain ⟨h1, _, _, _, h5⟩ := sam_variants_agg_header_fault_immediate (.failFrom 1) (pvVi "gff" true) "ref" pvRef
    (samBlocks [pvRec, pvRec2]) (fun b r => blockToSeqPair b r) modelPair svRegs.1 svRegs.2 2 2 1 2 2 none (Or.inl rfl)
    (chainRunHdr_reachFrom _ _ _ sched)
  exact ⟨h1, h5⟩

end Examples

end Gofasta.Lemmas.SchedFaultsChainHdr
