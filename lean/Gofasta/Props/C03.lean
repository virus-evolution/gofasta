import Gofasta.Lemmas.Enc
import Gofasta.Lemmas.Reorder
import Gofasta.Model.Snps
import Gofasta.Spec.Snps
/-
C03 — snps reports exactly the certainly-different sites, in reference order.
-/
namespace Gofasta.Props.C03
open Gofasta Base Model Spec Lemmas

/-- well-formed FASTA symbols under a gap mode: bytes the encoder accepts (the bound follows from the second
conjunct, `enc_lt`) -/
def Accepted (hard : Bool) (s : List Nat) : Prop := ∀ b ∈ s, b < 256 ∧ enc hard b ≠ 0

instance (hard : Bool) (s : List Nat) : Decidable (Accepted hard s) := by unfold Accepted; infer_instance

theorem rowFrom (hard : Bool) : ∀ (ref q : List Nat) (i : Nat), Accepted hard ref → Accepted hard q →
    snpsRowEnc i (ref.map (enc hard)) (q.map (enc hard)) = specSnpsFrom hard i ref q := by
  intro ref
  induction ref with
  | nil => intro q i _ _; simp [snpsRowEnc, specSnpsFrom]
  | cons r rs ih =>
    intro q i hr hq
    cases q with
    | nil => simp [snpsRowEnc, specSnpsFrom]
    | cons c cs =>
      have hr0 := hr r (by simp)
      have hc0 := hq c (by simp)
      have hrs : Accepted hard rs := fun b hb => hr b (by simp [hb])
      have hcs : Accepted hard cs := fun b hb => hq b (by simp [hb])
      simp only [List.map_cons, snpsRowEnc, specSnpsFrom]
      rw [encDiffer_iff hard r c hr0.2 hc0.2, dec_enc hard r hr0.2,
        dec_enc hard c hc0.2, ih cs (i + 1) hrs hcs]
      rfl

/-- **C03.row** — for every reference and query over the accepted alphabet (either case, both gap
modes, any width) the model's row is exactly the list of columns with disjoint base sets, each
with the upper-cased symbols. -/
theorem row (hard : Bool) (ref q : List Nat) (hr : Accepted hard ref) (hq : Accepted hard q) :
    snpsRow hard ref q = specSnps hard ref q := rowFrom hard ref q 0 hr hq

theorem spec_ascending (hard : Bool) : ∀ (ref q : List Nat) (i : Nat),
    ((specSnpsFrom hard i ref q).map (·.1)).Pairwise (· < ·) ∧
    ∀ p ∈ (specSnpsFrom hard i ref q).map (·.1), i < p := by
  intro ref
  induction ref with
  | nil => intro q i; simp [specSnpsFrom]
  | cons r rs ih =>
    intro q i
    cases q with
    | nil => simp [specSnpsFrom]
    | cons c cs =>
      obtain ⟨h1, h2⟩ := ih cs (i + 1)
      simp only [specSnpsFrom]
      split
      · refine ⟨?_, ?_⟩
        · simp only [List.map_cons, List.pairwise_cons]
          exact ⟨fun p hp => h2 p hp, h1⟩
        · intro p hp
          simp only [List.map_cons, List.mem_cons] at hp
          rcases hp with rfl | hp
          · omega
          · have := h2 p hp; omega
      · exact ⟨h1, fun p hp => by have := h2 p hp; omega⟩

/-- **C03.ascending** — the model lists positions in strictly ascending order -/
theorem ascending (hard : Bool) (ref q : List Nat) (hr : Accepted hard ref) (hq : Accepted hard q) :
    ((snpsRow hard ref q).map (·.1)).Pairwise (· < ·) := by
  rw [row hard ref q hr hq]; exact (spec_ascending hard ref q 0).1

theorem upper_lt (b : Nat) (hb : b < 256) : upper b < 256 := by
  have := Lemmas.upper_spec b
  omega

/-- **C03.case_insensitive** — upper-casing the input (reference and/or query) never changes a row. The two hypotheses
are not used: `enc` folds case for every number (`enc_upper`). -/
theorem case_insensitive (hard : Bool) (ref q : List Nat) (hr : ∀ b ∈ ref, b < 256) (hq : ∀ b ∈ q, b < 256) :
    snpsRow hard (ref.map upper) (q.map upper) = snpsRow hard ref q := by
  unfold snpsRow
  have _ := hr
  have _ := hq
  have h : ∀ (l : List Nat), (l.map upper).map (enc hard) = l.map (enc hard) := fun l => by
    rw [List.map_map]
    exact List.map_congr_left fun b _ => enc_upper hard b
  rw [h ref, h q]

/-- **C03.rows_in_input_order** — whatever order the workers deliver rows in, the writer emits
row 0, row 1, … (L-reorder instance for snps.writeOutput) -/
theorem rows_in_input_order (rows : Nat → String) (n : Nat) (arrival : List Nat)
    (h : arrival.Perm (List.range n)) :
    Reorder.run (arrival.map fun i => (i, rows i)) = (List.range n).map rows :=
  Reorder.run_perm rows n arrival h

/-- non-vacuity: a concrete alignment meets the hypotheses and has a non-trivial row -/
example : Accepted false [65, 67, 103, 84, 82] ∧ Accepted false [65, 84, 97, 45, 89] ∧
    snpsRow false [65, 67, 103, 84, 82] [65, 84, 97, 45, 89] = [(2, 67, 84), (3, 71, 65), (5, 82, 89)] := by
  decide +kernel

end Gofasta.Props.C03
