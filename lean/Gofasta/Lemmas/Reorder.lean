import Gofasta.Model.Pipeline
/-
The re-ordering writer: an index-keyed pending map with a running counter, fed the records 0..n-1 in ANY
permutation, emits exactly records 0,1,…,n-1 in order, each once (`run_perm`); started with its counter at k and fed
every record under its index + k it emits what the writer started at 0 does (`runFrom_shift`).
-/
-- the lemmas carry the namespace of the definitions they are about (`Reorder.run`, `Reorder.recv` of Model/Pipeline)
namespace Gofasta.Model.Reorder
variable {α : Type}

@[simp] theorem lookup_erase_self (k : Nat) (l : List (Nat × α)) : lookup k (erase k l) = none := by
  induction l with
  | nil => rfl
  | cons h t ih =>
    obtain ⟨k', v⟩ := h
    simp only [erase]
    split
    · exact ih
    · rename_i hne; simp [lookup, hne, ih]

theorem lookup_erase_ne {k j : Nat} (h : j ≠ k) (l : List (Nat × α)) : lookup j (erase k l) = lookup j l := by
  induction l with
  | nil => rfl
  | cons hd t ih =>
    obtain ⟨k', v⟩ := hd
    simp only [erase]
    split
    · rename_i heq; subst heq; simp [lookup, ih, Ne.symm h]
    · simp [lookup, ih]

theorem length_erase_le (k : Nat) (l : List (Nat × α)) : (erase k l).length ≤ l.length := by
  induction l with
  | nil => exact Nat.le_refl _
  | cons hd t ih =>
    obtain ⟨k', w⟩ := hd
    simp only [erase]
    split <;> simp <;> omega

theorem length_erase_lt {k : Nat} {v : α} (l : List (Nat × α)) (h : lookup k l = some v) :
    (erase k l).length < l.length := by
  induction l with
  | nil => simp [lookup] at h
  | cons hd t ih =>
    obtain ⟨k', w⟩ := hd
    simp only [erase]
    split
    next => have := length_erase_le k t; simp; omega
    next hne =>
      simp [lookup, hne] at h
      have := ih h
      simp; omega

/-- the state after the indices in `A` have arrived, each k with payload `f k` -/
structure Inv (f : Nat → α) (A : List Nat) (s : St α) : Prop where
  out_eq : s.out = (List.range s.counter).map f
  pend : ∀ k, lookup k s.pending = if k ∈ A ∧ s.counter ≤ k then some (f k) else none
  below : ∀ k, k < s.counter → k ∈ A

/-- the second conjunct says that `flush` ran to its end (nothing is pending at the counter); with it `run_perm` gets
    `counter = n`.  `s.pending.length ≤ fuel` is what the model's choice of fuel (the number of pending entries) meets. -/
theorem flush_inv (f : Nat → α) (A : List Nat) : ∀ (fuel : Nat) (s : St α), Inv f A s → s.pending.length ≤ fuel →
    Inv f A (flush fuel s) ∧ lookup (flush fuel s).counter (flush fuel s).pending = none := by
  intro fuel
  induction fuel with
  | zero =>
    intro s hs hl
    have : s.pending = [] := by cases h : s.pending <;> simp_all
    simp [flush, hs, this, lookup]
  | succ n ih =>
    intro s hs hl
    simp only [flush]
    split
    · rename_i v hv
      have hp := hs.pend s.counter
      rw [hv] at hp
      have hA : s.counter ∈ A := by
        by_cases h : s.counter ∈ A ∧ s.counter ≤ s.counter
        · exact h.1
        · simp at hp; exact hp.1
      have hvf : v = f s.counter := by
        have : s.counter ∈ A ∧ s.counter ≤ s.counter := ⟨hA, Nat.le_refl _⟩
        simp [this] at hp; exact hp
      apply ih
      · constructor
        · simp [hs.out_eq, List.range_succ, hvf]
        · intro k
          by_cases hk : k = s.counter
          · subst hk; simp
          · rw [lookup_erase_ne hk, hs.pend k]
            simp only
            have : (s.counter + 1 ≤ k) ↔ (s.counter ≤ k) := by omega
            simp [this]
        · intro k hk
          simp only at hk
          by_cases hk' : k = s.counter
          · subst hk'; exact hA
          · exact hs.below k (by omega)
      · have := length_erase_lt s.pending hv
        simp; omega
    · rename_i hnone
      exact ⟨hs, hnone⟩

theorem recv_inv (f : Nat → α) (A : List Nat) (s : St α) (i : Nat) (hs : Inv f A s) (hi : i ∉ A) :
    Inv f (i :: A) (recv s (i, f i)) ∧
      lookup (recv s (i, f i)).counter (recv s (i, f i)).pending = none := by
  unfold recv
  apply flush_inv f (i :: A)
  · constructor
    · exact hs.out_eq
    · intro k
      by_cases hk : k = i
      · subst hk
        by_cases hc : s.counter ≤ k
        · simp [lookup, hc]
        · -- an index below the counter has arrived already, and `k` has not
          exact absurd (hs.below k (by omega)) hi
      · have hne : i ≠ k := fun h => hk h.symm
        simp [lookup, hne, lookup_erase_ne hk, hs.pend k, hk]
    · intro k hk; exact List.mem_cons_of_mem _ (hs.below k hk)
  · exact Nat.le_refl _

/-- `arr.reverse ++ A`: each arrival is put in front of the arrived set (`recv_inv`) -/
theorem foldl_inv (f : Nat → α) : ∀ (arr : List Nat) (A : List Nat) (s : St α), Inv f A s →
    (arr ++ A).Nodup → lookup s.counter s.pending = none →
    let s' := (arr.map (fun i => (i, f i))).foldl recv s
    Inv f (arr.reverse ++ A) s' ∧ lookup s'.counter s'.pending = none := by
  intro arr
  induction arr with
  | nil => intro A s hs _ hn; simpa using ⟨hs, hn⟩
  | cons i t ih =>
    intro A s hs hnd hn
    have hnd' : (t ++ (i :: A)).Nodup := List.perm_middle.nodup_iff.2 hnd
    have hi : i ∉ A := fun h => (List.nodup_cons.1 hnd).1 (List.mem_append_right t h)
    obtain ⟨h1, h2⟩ := recv_inv f A s i hs hi
    have := ih (i :: A) (recv s (i, f i)) h1 hnd' h2
    simpa [List.reverse_cons, List.append_assoc] using this

theorem inv_empty (f : Nat → α) : Inv f [] (⟨[], 0, []⟩ : St α) :=
  ⟨rfl, fun _ => by simp [lookup], fun _ hk => nomatch hk⟩

theorem run_perm (f : Nat → α) (n : Nat) (arr : List Nat) (hp : arr.Perm (List.range n)) :
    run (arr.map (fun i => (i, f i))) = (List.range n).map f := by
  have hnd : (arr ++ []).Nodup := by simpa using (hp.nodup_iff.mpr List.nodup_range)
  obtain ⟨hI, hN⟩ := foldl_inv f arr [] ⟨[], 0, []⟩ (inv_empty f) hnd rfl
  simp only [List.append_nil] at hI
  unfold run runFrom
  generalize (List.foldl recv ⟨[], 0, []⟩ (arr.map fun i => (i, f i))) = s at hI hN
  have hmem : ∀ k, k ∈ arr.reverse ↔ k < n := by
    intro k; rw [List.mem_reverse, hp.mem_iff, List.mem_range]
  have hc : s.counter = n := by
    have h1 : ¬ (s.counter < n) := by
      intro h
      have := hI.pend s.counter
      rw [hN] at this
      have hh : s.counter ∈ arr.reverse ∧ s.counter ≤ s.counter := ⟨(hmem _).2 h, Nat.le_refl _⟩
      simp [hh] at this
    have h2 : s.counter ≤ n := by
      cases hcz : s.counter with
      | zero => omega
      | succ m =>
        have := (hmem m).1 (hI.below m (by omega)); omega
    omega
  rw [hI.out_eq, hc]

theorem flush_out_prefix : ∀ (fuel : Nat) (s : St α), ∃ l, (flush fuel s).out = s.out ++ l
  | 0, s => ⟨[], (List.append_nil _).symm⟩
  | n + 1, s => by
    simp only [flush]
    split
    · rename_i v _
      obtain ⟨l, hl⟩ := flush_out_prefix n ⟨erase s.counter s.pending, s.counter + 1, s.out ++ [v]⟩
      exact ⟨v :: l, by rw [hl, List.append_assoc]; rfl⟩
    · exact ⟨[], (List.append_nil _).symm⟩

theorem recv_out_prefix (s : St α) (r : Nat × α) : ∃ l, (recv s r).out = s.out ++ l :=
  flush_out_prefix _ _

end Gofasta.Model.Reorder

-- `shiftIdx` and `runFrom_shift` keep the namespace of Lemmas/SchedWriters, whose writers they serve: their full names
-- are referred to from outside the Lean sources
namespace Gofasta.Lemmas.SchedCommands
open Gofasta.Model
variable {β : Type}

/-- the index the reader gives a record when it has already consumed k records itself -/
def shiftIdx (k : Nat) (r : Nat × β) : Nat × β := (r.1 + k, r.2)

def shiftSt (k : Nat) (s : Reorder.St β) : Reorder.St β :=
  ⟨s.pending.map (shiftIdx k), s.counter + k, s.out⟩

theorem lookup_shift (k c : Nat) (l : List (Nat × β)) :
    Reorder.lookup (c + k) (l.map (shiftIdx k)) = Reorder.lookup c l := by
  induction l with
  | nil => rfl
  | cons h t ih =>
    obtain ⟨i, v⟩ := h
    simp only [List.map_cons, shiftIdx, Reorder.lookup, Nat.add_right_cancel_iff, ih]

theorem erase_shift (k c : Nat) (l : List (Nat × β)) :
    Reorder.erase (c + k) (l.map (shiftIdx k)) = (Reorder.erase c l).map (shiftIdx k) := by
  induction l with
  | nil => rfl
  | cons h t ih =>
    obtain ⟨i, v⟩ := h
    simp only [List.map_cons, shiftIdx, Reorder.erase, Nat.add_right_cancel_iff, ih]
    split <;> rfl

theorem flush_shift (k : Nat) : ∀ (fuel : Nat) (s : Reorder.St β),
    Reorder.flush fuel (shiftSt k s) = shiftSt k (Reorder.flush fuel s)
  | 0, _ => rfl
  | n + 1, s => by
    simp only [Reorder.flush]
    rw [show Reorder.lookup (shiftSt k s).counter (shiftSt k s).pending = Reorder.lookup s.counter s.pending from
      lookup_shift k _ _]
    cases Reorder.lookup s.counter s.pending with
    | none => rfl
    | some v =>
      simp only [← flush_shift k n]
      congr 1
      simp only [shiftSt, erase_shift, Nat.add_right_comm]

theorem recv_shift (k : Nat) (s : Reorder.St β) (r : Nat × β) :
    Reorder.recv (shiftSt k s) (shiftIdx k r) = shiftSt k (Reorder.recv s r) := by
  simp only [Reorder.recv, ← flush_shift]
  congr 1
  · simp only [shiftSt, shiftIdx, erase_shift, List.length_cons, List.length_map]
  · simp only [shiftSt, shiftIdx, erase_shift, List.map_cons]

theorem foldl_recv_shift (k : Nat) : ∀ (recs : List (Nat × β)) (s : Reorder.St β),
    (recs.map (shiftIdx k)).foldl Reorder.recv (shiftSt k s) = shiftSt k (recs.foldl Reorder.recv s)
  | [], _ => rfl
  | r :: t, s => by simp only [List.map_cons, List.foldl_cons, recv_shift, foldl_recv_shift k t]

theorem runFrom_shift (k : Nat) (recs : List (Nat × β)) :
    Reorder.runFrom k (recs.map (shiftIdx k)) = Reorder.run recs := by
  have h0 : (⟨[], k, []⟩ : Reorder.St β) = shiftSt k ⟨[], 0, []⟩ := by simp only [shiftSt, List.map_nil, Nat.zero_add]
  unfold Reorder.run Reorder.runFrom
  rw [h0, foldl_recv_shift]
  rfl

end Gofasta.Lemmas.SchedCommands
