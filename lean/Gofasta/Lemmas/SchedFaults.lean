import Gofasta.Lemmas.SchedCommands
import Gofasta.Lemmas.SchedFaultWriter
/-
C19 ("a failed output write is never reported as success") at the level of the goroutines, for the commands: the failing
text writer `FW` of Lemmas/SchedFaultWriter in the pipelines of snps, updown list, variants (one worker pool) and sam
variants (two pools); (1), (2), (3) are the three statements of that module, each taken through the command's `FWJob`
(the writer with the command's W and text: `snpsF_cmd`, `udListF_cmd`, `varF_cmd`, `samVarF_cmd`) and `sound` / `chain_sound`.
(B), the header written at once, is in Lemmas/SchedFaultsAgg for `snps` (`snps_hdr_*`, `snps_header_fault_immediate`) and in
Lemmas/SchedFaultsChainHdr for `sam variants`; `updown list` and `variants` have none.
-/
set_option autoImplicit false

namespace Gofasta.Lemmas.SchedFaults
open Gofasta Gofasta.Model
open Gofasta.Lemmas.SchedCommands Gofasta.Lemmas.SchedRun

/-! ### `gofasta snps`, per-sequence output (snps.writeOutput): one write call per record -/

section snps
open Gofasta.Model.Sched Gofasta.Lemmas.Sched

def snpsChunks (y : String × List Snp) : List String := [snpsRender y]

def snpsFCfg (d : Dest) (hard : Bool) (ref : List Nat) (recs : List (String × List Nat)) (N capIn capOut : Nat)
    (rf : Option (Nat × RunErr)) :
    Cfg (String × List Nat) (String × List Snp) RunErr (FW (String × List Snp)) where
  items := encItems hard recs
  f := liftW (snpsWorker (ref.map (enc hard)))
  N := N
  capIn := capIn
  capOut := capOut
  readFail := rf
  absorb := FW.absorb d snpsChunks 0 .write
  finish := FW.finish .write
  init := FW.start d "query,SNPs\n" 0

theorem snpsF_isFW (d : Dest) (hard : Bool) (ref : List Nat) (recs : List (String × List Nat)) (N capIn capOut : Nat)
    (rf : Option (Nat × RunErr)) :
    IsFW (snpsFCfg d hard ref recs N capIn capOut rf) d snpsChunks "query,SNPs\n" 0 .write :=
  ⟨fun _ _ => rfl, fun _ => rfl, rfl⟩

def snpsLines (hard : Bool) (ref : List Nat) (recs : List (String × List Nat)) : List String :=
  recs.map fun r => snpsLine r.1 (snpsRow hard ref r.2)

theorem snpsOutput_eq_join (hard : Bool) (ref : List Nat) (recs : List (String × List Nat)) :
    snpsOutput hard ref recs = String.join ("query,SNPs\n" :: snpsLines hard ref recs) :=
  (String.join_cons ..).symm

theorem snps_callSeq (hard : Bool) (ref : List Nat) (recs : List (String × List Nat)) :
    callSeq "query,SNPs\n" snpsChunks (recs.map fun r => (r.1, snpsRow hard ref r.2)) =
      "query,SNPs\n" :: snpsLines hard ref recs :=
  callSeq_map_singleton _ snpsRender _ recs

/-- W = 1 + n: the header and n lines -/
theorem snpsF_cmd (d : Dest) (hard : Bool) (ref : List Nat) (recs : List (String × List Nat)) (N capIn capOut : Nat)
    (rf : Option (Nat × RunErr)) :
    FWJob (job (snpsFCfg d hard ref recs N capIn capOut rf)) d snpsChunks "query,SNPs\n" 0 (1 + recs.length)
      (snpsOutput hard ref recs) where
  toFWSpec := (snpsF_isFW d hard ref recs N capIn capOut rf).spec
  calls hys := by rw [nCalls_uniform snpsChunks 1 (fun _ => rfl), snps_results (map_liftW_ok.mp hys), List.length_map, Nat.one_mul]
  text hys := by
    rw [snps_results (map_liftW_ok.mp hys), List.map_map]
    simp only [snpsChunks, join_singleton]
    rfl

theorem snps_fault_reported (d : Dest) (hard : Bool) (ref : List Nat) (recs : List (String × List Nat))
    (N capIn capOut : Nat) (rf : Option (Nat × RunErr)) (hN : 1 ≤ N) (k : Nat)
    (hd : d = .failFrom k ∨ d = .failOnce k) (hk1 : 1 ≤ k) (hkW : k ≤ 1 + recs.length) {s : State _ _ _ _}
    (hr : Reach (snpsFCfg d hard ref recs N capIn capOut rf) s) : s.main ≠ .ret none :=
  (snpsF_cmd d hard ref recs N capIn capOut rf).reported (sound hr) hN k hd hk1 hkW

theorem snps_fault_maximal_run (d : Dest) (hard : Bool) (ref : List Nat) (recs : List (String × List Nat))
    (N capIn capOut : Nat) (rf : Option (Nat × RunErr)) (hN : 1 ≤ N) (k : Nat)
    (hd : d = .failFrom k ∨ d = .failOnce k) (hk1 : 1 ≤ k) (hkW : k ≤ 1 + recs.length) {s : State _ _ _ _}
    (hr : Reach (snpsFCfg d hard ref recs N capIn capOut rf) s)
    (hstuck : enabled (snpsFCfg d hard ref recs N capIn capOut rf) s = []) : ∃ e', s.main = .ret (some e') :=
  (obs s).returned_error (maximal_run_returned hN hr hstuck)
    (snps_fault_reported d hard ref recs N capIn capOut rf hN k hd hk1 hkW hr)

theorem snps_fault_beyond_run_harmless (d : Dest) (hard : Bool) (ref : List Nat) (recs : List (String × List Nat))
    (N capIn capOut : Nat) (rf : Option (Nat × RunErr)) (hN : 1 ≤ N) {s : State _ _ _ _}
    (hr : Reach (snpsFCfg d hard ref recs N capIn capOut rf) s) (hm : s.main = .ret none) :
    s.wst.sink.text = snpsOutput hard ref recs ∧ s.wst.sink.calls = 1 + recs.length ∧
      ∀ i, 1 ≤ i → i ≤ 1 + recs.length → d.fails i = false :=
  (snpsF_cmd d hard ref recs N capIn capOut rf).harmless (sound hr) hN hm

theorem snps_fault_beyond_run_maximal (d : Dest) (hard : Bool) (ref : List Nat) (recs : List (String × List Nat))
    (N capIn capOut : Nat) (hN : 1 ≤ N) (hw : ∀ r ∈ recs, r.2.length = ref.length)
    (hd : ∀ i, 1 ≤ i → i ≤ 1 + recs.length → d.fails i = false) {s : State _ _ _ _}
    (hr : Reach (snpsFCfg d hard ref recs N capIn capOut none) s)
    (hstuck : enabled (snpsFCfg d hard ref recs N capIn capOut none) s = []) :
    s.main = .ret none ∧ s.wst.sink.text = snpsOutput hard ref recs :=
  ((snpsF_cmd d hard ref recs N capIn capOut none).outcome (sound hr) hN rfl
    (liftW_outputs (snps_all_ok hard ref recs hw)) (maximal_run_returned hN hr hstuck)).1 hd

/-- **snps (3)**: the header and the first lines of `snpsOutput hard ref recs`, whole, in input order
(`snpsOutput_eq_join`) -/
theorem snps_written_is_prefix (d : Dest) (hard : Bool) (ref : List Nat) (recs : List (String × List Nat))
    (N capIn capOut : Nat) (rf : Option (Nat × RunErr)) (hw : ∀ r ∈ recs, r.2.length = ref.length) {s : State _ _ _ _}
    (hr : Reach (snpsFCfg d hard ref recs N capIn capOut rf) s) :
    ∃ j, accepted d snpsChunks "query,SNPs\n" 0 s =
      String.join (("query,SNPs\n" :: snpsLines hard ref recs).take j) := by
  obtain ⟨ys, hys⟩ := liftW_outputs (snps_all_ok hard ref recs hw)
  obtain ⟨j, hj⟩ := (sound hr).written_is_prefix_ok d snpsChunks "query,SNPs\n" 0 hys
  exact ⟨j, snps_callSeq hard ref recs ▸ snps_results (map_liftW_ok.mp hys) ▸ hj⟩

theorem snps_fault_maximal_run_write_error (d : Dest) (hard : Bool) (ref : List Nat) (recs : List (String × List Nat))
    (N capIn capOut : Nat) (hN : 1 ≤ N) (hw : ∀ r ∈ recs, r.2.length = ref.length) (k : Nat)
    (hd : d = .failFrom k ∨ d = .failOnce k) (hk1 : 1 ≤ k) (hkW : k ≤ 1 + recs.length) {s : State _ _ _ _}
    (hr : Reach (snpsFCfg d hard ref recs N capIn capOut none) s)
    (hstuck : enabled (snpsFCfg d hard ref recs N capIn capOut none) s = []) : s.main = .ret (some .write) :=
  ((snpsF_cmd d hard ref recs N capIn capOut none).outcome (sound hr) hN rfl
    (liftW_outputs (snps_all_ok hard ref recs hw)) (maximal_run_returned hN hr hstuck)).2 k hd hk1 hkW

end snps

/-! ### `gofasta updown list`: one write call per record -/

section updownList
open Gofasta.Model.Sched Gofasta.Lemmas.Sched

def udChunks (y : UDLine) : List String := [udRow y]

def udListFCfg (d : Dest) (ref : List Nat) (recs : List (String × List Nat)) (N capIn capOut : Nat)
    (rf : Option (Nat × RunErr)) : Cfg (String × List Nat) UDLine RunErr (FW UDLine) where
  items := encItems false recs
  f := liftW (udWorker (ref.map (enc false)))
  N := N
  capIn := capIn
  capOut := capOut
  readFail := rf
  absorb := FW.absorb d udChunks 0 .write
  finish := FW.finish .write
  init := FW.start d udHeaderText 0

def udLines (ref : List Nat) (recs : List (String × List Nat)) : List String :=
  recs.map fun r => udRow (getLine r.1 (ref.map (enc false)) (r.2.map (enc false)))

theorem udListOutput_eq_join (ref : List Nat) (recs : List (String × List Nat)) :
    udListOutput ref recs = String.join (udHeaderText :: udLines ref recs) :=
  (String.join_cons ..).symm

theorem udListF_cmd (d : Dest) (ref : List Nat) (recs : List (String × List Nat)) (N capIn capOut : Nat)
    (rf : Option (Nat × RunErr)) :
    FWJob (job (udListFCfg d ref recs N capIn capOut rf)) d udChunks udHeaderText 0 (1 + recs.length)
      (udListOutput ref recs) where
  toFWSpec := ⟨fun _ _ => rfl, fun _ => rfl, rfl⟩
  calls hys := by rw [nCalls_uniform udChunks 1 (fun _ => rfl), ud_results (map_liftW_ok.mp hys), List.length_map, Nat.one_mul]
  text hys := by
    rw [ud_results (map_liftW_ok.mp hys), List.map_map]
    simp only [udChunks, join_singleton]
    rfl

theorem updown_list_fault_reported (d : Dest) (ref : List Nat) (recs : List (String × List Nat))
    (N capIn capOut : Nat) (rf : Option (Nat × RunErr)) (hN : 1 ≤ N) (k : Nat)
    (hd : d = .failFrom k ∨ d = .failOnce k) (hk1 : 1 ≤ k) (hkW : k ≤ 1 + recs.length) {s : State _ _ _ _}
    (hr : Reach (udListFCfg d ref recs N capIn capOut rf) s) : s.main ≠ .ret none :=
  (udListF_cmd d ref recs N capIn capOut rf).reported (sound hr) hN k hd hk1 hkW

theorem updown_list_fault_maximal_run (d : Dest) (ref : List Nat) (recs : List (String × List Nat))
    (N capIn capOut : Nat) (rf : Option (Nat × RunErr)) (hN : 1 ≤ N) (k : Nat)
    (hd : d = .failFrom k ∨ d = .failOnce k) (hk1 : 1 ≤ k) (hkW : k ≤ 1 + recs.length) {s : State _ _ _ _}
    (hr : Reach (udListFCfg d ref recs N capIn capOut rf) s)
    (hstuck : enabled (udListFCfg d ref recs N capIn capOut rf) s = []) : ∃ e', s.main = .ret (some e') :=
  (obs s).returned_error (maximal_run_returned hN hr hstuck)
    (updown_list_fault_reported d ref recs N capIn capOut rf hN k hd hk1 hkW hr)

theorem updown_list_fault_beyond_run_harmless (d : Dest) (ref : List Nat) (recs : List (String × List Nat))
    (N capIn capOut : Nat) (rf : Option (Nat × RunErr)) (hN : 1 ≤ N) {s : State _ _ _ _}
    (hr : Reach (udListFCfg d ref recs N capIn capOut rf) s) (hm : s.main = .ret none) :
    s.wst.sink.text = udListOutput ref recs ∧ s.wst.sink.calls = 1 + recs.length ∧
      ∀ i, 1 ≤ i → i ≤ 1 + recs.length → d.fails i = false :=
  (udListF_cmd d ref recs N capIn capOut rf).harmless (sound hr) hN hm

theorem updown_list_fault_beyond_run_maximal (d : Dest) (ref : List Nat) (recs : List (String × List Nat))
    (N capIn capOut : Nat) (hN : 1 ≤ N) (hw : ∀ r ∈ recs, r.2.length = ref.length)
    (hd : ∀ i, 1 ≤ i → i ≤ 1 + recs.length → d.fails i = false) {s : State _ _ _ _}
    (hr : Reach (udListFCfg d ref recs N capIn capOut none) s)
    (hstuck : enabled (udListFCfg d ref recs N capIn capOut none) s = []) :
    s.main = .ret none ∧ s.wst.sink.text = udListOutput ref recs :=
  ((udListF_cmd d ref recs N capIn capOut none).outcome (sound hr) hN rfl
    (liftW_outputs (ud_all_ok ref recs hw)) (maximal_run_returned hN hr hstuck)).1 hd

theorem updown_list_written_is_prefix (d : Dest) (ref : List Nat) (recs : List (String × List Nat))
    (N capIn capOut : Nat) (rf : Option (Nat × RunErr)) (hw : ∀ r ∈ recs, r.2.length = ref.length) {s : State _ _ _ _}
    (hr : Reach (udListFCfg d ref recs N capIn capOut rf) s) :
    ∃ j, accepted d udChunks udHeaderText 0 s = String.join ((udHeaderText :: udLines ref recs).take j) := by
  obtain ⟨ys, hys⟩ := liftW_outputs (ud_all_ok ref recs hw)
  obtain ⟨j, hj⟩ := (sound hr).written_is_prefix_ok d udChunks udHeaderText 0 hys
  have hcs : callSeq udHeaderText udChunks (recs.map fun r => getLine r.1 (ref.map (enc false)) (r.2.map (enc false))) =
      udHeaderText :: udLines ref recs := callSeq_map_singleton _ udRow _ recs
  exact ⟨j, hcs ▸ ud_results (map_liftW_ok.mp hys) ▸ hj⟩

theorem updown_list_fault_maximal_run_write_error (d : Dest) (ref : List Nat) (recs : List (String × List Nat))
    (N capIn capOut : Nat) (hN : 1 ≤ N) (hw : ∀ r ∈ recs, r.2.length = ref.length) (k : Nat)
    (hd : d = .failFrom k ∨ d = .failOnce k) (hk1 : 1 ≤ k) (hkW : k ≤ 1 + recs.length) {s : State _ _ _ _}
    (hr : Reach (udListFCfg d ref recs N capIn capOut none) s)
    (hstuck : enabled (udListFCfg d ref recs N capIn capOut none) s = []) : s.main = .ret (some .write) :=
  ((udListF_cmd d ref recs N capIn capOut none).outcome (sound hr) hN rfl
    (liftW_outputs (ud_all_ok ref recs hw)) (maximal_run_returned hN hr hstuck)).2 k hd hk1 hkW

end updownList

/-! ### `gofasta variants`, per-sequence output: two write calls per record -/

section variants
open Gofasta.Model.Sched Gofasta.Lemmas.Sched Gofasta.Driver Gofasta.Lemmas.SamVarPipeline

/-- variants.WriteVariants: `name,` then `mutations\n`; nothing for the record named like the reference -/
def varChunks (vi : VarIn) (refID : String) (y : String × List Variant) : List String :=
  if y.1 != refID then
    [y.1 ++ ",", joinWith "|" ((y.2.filter (inWindow vi.start vi.stop)).map (formatVariant vi.append)) ++ "\n"]
  else []

theorem join_varChunks (vi : VarIn) (refID : String) (y : String × List Variant) :
    String.join (varChunks vi refID y) = varRender vi refID y := by
  unfold varChunks varRender
  split
  · rw [String.join_cons, join_singleton, variantsLine]
    simp only [String.append_assoc]
  · rfl

theorem varChunks_count (vi : VarIn) (refID : String) (ys : List (String × List Variant)) :
    (ys.flatMap (varChunks vi refID)).length = 2 * (ys.filter fun y => y.1 != refID).length := by
  induction ys with
  | nil => rfl
  | cons y t ih =>
    rw [List.flatMap_cons, List.length_append, ih, List.filter_cons, varChunks]
    split
    · rw [List.length_cons (as := List.filter _ t), Nat.mul_succ, Nat.add_comm]; rfl
    · rw [List.length_nil, Nat.zero_add]

def varFCfg (d : Dest) (vi : VarIn) (pairFn : List Nat → List Nat → List Region → List Nat → List Variant)
    (refRow : List Nat) (rows : List (String × List Nat)) (refID : String) (regions : List Region) (inter : List Nat)
    (first N capIn capOut : Nat) (rf : Option (Nat × RunErr)) :
    Cfg (String × List Nat) (String × List Variant) RunErr (FW (String × List Variant)) where
  items := rows
  f := liftW (varWorker pairFn refRow regions inter)
  N := N
  capIn := capIn
  capOut := capOut
  readFail := rf
  absorb := FW.absorb d (varChunks vi refID) first .write
  finish := FW.finish .write
  init := FW.start d "query,mutations\n" first

/-- W for variants: the header and two calls for every row not named like the reference -/
def varW (refID : String) (rows : List (String × List Nat)) : Nat :=
  1 + 2 * (rows.filter fun r => r.1 != refID).length

theorem varF_nCalls (vi : VarIn) (pairFn : List Nat → List Nat → List Region → List Nat → List Variant)
    (refRow : List Nat) (rows : List (String × List Nat)) (refID : String) (regions : List Region) (inter : List Nat) :
    nCalls (varChunks vi refID) (rows.map fun r => (r.1, pairFn refRow r.2 regions inter)) = varW refID rows := by
  rw [nCalls, varChunks_count, varW, List.filter_map, List.length_map]
  rfl

section
variable {d : Dest} {vi : VarIn} {pairFn : List Nat → List Nat → List Region → List Nat → List Variant}
  {refRow : List Nat} {rows : List (String × List Nat)} {refID : String} {regions : List Region} {inter : List Nat}
  {first N capIn capOut : Nat} {rf : Option (Nat × RunErr)}

theorem varF_results {ys : List (String × List Variant)}
    (hys : rows.map (liftW (varWorker pairFn refRow regions inter)) = ys.map Except.ok) :
    ys = (rows.map fun r => (r.1, pairFn refRow r.2 regions inter)) ∧ ∀ r ∈ rows, r.2.length = refRow.length :=
  (varWorker_widthChecked pairFn refRow regions inter).results (map_liftW_ok.mp hys)

theorem varF_all_ok (hw : ∀ r ∈ rows, r.2.length = refRow.length) :
    ∃ ys : List (String × List Variant),
      rows.map (liftW (varWorker pairFn refRow regions inter)) = ys.map Except.ok :=
  liftW_outputs ((varWorker_widthChecked pairFn refRow regions inter).all_ok hw)

theorem var_text_eq (hra : refAndRows vi = some (refRow, rows, refID))
    (hregs : varRegions vi refRow = some (regions, inter)) (hagg : vi.agg = false)
    (hw : ∀ r ∈ rows, r.2.length = refRow.length) :
    "query,mutations\n" ++ String.join ((rows.map fun r => (r.1, pairFn refRow r.2 regions inter)).map
      fun y => String.join (varChunks vi refID y)) = varCommand vi pairFn := by
  rw [varCommand_of_widths hra hregs hw, hagg, if_neg Bool.false_ne_true, variantsOutput_eq_render]
  simp only [join_varChunks]

/-- W = `varW refID rows`, with no hypothesis on the input; the text as the chunks of the rows -/
theorem varF_cmd_chunks :
    FWJob (job (varFCfg d vi pairFn refRow rows refID regions inter first N capIn capOut rf)) d (varChunks vi refID)
      "query,mutations\n" first (varW refID rows)
      ("query,mutations\n" ++ String.join ((rows.map fun r => (r.1, pairFn refRow r.2 regions inter)).map
        fun y => String.join (varChunks vi refID y))) where
  toFWSpec := ⟨fun _ _ => rfl, fun _ => rfl, rfl⟩
  calls hys := by rw [(varF_results (rows := rows) hys).1, varF_nCalls]
  text hys := by rw [(varF_results (rows := rows) hys).1]

/-- `varF_cmd_chunks` with the text as `varCommand vi pairFn`: for that the input has to be the command's -/
theorem varF_cmd (hra : refAndRows vi = some (refRow, rows, refID))
    (hregs : varRegions vi refRow = some (regions, inter)) (hagg : vi.agg = false) :
    FWJob (job (varFCfg d vi pairFn refRow rows refID regions inter first N capIn capOut rf)) d (varChunks vi refID)
      "query,mutations\n" first (varW refID rows) (varCommand vi pairFn) :=
  { varF_cmd_chunks with
    text := fun hys => (varF_cmd_chunks.text hys).trans (var_text_eq hra hregs hagg (varF_results (rows := rows) hys).2) }

end

theorem variants_fault_reported (d : Dest) (vi : VarIn)
    (pairFn : List Nat → List Nat → List Region → List Nat → List Variant)
    (refRow : List Nat) (rows : List (String × List Nat)) (refID : String) (regions : List Region) (inter : List Nat)
    (first N capIn capOut : Nat) (rf : Option (Nat × RunErr)) (hN : 1 ≤ N) (k : Nat)
    (hd : d = .failFrom k ∨ d = .failOnce k) (hk1 : 1 ≤ k) (hkW : k ≤ varW refID rows) {s : State _ _ _ _}
    (hr : Reach (varFCfg d vi pairFn refRow rows refID regions inter first N capIn capOut rf) s) :
    s.main ≠ .ret none :=
  varF_cmd_chunks.reported (sound hr) hN k hd hk1 hkW

theorem variants_fault_maximal_run (d : Dest) (vi : VarIn)
    (pairFn : List Nat → List Nat → List Region → List Nat → List Variant)
    (refRow : List Nat) (rows : List (String × List Nat)) (refID : String) (regions : List Region) (inter : List Nat)
    (first N capIn capOut : Nat) (rf : Option (Nat × RunErr)) (hN : 1 ≤ N) (k : Nat)
    (hd : d = .failFrom k ∨ d = .failOnce k) (hk1 : 1 ≤ k) (hkW : k ≤ varW refID rows) {s : State _ _ _ _}
    (hr : Reach (varFCfg d vi pairFn refRow rows refID regions inter first N capIn capOut rf) s)
    (hstuck : enabled (varFCfg d vi pairFn refRow rows refID regions inter first N capIn capOut rf) s = []) :
    ∃ e', s.main = .ret (some e') :=
  (obs s).returned_error (maximal_run_returned hN hr hstuck)
    (variants_fault_reported d vi pairFn refRow rows refID regions inter first N capIn capOut rf hN k hd hk1 hkW hr)

theorem variants_fault_beyond_run_harmless (d : Dest) (vi : VarIn)
    (pairFn : List Nat → List Nat → List Region → List Nat → List Variant)
    (refRow : List Nat) (rows : List (String × List Nat)) (refID : String) (regions : List Region) (inter : List Nat)
    (hra : refAndRows vi = some (refRow, rows, refID)) (hregs : varRegions vi refRow = some (regions, inter))
    (hagg : vi.agg = false) (first N capIn capOut : Nat) (rf : Option (Nat × RunErr)) (hN : 1 ≤ N)
    {s : State _ _ _ _}
    (hr : Reach (varFCfg d vi pairFn refRow rows refID regions inter first N capIn capOut rf) s)
    (hm : s.main = .ret none) :
    s.wst.sink.text = varCommand vi pairFn ∧ s.wst.sink.calls = varW refID rows ∧
      ∀ i, 1 ≤ i → i ≤ varW refID rows → d.fails i = false :=
  (varF_cmd hra hregs hagg).harmless (sound hr) hN hm

theorem variants_fault_beyond_run_maximal (d : Dest) (vi : VarIn)
    (pairFn : List Nat → List Nat → List Region → List Nat → List Variant)
    (refRow : List Nat) (rows : List (String × List Nat)) (refID : String) (regions : List Region) (inter : List Nat)
    (hra : refAndRows vi = some (refRow, rows, refID)) (hregs : varRegions vi refRow = some (regions, inter))
    (hagg : vi.agg = false) (first N capIn capOut : Nat) (hN : 1 ≤ N)
    (hw : ∀ r ∈ rows, r.2.length = refRow.length)
    (hd : ∀ i, 1 ≤ i → i ≤ varW refID rows → d.fails i = false) {s : State _ _ _ _}
    (hr : Reach (varFCfg d vi pairFn refRow rows refID regions inter first N capIn capOut none) s)
    (hstuck : enabled (varFCfg d vi pairFn refRow rows refID regions inter first N capIn capOut none) s = []) :
    s.main = .ret none ∧ s.wst.sink.text = varCommand vi pairFn :=
  ((varF_cmd hra hregs hagg).outcome (sound hr) hN rfl (varF_all_ok hw) (maximal_run_returned hN hr hstuck)).1 hd

/-- **variants (3)**: the cut is at a call boundary: whole rows in input order, possibly followed by the name and comma
of the next one -/
theorem variants_written_is_prefix (d : Dest) (vi : VarIn)
    (pairFn : List Nat → List Nat → List Region → List Nat → List Variant)
    (refRow : List Nat) (rows : List (String × List Nat)) (refID : String) (regions : List Region) (inter : List Nat)
    (hra : refAndRows vi = some (refRow, rows, refID)) (hregs : varRegions vi refRow = some (regions, inter))
    (hagg : vi.agg = false) (first N capIn capOut : Nat) (rf : Option (Nat × RunErr))
    (hw : ∀ r ∈ rows, r.2.length = refRow.length) {s : State _ _ _ _}
    (hr : Reach (varFCfg d vi pairFn refRow rows refID regions inter first N capIn capOut rf) s) :
    ∃ j, accepted d (varChunks vi refID) "query,mutations\n" first s =
        String.join ((callSeq "query,mutations\n" (varChunks vi refID)
          (rows.map fun r => (r.1, pairFn refRow r.2 regions inter))).take j) ∧
      String.join (callSeq "query,mutations\n" (varChunks vi refID)
          (rows.map fun r => (r.1, pairFn refRow r.2 regions inter))) = varCommand vi pairFn := by
  obtain ⟨ys, hys⟩ := varF_all_ok (pairFn := pairFn) (regions := regions) (inter := inter) hw
  obtain ⟨j, hj⟩ := (sound hr).written_is_prefix_ok d (varChunks vi refID) "query,mutations\n" first hys
  exact ⟨j, (varF_results hys).1 ▸ hj, (join_callSeq ..).trans (var_text_eq hra hregs hagg hw)⟩

theorem variants_fault_maximal_run_write_error (d : Dest) (vi : VarIn)
    (pairFn : List Nat → List Nat → List Region → List Nat → List Variant)
    (refRow : List Nat) (rows : List (String × List Nat)) (refID : String) (regions : List Region) (inter : List Nat)
    (first N capIn capOut : Nat) (hN : 1 ≤ N) (hw : ∀ r ∈ rows, r.2.length = refRow.length) (k : Nat)
    (hd : d = .failFrom k ∨ d = .failOnce k) (hk1 : 1 ≤ k) (hkW : k ≤ varW refID rows) {s : State _ _ _ _}
    (hr : Reach (varFCfg d vi pairFn refRow rows refID regions inter first N capIn capOut none) s)
    (hstuck : enabled (varFCfg d vi pairFn refRow rows refID regions inter first N capIn capOut none) s = []) :
    s.main = .ret (some .write) :=
  (varF_cmd_chunks.outcome (sound hr) hN rfl (varF_all_ok hw) (maximal_run_returned hN hr hstuck)).2 k hd hk1 hkW

end variants

/-! ### `gofasta sam variants`: two worker pools, the writer of `variants` -/

section samVariants
open Gofasta.Model.SchedChain Gofasta.Lemmas.SchedChain Gofasta.Driver Gofasta.Lemmas.SamVarPipeline Gofasta.Base

def svChunks (vi : VarIn) (refID : String) : SV → List String
  | .vars n vs => varChunks vi refID (n, vs)
  | _ => []

theorem join_svChunks (vi : VarIn) (refID : String) : ∀ y : SV, String.join (svChunks vi refID y) = svRender vi refID y
  | .vars n vs => join_varChunks vi refID (n, vs)
  | .block _ => rfl
  | .pair _ _ => rfl

def samVarFCfg (d : Dest) (vi : VarIn) (refID : String) (refRaw : List Nat) (blocks : List (List SamRec))
    (pairOf : List SamRec → List Nat → List Nat × List Nat)
    (caller : List Nat → List Nat → List Region → List Nat → List Variant)
    (regions : List Region) (inter : List Nat) (N1 N2 cap0 cap1 cap2 : Nat) (rf : Option (Nat × RunErr)) :
    Cfg SV RunErr (FW SV) where
  items := blocks.map .block
  pools := [⟨N1, liftW (svPair pairOf (refRaw.map upper)), cap1⟩, ⟨N2, liftW (svCall caller regions inter), cap2⟩]
  cap0 := cap0
  readFail := rf
  absorb := FW.absorb d (svChunks vi refID) 0 .write
  finish := FW.finish .write
  init := FW.start d "query,mutations\n" 0

theorem samVarF_isFW (d : Dest) (vi : VarIn) (refID : String) (refRaw : List Nat) (blocks : List (List SamRec))
    (pairOf : List SamRec → List Nat → List Nat × List Nat)
    (caller : List Nat → List Nat → List Region → List Nat → List Variant)
    (regions : List Region) (inter : List Nat) (N1 N2 cap0 cap1 cap2 : Nat) (rf : Option (Nat × RunErr)) :
    IsFWc (samVarFCfg d vi refID refRaw blocks pairOf caller regions inter N1 N2 cap0 cap1 cap2 rf) d
      (svChunks vi refID) "query,mutations\n" 0 .write :=
  ⟨fun _ _ => rfl, fun _ => rfl, rfl⟩

/-- what the two pools make of the blocks (the items and pools of `samVarFCfg` and of `samVarAggFCfg`) -/
theorem svF_items_pass {refRaw : List Nat} {blocks : List (List SamRec)}
    {pairOf : List SamRec → List Nat → List Nat × List Nat}
    {caller : List Nat → List Nat → List Region → List Nat → List Variant}
    {regions : List Region} {inter : List Nat} {N1 N2 cap1 cap2 : Nat} :
    (blocks.map SV.block).map (pass [⟨N1, liftW (svPair pairOf (refRaw.map upper)), cap1⟩,
      ⟨N2, liftW (svCall caller regions inter), cap2⟩]) =
    (blocks.map (svBoth refRaw pairOf caller regions inter)).map Except.ok := by
  rw [List.map_map, List.map_map]
  rfl

/-- W for sam variants: the header and two calls for every query not named like the reference -/
def samVarW (refID : String) (blocks : List (List SamRec)) : Nat :=
  1 + 2 * (blocks.filter fun b => qnameOf b != refID).length

theorem samVarF_nCalls (vi : VarIn) (refID : String) (refRaw : List Nat) (blocks : List (List SamRec))
    (pairOf : List SamRec → List Nat → List Nat × List Nat)
    (caller : List Nat → List Nat → List Region → List Nat → List Variant)
    (regions : List Region) (inter : List Nat) :
    nCalls (svChunks vi refID) (blocks.map (svBoth refRaw pairOf caller regions inter)) = samVarW refID blocks := by
  have : (blocks.map (svBoth refRaw pairOf caller regions inter)).flatMap (svChunks vi refID) =
      (blocks.map fun b => (qnameOf b,
        caller (pairOf b (refRaw.map upper)).1 (pairOf b (refRaw.map upper)).2 regions inter)).flatMap
        (varChunks vi refID) := by
    rw [List.flatMap_map, List.flatMap_map]
    rfl
  rw [nCalls, this, varChunks_count, samVarW, List.filter_map, List.length_map]
  rfl

theorem samVarF_results {refRaw : List Nat} {blocks : List (List SamRec)}
    {pairOf : List SamRec → List Nat → List Nat × List Nat}
    {caller : List Nat → List Nat → List Region → List Nat → List Variant}
    {regions : List Region} {inter : List Nat} {N1 N2 cap1 cap2 : Nat} {ys : List SV}
    (hys : (blocks.map SV.block).map (pass [⟨N1, liftW (svPair pairOf (refRaw.map upper)), cap1⟩,
      ⟨N2, liftW (svCall caller regions inter), cap2⟩]) = ys.map Except.ok) :
    ys = blocks.map (svBoth refRaw pairOf caller regions inter) :=
  map_ok_inj (hys.symm.trans svF_items_pass)

theorem samVarF_cmd (d : Dest) (vi : VarIn) (refID : String) (refRaw : List Nat) (blocks : List (List SamRec))
    (pairOf : List SamRec → List Nat → List Nat × List Nat)
    (caller : List Nat → List Nat → List Region → List Nat → List Variant)
    (regions : List Region) (inter : List Nat) (N1 N2 cap0 cap1 cap2 : Nat) (rf : Option (Nat × RunErr)) :
    FWJob (chainJob (samVarFCfg d vi refID refRaw blocks pairOf caller regions inter N1 N2 cap0 cap1 cap2 rf)) d
      (svChunks vi refID) "query,mutations\n" 0 (samVarW refID blocks)
      ("query,mutations\n" ++ String.join ((blocks.map (svBoth refRaw pairOf caller regions inter)).map
        fun y => String.join (svChunks vi refID y))) where
  toFWSpec := (samVarF_isFW d vi refID refRaw blocks pairOf caller regions inter N1 N2 cap0 cap1 cap2 rf).spec
  calls hys := by rw [samVarF_results hys, samVarF_nCalls]
  text hys := by rw [samVarF_results hys]

theorem sam_variants_fault_reported (d : Dest) (vi : VarIn) (refID : String) (refRaw : List Nat)
    (blocks : List (List SamRec)) (pairOf : List SamRec → List Nat → List Nat × List Nat)
    (caller : List Nat → List Nat → List Region → List Nat → List Variant)
    (regions : List Region) (inter : List Nat) (N1 N2 cap0 cap1 cap2 : Nat) (rf : Option (Nat × RunErr))
    (hN1 : 1 ≤ N1) (hN2 : 1 ≤ N2) (k : Nat) (hd : d = .failFrom k ∨ d = .failOnce k) (hk1 : 1 ≤ k)
    (hkW : k ≤ samVarW refID blocks) {s : State _ _ _}
    (hr : Reach (samVarFCfg d vi refID refRaw blocks pairOf caller regions inter N1 N2 cap0 cap1 cap2 rf) s) :
    s.main ≠ .ret none :=
  (samVarF_cmd ..).reported (chain_sound hr) (two_pools_pos hN1 hN2) k hd hk1 hkW

theorem sam_variants_fault_maximal_run (d : Dest) (vi : VarIn) (refID : String) (refRaw : List Nat)
    (blocks : List (List SamRec)) (pairOf : List SamRec → List Nat → List Nat × List Nat)
    (caller : List Nat → List Nat → List Region → List Nat → List Variant)
    (regions : List Region) (inter : List Nat) (N1 N2 cap0 cap1 cap2 : Nat) (rf : Option (Nat × RunErr))
    (hN1 : 1 ≤ N1) (hN2 : 1 ≤ N2) (k : Nat) (hd : d = .failFrom k ∨ d = .failOnce k) (hk1 : 1 ≤ k)
    (hkW : k ≤ samVarW refID blocks) {s : State _ _ _}
    (hr : Reach (samVarFCfg d vi refID refRaw blocks pairOf caller regions inter N1 N2 cap0 cap1 cap2 rf) s)
    (hstuck : enabled (samVarFCfg d vi refID refRaw blocks pairOf caller regions inter N1 N2 cap0 cap1 cap2 rf) s = []) :
    ∃ e', s.main = .ret (some e') :=
  (chainObs s).returned_error (chain_maximal_run_returned (two_pools_pos hN1 hN2) hr hstuck)
    (sam_variants_fault_reported d vi refID refRaw blocks pairOf caller regions inter N1 N2 cap0 cap1 cap2 rf hN1 hN2
      k hd hk1 hkW hr)

theorem samVar_text_eq (vi : VarIn) (refID : String) (refRaw : List Nat) (blocks : List (List SamRec))
    (pairOf : List SamRec → List Nat → List Nat × List Nat)
    (caller : List Nat → List Nat → List Region → List Nat → List Variant)
    (regions : List Region) (inter : List Nat) (hregs : samRegions vi refRaw = some (regions, inter))
    (hagg : vi.agg = false) :
    "query,mutations\n" ++ String.join ((blocks.map (svBoth refRaw pairOf caller regions inter)).map
      fun y => String.join (svChunks vi refID y)) = samVarOn vi refID refRaw blocks pairOf caller := by
  simp only [join_svChunks]
  exact (samVarOn_eq_render refID blocks pairOf caller hregs hagg).symm

theorem sam_variants_fault_beyond_run_harmless (d : Dest) (vi : VarIn) (refID : String) (refRaw : List Nat)
    (blocks : List (List SamRec)) (pairOf : List SamRec → List Nat → List Nat × List Nat)
    (caller : List Nat → List Nat → List Region → List Nat → List Variant)
    (regions : List Region) (inter : List Nat) (hregs : samRegions vi refRaw = some (regions, inter))
    (hagg : vi.agg = false) (N1 N2 cap0 cap1 cap2 : Nat) (rf : Option (Nat × RunErr))
    (hN1 : 1 ≤ N1) (hN2 : 1 ≤ N2) {s : State _ _ _}
    (hr : Reach (samVarFCfg d vi refID refRaw blocks pairOf caller regions inter N1 N2 cap0 cap1 cap2 rf) s)
    (hm : s.main = .ret none) :
    s.wst.sink.text = samVarOn vi refID refRaw blocks pairOf caller ∧ s.wst.sink.calls = samVarW refID blocks ∧
      ∀ i, 1 ≤ i → i ≤ samVarW refID blocks → d.fails i = false :=
  have h := (samVarF_cmd ..).harmless (chain_sound hr) (two_pools_pos hN1 hN2) hm
  ⟨h.1.trans (samVar_text_eq vi refID refRaw blocks pairOf caller regions inter hregs hagg), h.2⟩

theorem sam_variants_fault_beyond_run_maximal (d : Dest) (vi : VarIn) (refID : String) (refRaw : List Nat)
    (blocks : List (List SamRec)) (pairOf : List SamRec → List Nat → List Nat × List Nat)
    (caller : List Nat → List Nat → List Region → List Nat → List Variant)
    (regions : List Region) (inter : List Nat) (hregs : samRegions vi refRaw = some (regions, inter))
    (hagg : vi.agg = false) (N1 N2 cap0 cap1 cap2 : Nat) (hN1 : 1 ≤ N1) (hN2 : 1 ≤ N2)
    (hd : ∀ i, 1 ≤ i → i ≤ samVarW refID blocks → d.fails i = false) {s : State _ _ _}
    (hr : Reach (samVarFCfg d vi refID refRaw blocks pairOf caller regions inter N1 N2 cap0 cap1 cap2 none) s)
    (hstuck : enabled (samVarFCfg d vi refID refRaw blocks pairOf caller regions inter N1 N2 cap0 cap1 cap2 none) s = []) :
    s.main = .ret none ∧ s.wst.sink.text = samVarOn vi refID refRaw blocks pairOf caller :=
  samVar_text_eq vi refID refRaw blocks pairOf caller regions inter hregs hagg ▸
    ((samVarF_cmd ..).outcome (chain_sound hr) (two_pools_pos hN1 hN2) rfl
      ⟨_, svF_items_pass⟩
      (chain_maximal_run_returned (two_pools_pos hN1 hN2) hr hstuck)).1 hd

theorem sam_variants_written_is_prefix (d : Dest) (vi : VarIn) (refID : String) (refRaw : List Nat)
    (blocks : List (List SamRec)) (pairOf : List SamRec → List Nat → List Nat × List Nat)
    (caller : List Nat → List Nat → List Region → List Nat → List Variant)
    (regions : List Region) (inter : List Nat) (hregs : samRegions vi refRaw = some (regions, inter))
    (hagg : vi.agg = false) (N1 N2 cap0 cap1 cap2 : Nat) (rf : Option (Nat × RunErr)) {s : State _ _ _}
    (hr : Reach (samVarFCfg d vi refID refRaw blocks pairOf caller regions inter N1 N2 cap0 cap1 cap2 rf) s) :
    ∃ j, chainAccepted d (svChunks vi refID) "query,mutations\n" 0 s =
        String.join ((callSeq "query,mutations\n" (svChunks vi refID)
          (blocks.map (svBoth refRaw pairOf caller regions inter))).take j) ∧
      String.join (callSeq "query,mutations\n" (svChunks vi refID)
          (blocks.map (svBoth refRaw pairOf caller regions inter))) = samVarOn vi refID refRaw blocks pairOf caller :=
  have ⟨j, hj⟩ := (chain_sound hr).written_is_prefix_ok d (svChunks vi refID) "query,mutations\n" 0
    svF_items_pass
  ⟨j, hj, (join_callSeq ..).trans (samVar_text_eq vi refID refRaw blocks pairOf caller regions inter hregs hagg)⟩

theorem sam_variants_fault_maximal_run_write_error (d : Dest) (vi : VarIn) (refID : String) (refRaw : List Nat)
    (blocks : List (List SamRec)) (pairOf : List SamRec → List Nat → List Nat × List Nat)
    (caller : List Nat → List Nat → List Region → List Nat → List Variant)
    (regions : List Region) (inter : List Nat) (N1 N2 cap0 cap1 cap2 : Nat)
    (hN1 : 1 ≤ N1) (hN2 : 1 ≤ N2) (k : Nat) (hd : d = .failFrom k ∨ d = .failOnce k) (hk1 : 1 ≤ k)
    (hkW : k ≤ samVarW refID blocks) {s : State _ _ _}
    (hr : Reach (samVarFCfg d vi refID refRaw blocks pairOf caller regions inter N1 N2 cap0 cap1 cap2 none) s)
    (hstuck : enabled (samVarFCfg d vi refID refRaw blocks pairOf caller regions inter N1 N2 cap0 cap1 cap2 none) s = []) :
    s.main = .ret (some .write) :=
  ((samVarF_cmd ..).outcome (chain_sound hr) (two_pools_pos hN1 hN2) rfl
    ⟨_, svF_items_pass⟩
    (chain_maximal_run_returned (two_pools_pos hN1 hN2) hr hstuck)).2 k hd hk1 hkW

end samVariants

/-! ## the statements are not vacuous: concrete inputs, two schedules each -/

namespace Examples
open Gofasta.Lemmas.SchedCommands.Examples Gofasta.Driver Gofasta.Lemmas.SamVarPipeline Gofasta.Base

/-! ### snps: reference ACGT, rows ACGA, TCNT, ACGA; two workers; W = 4 -/

def snpsFEx (d : Dest) := snpsFCfg d false exRef exRecs 2 1 2 none

/-- a fault at a middle call (the 3rd of 4: the line of q2), permanent -/
example :
    (Model.Sched.runSchedule (snpsFEx (.failFrom 3)) sched1).arrival.map (·.1) = [0, 1] ∧
    (Model.Sched.runSchedule (snpsFEx (.failFrom 3)) sched2).arrival.map (·.1) = [1, 0] ∧
    (Model.Sched.runSchedule (snpsFEx (.failFrom 3)) sched1).main = .ret (some .write) ∧
    (Model.Sched.runSchedule (snpsFEx (.failFrom 3)) sched2).main = .ret (some .write) ∧
    accepted (.failFrom 3) snpsChunks "query,SNPs\n" 0 (Model.Sched.runSchedule (snpsFEx (.failFrom 3)) sched1) =
      "query,SNPs\nq1,T4A\n" ∧
    accepted (.failFrom 3) snpsChunks "query,SNPs\n" 0 (Model.Sched.runSchedule (snpsFEx (.failFrom 3)) sched2) =
      "query,SNPs\nq1,T4A\n" := by
  decide +kernel

/-- the same fault, transient -/
example :
    (Model.Sched.runSchedule (snpsFEx (.failOnce 3)) sched1).main = .ret (some .write) ∧
    (Model.Sched.runSchedule (snpsFEx (.failOnce 3)) sched2).main = .ret (some .write) := by
  decide +kernel

/-- the header write fails: reported at the first record (or at `finish`) -/
example :
    (Model.Sched.runSchedule (snpsFEx (.failFrom 1)) sched1).main = .ret (some .write) ∧
    (Model.Sched.runSchedule (snpsFEx (.failFrom 1)) sched2).main = .ret (some .write) ∧
    accepted (.failFrom 1) snpsChunks "query,SNPs\n" 0 (Model.Sched.runSchedule (snpsFEx (.failFrom 1)) sched1) = "" ∧
    (Model.Sched.runSchedule (snpsFCfg (.failOnce 1) false exRef [] 2 1 2 none) sched1).main = .ret (some .write) := by
  decide +kernel

example :
    (Model.Sched.runSchedule (snpsFEx (.failOnce 4)) sched1).main = .ret (some .write) ∧
    (Model.Sched.runSchedule (snpsFEx (.failOnce 4)) sched2).main = .ret (some .write) ∧
    accepted (.failOnce 4) snpsChunks "query,SNPs\n" 0 (Model.Sched.runSchedule (snpsFEx (.failOnce 4)) sched2) =
      "query,SNPs\nq1,T4A\nq2,A1T\n" := by
  decide +kernel

/-- a fault beyond the run (k = 5 > W = 4), and no fault -/
example :
    (Model.Sched.runSchedule (snpsFEx (.failFrom 5)) sched1).main = .ret none ∧
    (Model.Sched.runSchedule (snpsFEx (.failFrom 5)) sched2).main = .ret none ∧
    (Model.Sched.runSchedule (snpsFEx .ok) sched2).main = .ret none ∧
    (Model.Sched.runSchedule (snpsFEx (.failFrom 5)) sched1).wst.sink.text = snpsOutput false exRef exRecs ∧
    (Model.Sched.runSchedule (snpsFEx (.failFrom 5)) sched2).wst.sink.text = snpsOutput false exRef exRecs ∧
    (Model.Sched.runSchedule (snpsFEx .ok) sched2).wst.sink.text = snpsOutput false exRef exRecs ∧
    (Model.Sched.runSchedule (snpsFEx .ok) sched2).wst.sink.calls = 4 := by
  decide +kernel

example (sched : List Nat) : (Model.Sched.runSchedule (snpsFEx (.failFrom 3)) sched).main ≠ .ret none :=
  snps_fault_reported (.failFrom 3) false exRef exRecs 2 1 2 none (by decide +kernel) 3 (Or.inl rfl) (by decide +kernel) (by decide +kernel)
    (Lemmas.Sched.runSchedule_reach _ sched)

example (sched : List Nat) (h : (Model.Sched.runSchedule (snpsFEx (.failFrom 5)) sched).main = .ret none) :
    (Model.Sched.runSchedule (snpsFEx (.failFrom 5)) sched).wst.sink.text = "query,SNPs\nq1,T4A\nq2,A1T\nq3,T4A\n" :=
  (snps_fault_beyond_run_harmless (.failFrom 5) false exRef exRecs 2 1 2 none (by decide +kernel)
    (Lemmas.Sched.runSchedule_reach _ sched) h).1.trans (by decide +kernel)

/-! ### variants (two calls per record): the alignment of SchedCommands.Examples, reference from standard input;
W = 7; the destination fails from call 5 on - the mutations of q2, after its name was accepted -/

def varFEx (d : Dest) :=
  varFCfg d (exVi "stdin" false) modelPair pvRef exRows "ref" exRegs.1 exRegs.2 1 2 1 2 none

set_option maxRecDepth 100000 in
example :
    (Model.Sched.runSchedule (varFEx (.failFrom 5)) sched1).arrival.map (·.1) = [0, 1] ∧
    (Model.Sched.runSchedule (varFEx (.failFrom 5)) sched2).arrival.map (·.1) = [1, 0] ∧
    (Model.Sched.runSchedule (varFEx (.failFrom 5)) sched1).main = .ret (some .write) ∧
    (Model.Sched.runSchedule (varFEx (.failFrom 5)) sched2).main = .ret (some .write) ∧
    accepted (.failFrom 5) (varChunks (exVi "stdin" false) "ref") "query,mutations\n" 1
      (Model.Sched.runSchedule (varFEx (.failFrom 5)) sched1) = "query,mutations\nq1,\nq2," ∧
    accepted (.failFrom 5) (varChunks (exVi "stdin" false) "ref") "query,mutations\n" 1
      (Model.Sched.runSchedule (varFEx (.failFrom 5)) sched2) = "query,mutations\nq1,\nq2," ∧
    varW "ref" exRows = 7 := by
  decide +kernel

set_option maxRecDepth 100000 in
/-- no fault within the run -/
example :
    (Model.Sched.runSchedule (varFEx (.failOnce 8)) sched1).main = .ret none ∧
    (Model.Sched.runSchedule (varFEx (.failOnce 8)) sched2).main = .ret none ∧
    (Model.Sched.runSchedule (varFEx (.failOnce 8)) sched1).wst.sink.text = varCommand (exVi "stdin" false) modelPair ∧
    (Model.Sched.runSchedule (varFEx (.failOnce 8)) sched2).wst.sink.text = varCommand (exVi "stdin" false) modelPair ∧
    (Model.Sched.runSchedule (varFEx (.failOnce 8)) sched2).wst.sink.calls = 7 := by
  decide +kernel

example (sched : List Nat) : (Model.Sched.runSchedule (varFEx (.failFrom 5)) sched).main ≠ .ret none :=
  variants_fault_reported (.failFrom 5) (exVi "stdin" false) modelPair pvRef exRows "ref" exRegs.1 exRegs.2 1 2 1 2 none
    (by decide +kernel) 5 (Or.inl rfl) (by decide +kernel) (by decide +kernel) (Lemmas.Sched.runSchedule_reach _ sched)

/-! ### sam variants: two pools of two workers; W = 7; a transient fault at call 4 (the name of the second query) -/

def samVarFEx (d : Dest) := samVarFCfg d (pvVi "gff" false) "ref" pvRef (samBlocks [pvRec, pvRec2, pvRec3])
  (fun b r => blockToSeqPair b r) modelPair svRegs.1 svRegs.2 2 2 1 2 2 none

set_option maxRecDepth 100000 in
example :
    (Model.SchedChain.runSchedule (samVarFEx (.failOnce 4)) csched1).arrival.map (·.1) = [0, 1] ∧
    (Model.SchedChain.runSchedule (samVarFEx (.failOnce 4)) csched2).arrival.map (·.1) = [1, 0] ∧
    (Model.SchedChain.runSchedule (samVarFEx (.failOnce 4)) csched1).main = .ret (some .write) ∧
    (Model.SchedChain.runSchedule (samVarFEx (.failOnce 4)) csched2).main = .ret (some .write) ∧
    chainAccepted (.failOnce 4) (svChunks (pvVi "gff" false) "ref") "query,mutations\n" 0
      (Model.SchedChain.runSchedule (samVarFEx (.failOnce 4)) csched1) =
        "query,mutations\nq,aa:g:A2E(nuc:C5A)|ins:4:1|del:8:2\n" ∧
    chainAccepted (.failOnce 4) (svChunks (pvVi "gff" false) "ref") "query,mutations\n" 0
      (Model.SchedChain.runSchedule (samVarFEx (.failOnce 4)) csched2) =
        "query,mutations\nq,aa:g:A2E(nuc:C5A)|ins:4:1|del:8:2\n" := by
  decide +kernel

set_option maxRecDepth 100000 in
example :
    (Model.SchedChain.runSchedule (samVarFEx .ok) csched1).main = .ret none ∧
    (Model.SchedChain.runSchedule (samVarFEx .ok) csched2).main = .ret none ∧
    (Model.SchedChain.runSchedule (samVarFEx .ok) csched2).wst.sink.text =
      "query,mutations\nq,aa:g:A2E(nuc:C5A)|ins:4:1|del:8:2\nr,aa:g:A2V(nuc:C5T)\nt,\n" ∧
    (Model.SchedChain.runSchedule (samVarFEx .ok) csched2).wst.sink.calls = 7 := by
  decide +kernel

example (sched : List Nat) : (Model.SchedChain.runSchedule (samVarFEx (.failOnce 4)) sched).main ≠ .ret none :=
  sam_variants_fault_reported (.failOnce 4) (pvVi "gff" false) "ref" pvRef (samBlocks [pvRec, pvRec2, pvRec3])
    (fun b r => blockToSeqPair b r) modelPair svRegs.1 svRegs.2 2 2 1 2 2 none (by decide +kernel) (by decide +kernel) 4 (Or.inr rfl)
    (by decide +kernel) (by decide +kernel) (Lemmas.SchedChain.runSchedule_reach _ sched)

end Examples

end Gofasta.Lemmas.SchedFaults
