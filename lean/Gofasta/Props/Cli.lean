import Gofasta.Gen.Facts
/-
The command-line layer (cmd/*.go) is not modelled as code: the commands are driven through the binary by the
correspondence streams. What the command models and the streams DO assume about it is the value an option has when it
is not given. `Gen.cliFlags` is regenerated from the source on every run (go/ast: every `Flags().XVar[P](...)` call of
the cmd package); the theorems below check the assumed defaults against it, so changing a default in the source breaks
an obligation even where no stream happens to leave that option out. The second half of the file does the same for
the plumbing: `Gen.cliCalls`, which option or stream each command hands to which parameter of the package function it
calls, is compared with the list the command models assume (`wiring`).
-/
namespace Gofasta.Props.Cli
open Gofasta.Gen

/-- (command variable, option, value type, default as written in the source) -/
abbrev Flag := String × String × String × String

/-- windows, wrapping and padding are off unless asked for (C15); reading from / writing to the standard streams -/
def windowDefaults : List Flag := [
  ("toMultiAlignCmd", "start", "Int", "-1"), ("toMultiAlignCmd", "end", "Int", "-1"), ("toMultiAlignCmd", "wrap", "Int", "-1"),
  ("toMultiAlignCmd", "pad", "Bool", "false"), ("toMultiAlignCmd", "fasta-out", "String", "'stdout'"),
  ("toPairAlignCmd", "start", "Int", "-1"), ("toPairAlignCmd", "end", "Int", "-1"), ("toPairAlignCmd", "wrap", "Int", "-1"),
  ("toPairAlignCmd", "omit-reference", "Bool", "false"), ("toPairAlignCmd", "skip-insertions", "Bool", "false"),
  ("variantsCmd", "start", "Int", "-1"), ("variantsCmd", "end", "Int", "-1"), ("variantsCmd", "msa", "String", "'stdin'"),
  ("variantsCmd", "outfile", "String", "'stdout'"),
  ("samVariantsCmd", "start", "Int", "-1"), ("samVariantsCmd", "end", "Int", "-1"), ("samVariantsCmd", "outfile", "String", "'stdout'"),
  ("samCmd", "samfile", "String", "'stdin'"), ("samCmd", "threads", "Int", "1"),
  ("snpCmd", "query", "String", "'stdin'"), ("snpCmd", "outfile", "String", "'stdout'"),
  ("updownListCmd", "query", "String", "'stdin'"), ("updownListCmd", "outfile", "String", "'stdout'")]

/-- per-sequence output, no threshold, plain records unless asked for (C04, C13) -/
def variantDefaults : List Flag := [
  ("variantsCmd", "aggregate", "Bool", "false"), ("variantsCmd", "append-snps", "Bool", "false"), ("variantsCmd", "threshold", "Float64", "0.0"),
  ("samVariantsCmd", "aggregate", "Bool", "false"), ("samVariantsCmd", "append-snps", "Bool", "false"),
  ("samVariantsCmd", "threshold", "Float64", "0.0"),
  ("snpCmd", "aggregate", "Bool", "false"), ("snpCmd", "hard-gaps", "Bool", "false"), ("snpCmd", "threshold", "Float64", "0.0")]

/-- closest: the raw measure, the single nearest target, no distance limit, the list form (C06) -/
def closestDefaults : List Flag := [
  ("closestCmd", "measure", "String", "'raw'"), ("closestCmd", "number", "Int", "0"), ("closestCmd", "max-dist", "String", "''"),
  ("closestCmd", "table", "Bool", "false"), ("closestCmd", "outfile", "String", "'stdout'")]

/-- topranking: no size, no distance, thresholds 0.1 and 10000, filling on, the list form (C08, C18) -/
def toprankingDefaults : List Flag := [
  ("toprankingCmd", "size-total", "Int", "0"), ("toprankingCmd", "size-up", "Int", "0"), ("toprankingCmd", "size-down", "Int", "0"),
  ("toprankingCmd", "size-side", "Int", "0"), ("toprankingCmd", "size-same", "Int", "0"),
  ("toprankingCmd", "dist-all", "Int", "0"), ("toprankingCmd", "dist-up", "Int", "0"), ("toprankingCmd", "dist-down", "Int", "0"),
  ("toprankingCmd", "dist-side", "Int", "0"), ("toprankingCmd", "dist-push", "Int", "0"),
  ("toprankingCmd", "threshold-pair", "Float32", "0.1"), ("toprankingCmd", "threshold-target", "Int", "10000"),
  ("toprankingCmd", "no-fill", "Bool", "false"), ("toprankingCmd", "table", "Bool", "false"), ("toprankingCmd", "ignore", "String", "''"),
  ("toprankingCmd", "outfile", "String", "'stdout'")]

def registered (l : List Flag) : Bool := l.all fun e => cliFlags.contains e

theorem window_defaults : registered windowDefaults = true := by decide +kernel
theorem variant_defaults : registered variantDefaults = true := by decide +kernel
theorem closest_defaults : registered closestDefaults = true := by decide +kernel
theorem topranking_defaults : registered toprankingDefaults = true := by decide +kernel

/-- no option is registered twice on one command (a second registration would panic at start-up or shadow the first) -/
theorem no_option_twice : (cliFlags.map fun e => (e.1, e.2.1)).Nodup := by decide +kernel

/-- the check is not vacuous: a default that is not the source's is refused -/
example : registered [("toMultiAlignCmd", "wrap", "Int", "60")] = false := by decide +kernel

/-- how every command hands its options to the package function it calls (`Gen.cliCalls`, regenerated from cmd/*.go and
the callee's parameter list): parameter = source, where `flag:x` is the variable of option x, `in:x` / `out:x` a stream
opened from option x, `expr:` a value computed in the command (the measure after validation, the input types and the
ignore list of topranking, the annotation suffix, "reference given as a file"). This is the plumbing the command models
assume: e.g. `--start` / `--end` reach `trimstart` / `trimend`, `--hard-gaps`, `--aggregate` and `--threshold` reach the
parameters of the same meaning in that order, `--size-*` and `--dist-*` reach the bins of the same name. Swapping two
arguments of one type, or opening the wrong option's file, changes the regenerated list and breaks `wiring`. -/
def expectedCalls : List (String × String × List String) := [
  ("closestCmd", "closest.ClosestN", ["catchmentSize=flag:number", "maxdist=expr:dist", "query=in:query", "target=in:target", "measure=expr:measure", "out=out:outfile", "table=flag:table", "threads=flag:threads"]),
  ("closestCmd", "closest.Closest", ["query=in:query", "target=in:target", "measure=expr:measure", "out=out:outfile", "threads=flag:threads"]),
  ("indelCmd", "sam.Indels", ["samFile=in:samfile", "insOut=out:insertions-out", "delOut=out:deletions-out", "threshold=flag:threshold"]),
  ("toMultiAlignCmd", "sam.ToMultiAlign", ["samIn=in:samfile", "out=out:fasta-out", "wrap=flag:wrap", "trimstart=flag:start", "trimend=flag:end", "pad=flag:pad", "threads=flag:threads"]),
  ("toPairAlignCmd", "sam.ToPairAlign", ["samIn=in:samfile", "ref=in:reference", "outpath=flag:outpath", "wrap=flag:wrap", "trimStart=flag:start", "trimEnd=flag:end", "omitRef=flag:omit-reference", "omitIns=flag:skip-insertions", "threads=flag:threads"]),
  ("samVariantsCmd", "sam.Variants", ["samIn=in:samfile", "refIn=in:reference", "refFromFile=expr:refFromFile", "annoIn=in:annotation", "annoSuffix=expr:annoSuffix", "out=out:outfile", "start=flag:start", "end=flag:end", "aggregate=flag:aggregate", "threshold=flag:threshold", "appendSNP=flag:append-snps", "threads=flag:threads"]),
  ("snpCmd", "snps.SNPs", ["ref=in:reference", "alignment=in:query", "hardGaps=flag:hard-gaps", "aggregate=flag:aggregate", "threshold=flag:threshold", "w=out:outfile"]),
  ("updownListCmd", "updown.List", ["reference=in:reference", "alignment=in:query", "out=out:outfile"]),
  ("toprankingCmd", "updown.TopRanking", ["query=in:query", "target=in:target", "reference=in:reference", "out=out:outfile", "table=flag:table", "q_in_type=expr:qtype", "t_in_type=expr:ttype", "ignoreArray=expr:ignoreArray", "sizetotal=flag:size-total", "sizeup=flag:size-up", "sizedown=flag:size-down", "sizeside=flag:size-side", "sizesame=flag:size-same", "distall=flag:dist-all", "distup=flag:dist-up", "distdown=flag:dist-down", "distside=flag:dist-side", "threshpair=flag:threshold-pair", "threshtarg=flag:threshold-target", "nofill=flag:no-fill", "distpush=flag:dist-push"]),
  ("variantsCmd", "variants.Variants", ["msaIn=in:msa", "stdin=expr:stdin", "refID=flag:reference", "annoIn=in:annotation", "annoSuffix=expr:annoSuffix", "out=out:outfile", "start=flag:start", "end=flag:end", "aggregate=flag:aggregate", "threshold=flag:threshold", "appendSNP=flag:append-snps", "threads=flag:threads"])]

theorem wiring : cliCalls = expectedCalls := rfl

/-- not vacuous: two Boolean arguments of `snps` exchanged are refused -/
example : (("snpCmd", "snps.SNPs", ["ref=in:reference", "alignment=in:query", "hardGaps=flag:aggregate", "aggregate=flag:hard-gaps", "threshold=flag:threshold", "w=out:outfile"]) ∈ expectedCalls) = False := by decide +kernel

end Gofasta.Props.Cli
