import Gofasta.Lemmas.SchedFaultWriter
/-
C19 ("a failed output write is never reported as success") at the level of the goroutines, for two cases
Lemmas/SchedFaultWriter does not cover:

  (A) an AGGREGATING writer whose loop body only counts and that makes ALL its write calls after the loop, in `finish`: the
      header, then one call per row of the sorted table.  This is NOT `aggregateWriteOutput` of pkg/snps/snps.go nor
      `AggregateWriteVariants` of pkg/variants/variants.go as they stand: both write the header BEFORE the loop and
      return at once when that call fails.  The code's placement is `hs = [header]`, `pre = []` below, with the failure
      reported late (Lemmas/SchedFaultsAggCode) or, faithfully, at once (B);
  (B) the header write AT ONCE: the writer goroutine writes the header before its receive loop and, when that call
      fails, sits at `cErr <- err` before it has received anything (SchedFaultWriter: reported at the first record).

Modelling decisions
  * the writer `AW κ` = an accumulator `acc : κ` (the counting map and the record counter) + the sink.
    `AW.absorb accum` never touches the sink.  `AW.finish d pre rows e` makes the calls `pre ++ rows acc`, in order,
    every one checked, and returns `.error e` exactly when one of them failed.  The calls made BEFORE the loop are
    `hs` (`AW.start d hs acc0`).  (A) is `hs = []`, `pre = [header]`; the aggregating writer that writes its header
    before the loop is `hs = [header]`, `pre = []`.  The call sequence of a run is `hs ++ pre ++ rows acc`,
    W = its length = 1 + the number of rows in both cases.
  * the rows may depend on the order of arrival (the counting map is an association list in first-seen order);
    `RowsAre items F acc0 accum rows R` says that every complete arrival order gives the rows R.  It is proved for
    snps (no hypothesis) and for variants (hypothesis `Separated`, as in SchedCommands) from the order theorems of
    AggOrder and AggVariants.
  * (B) is proved here for a run that is `HdrSound` (`AWSpec.hdr_written_is_prefix`, `AWSpec.header_fault_immediate`); the
    start states, and (B) in the terms of either model, are in Lemmas/SchedHdrStart (one pool) and
    Lemmas/SchedChainHdrStart (chain).

How the proofs go.  `AggView` records, in terms of the writer's program counter, its state and the arrival sequence
alone, what a run of either model (`Sound` of Lemmas/SchedRun) says about an aggregating writer: one fact for the writer in
its loop, one past it, one at `cErr <- err`.  The fourth fact is that the writer leaves its loop only when every record has
arrived (`Sound.finished`).  (1)-(3) are proved once over `Sound`
(`AWSpec.*`) and read off for either model.

(1), (2), (3) in the comments below are the three statements of SchedFaultWriter: a fault at one of the W calls is reported;
a nil return means every call succeeded and the sequential text was accepted; in every state the accepted text is the
call sequence cut at a call boundary.  The commands are in Lemmas/SchedFaultsAgg, whose namespace this module keeps: the
full names of these statements are referred to from outside the Lean sources.
-/
set_option autoImplicit false

namespace Gofasta.Lemmas.SchedFaultsAgg
open Gofasta Gofasta.Model
open Gofasta.Model.Sched (absorbAll OPc)
open Gofasta.Lemmas.SchedCommands
open Gofasta.Lemmas.Sched (outputs_exist map_ok_length good_index)
open Gofasta.Lemmas.SchedFaults Gofasta.Lemmas.SchedRun

variable {α β ε κ : Type}

/-- state of an aggregating writer goroutine (snps.aggregateWriteOutput, the aggregating writer of variants): what the
loop has accumulated, and the sink -/
structure AW (κ : Type) where
  acc : κ
  sink : Sink

/-- the loop body: accumulate. The destination is not touched, nothing can fail (the loop of `AggregateWriteVariants`
can, through `FormatVariant`; `formatVariant` of the model is total) -/
def AW.absorb (accum : κ → Nat × β → κ) (st : AW κ) (r : Nat × β) : Except ε (AW κ) :=
  .ok ⟨accum st.acc r, st.sink⟩

/-- after the loop: the calls `pre` (the header, when it is written here), then one call per row, every call checked -/
def AW.finish (d : Dest) (pre : List String) (rows : κ → List String) (e : ε) (st : AW κ) : Except ε (AW κ) :=
  if (Sink.putAll d st.sink (pre ++ rows st.acc)).failed then .error e
  else .ok ⟨st.acc, Sink.putAll d st.sink (pre ++ rows st.acc)⟩

/-- before the loop: the calls `hs` (nothing, or the header) -/
def AW.start (d : Dest) (hs : List String) (acc0 : κ) : AW κ := ⟨acc0, Sink.putAll d Sink.empty hs⟩

def aggCalls (hs pre : List String) (R : List String) : List String := hs ++ pre ++ R

def aggW (hs pre : List String) (R : List String) : Nat := hs.length + pre.length + R.length

theorem aggCalls_length (hs pre R : List String) : (aggCalls hs pre R).length = aggW hs pre R := by
  simp only [aggCalls, aggW, List.length_append]

def RowsAre (items : List α) (F : α → Except ε β) (acc0 : κ) (accum : κ → Nat × β → κ) (rows : κ → List String)
    (R : List String) : Prop :=
  ∀ recs, CompleteFor items F recs → rows (recs.foldl accum acc0) = R

theorem complete_snd_perm {items : List α} {F : α → Except ε β} {arr : List (Nat × β)} {ys : List β}
    (hc : CompleteFor items F arr) (hys : items.map F = ys.map Except.ok) : (arr.map Prod.snd).Perm ys := by
  have hperm := hc.1
  rw [← map_ok_length hys] at hperm
  exact snd_perm_of_indexed hperm fun r hr => by
    obtain ⟨x, hx, hf⟩ := hc.2 r hr
    exact good_index hys hx hf

theorem absorbAll_aw (accum : κ → Nat × β → κ) (recs : List (Nat × β)) (st : AW κ) :
    absorbAll (ε := ε) (AW.absorb accum) st recs = .ok ⟨recs.foldl accum st.acc, st.sink⟩ := by
  induction recs generalizing st with
  | nil => rfl
  | cons r t ih => exact ih _

theorem putAll_start (d : Dest) (hs pre R : List String) :
    Sink.putAll d (Sink.putAll d Sink.empty hs) (pre ++ R) = Sink.putAll d Sink.empty (aggCalls hs pre R) := by
  rw [aggCalls, List.append_assoc, Sink.putAll_append d Sink.empty hs]

theorem finish_after_loop (d : Dest) (hs pre : List String) (rows : κ → List String) (e : ε) (acc : κ) :
    AW.finish d pre rows e ⟨acc, Sink.putAll d Sink.empty hs⟩ =
      if (Sink.putAll d Sink.empty (aggCalls hs pre (rows acc))).failed then .error e
      else .ok ⟨acc, Sink.putAll d Sink.empty (aggCalls hs pre (rows acc))⟩ := by
  simp only [AW.finish, putAll_start]

theorem putAll_run_of_failed {d : Dest} {hs : List String} (hf : (Sink.putAll d Sink.empty hs).failed = true)
    (pre R : List String) : Sink.putAll d Sink.empty (aggCalls hs pre R) = Sink.putAll d Sink.empty hs := by
  rw [← putAll_start, Sink.putAll_of_failed d _ _ hf]

theorem start_text_prefix (d : Dest) (hs pre R : List String) :
    ∃ j, (Sink.putAll d Sink.empty hs).text = String.join ((aggCalls hs pre R).take j) := by
  obtain ⟨j, hj, ht⟩ := sink_text_take d hs
  exact ⟨j, by rw [ht, aggCalls, List.append_assoc, List.take_append_of_le_length hj]⟩

structure AggView (d : Dest) (hs pre : List String) (acc0 : κ) (accum : κ → Nat × β → κ) (rows : κ → List String)
    (e : ε) (w : OPc ε) (wst : AW κ) (arr : List (Nat × β)) : Prop where
  /-- in its loop the writer has accumulated and has not touched the destination since the calls `hs` -/
  recv : w = .recv → wst = ⟨arr.foldl accum acc0, Sink.putAll d Sink.empty hs⟩
  /-- past the loop without an error: `finish` has made every call of the run and none failed -/
  done : w = .doneS ∨ w = .exited →
    wst = ⟨arr.foldl accum acc0, Sink.putAll d Sink.empty (aggCalls hs pre (rows (arr.foldl accum acc0)))⟩ ∧
      wst.sink.failed = false
  /-- at `cErr <- err`: the error is e, a call of the run failed, the state is still the one `finish` found -/
  err : ∀ e', w = .errS e' → e' = e ∧ wst = ⟨arr.foldl accum acc0, Sink.putAll d Sink.empty hs⟩ ∧
    (Sink.putAll d Sink.empty (aggCalls hs pre (rows (arr.foldl accum acc0)))).failed = true

/-- the text the destination has accepted so far, in ANY state of the one-pool model (also when the writer sits at
`cErr <- err` after a failed call of `finish`, where `wst` is still the state before `finish`); `aggAccepted_eq_wst`
and `aggAccepted_failing` tie it to the writer's state -/
def aggAccepted (d : Dest) (hs pre : List String) (acc0 : κ) (accum : κ → Nat × β → κ) (rows : κ → List String)
    (s : Sched.State α β ε (AW κ)) : String :=
  match s.writer with
  | .recv => (Sink.putAll d Sink.empty hs).text
  | _ => (Sink.putAll d Sink.empty (aggCalls hs pre (rows (s.arrival.foldl accum acc0)))).text

/-- `aggAccepted` (and `chainAggAccepted` of the chain) as a function of what it depends on: the writer's program
counter and the arrival sequence -/
def acceptedAt (d : Dest) (hs pre : List String) (acc0 : κ) (accum : κ → Nat × β → κ) (rows : κ → List String)
    (w : OPc ε) (arr : List (Nat × β)) : String :=
  match w with
  | .recv => (Sink.putAll d Sink.empty hs).text
  | _ => (Sink.putAll d Sink.empty (aggCalls hs pre (rows (arr.foldl accum acc0)))).text

theorem aggAccepted_eq {d : Dest} {hs pre : List String} {acc0 : κ} {accum : κ → Nat × β → κ}
    {rows : κ → List String} (s : Sched.State α β ε (AW κ)) :
    aggAccepted d hs pre acc0 accum rows s = acceptedAt d hs pre acc0 accum rows s.writer s.arrival := rfl

section view
variable {items : List α} {F : α → Except ε β} {d : Dest} {hs pre : List String} {acc0 : κ}
  {accum : κ → Nat × β → κ} {rows : κ → List String} {e : ε} {R : List String} {w : OPc ε} {wst : AW κ}
  {arr : List (Nat × β)}

theorem acceptedAt_not_recv (hw : w ≠ .recv) :
    acceptedAt d hs pre acc0 accum rows w arr =
      (Sink.putAll d Sink.empty (aggCalls hs pre (rows (arr.foldl accum acc0)))).text := by
  cases w with
  | recv => exact absurd rfl hw
  | _ => rfl

theorem acceptedAt_prefix (hR : RowsAre items F acc0 accum rows R) (hp : w ≠ .recv → CompleteFor items F arr) :
    ∃ j, acceptedAt d hs pre acc0 accum rows w arr = String.join ((aggCalls hs pre R).take j) := by
  by_cases hw : w = .recv
  · subst hw
    exact start_text_prefix d hs pre R
  · obtain ⟨j, _, ht⟩ := sink_text_take d (aggCalls hs pre R)
    exact ⟨j, by rw [acceptedAt_not_recv hw, hR _ (hp hw), ht]⟩

theorem acceptedAt_of_start_failed (hf : (Sink.putAll d Sink.empty hs).failed = true) :
    acceptedAt d hs pre acc0 accum rows w arr = (Sink.putAll d Sink.empty hs).text := by
  cases w with
  | recv => rfl
  | _ => exact congrArg Sink.text (putAll_run_of_failed hf pre _)

namespace AggView

theorem accepted_eq_wst (v : AggView d hs pre acc0 accum rows e w wst arr) (hw : ∀ e', w ≠ .errS e') :
    acceptedAt d hs pre acc0 accum rows w arr = wst.sink.text := by
  cases w with
  | recv => rw [v.recv rfl]; rfl
  | errS e' => exact absurd rfl (hw e')
  | doneS => rw [(v.done (Or.inl rfl)).1]; rfl
  | exited => rw [(v.done (Or.inr rfl)).1]; rfl

/-- at `cErr <- err`, `acceptedAt` is the text of the sink that the failing `finish` computed from the writer's state
(which it did not store) -/
theorem accepted_failing (v : AggView d hs pre acc0 accum rows e w wst arr) {e' : ε} (hw : w = .errS e') :
    acceptedAt d hs pre acc0 accum rows w arr = (Sink.putAll d wst.sink (pre ++ rows wst.acc)).text ∧
      (Sink.putAll d wst.sink (pre ++ rows wst.acc)).failed = true := by
  obtain ⟨_, hwst, hfail⟩ := v.err e' hw
  subst hw
  rw [hwst, putAll_start]
  exact ⟨rfl, hfail⟩

end AggView

end view

/-- the writer of `J` is the aggregating writer; e: the error sent on cErr when a call fails -/
structure AWSpec (J : Job α β ε (AW κ)) (d : Dest) (hs pre : List String) (acc0 : κ) (accum : κ → Nat × β → κ)
    (rows : κ → List String) (e : ε) : Prop where
  habs : ∀ st r, J.absorb st r = AW.absorb accum st r
  hfin : ∀ st, J.finish st = AW.finish d pre rows e st
  hinit : J.init = AW.start d hs acc0

section run
variable {J : Job α β ε (AW κ)} {o : Obs β ε (AW κ)} {d : Dest} {hs pre : List String} {acc0 : κ}
  {accum : κ → Nat × β → κ} {rows : κ → List String} {e : ε} {R : List String}
  (h : AWSpec J d hs pre acc0 accum rows e) (so : Sound J o)
include h so

theorem AWSpec.view : AggView d hs pre acc0 accum rows e o.writer o.wst o.arrival := by
  have loop : absorbAll J.absorb J.init o.arrival = .ok ⟨o.arrival.foldl accum acc0, Sink.putAll d Sink.empty hs⟩ := by
    rw [funext fun st => funext (h.habs st), h.hinit]
    exact absorbAll_aw accum o.arrival _
  refine ⟨fun hw => (Except.ok.inj (loop.symm.trans (so.loop hw))).symm, fun hw => ?_, fun e' hw => ?_⟩
  · obtain ⟨st, hst, hf⟩ := (so.done hw).2
    cases loop.symm.trans hst
    rw [h.hfin, finish_after_loop] at hf
    split at hf
    · cases hf
    · rename_i hfail
      rw [← Except.ok.inj hf]
      exact ⟨rfl, Bool.eq_false_iff.mpr hfail⟩
  · rcases so.wErr e' hw with ⟨_, _, _, _, hab⟩ | ⟨_, hst, hf⟩
    · rw [h.habs] at hab; cases hab
    · rw [← Except.ok.inj (loop.symm.trans hst), h.hfin, finish_after_loop] at hf
      rw [← Except.ok.inj (loop.symm.trans hst)]
      split at hf
      · rename_i hfail
        exact ⟨(Except.error.inj hf).symm, rfl, hfail⟩
      · cases hf

theorem AWSpec.finished (hN : J.staffed) (hw : o.writer ≠ .recv) : CompleteFor J.items J.F o.arrival :=
  (so.finished hN (fun st r e' hab => by rw [h.habs] at hab; cases hab) hw).2

/-- **(2), general form** (the rows may depend on the order of arrival) -/
theorem AWSpec.success (hN : J.staffed) (hm : o.ret none) :
    CompleteFor J.items J.F o.arrival ∧ o.wst.acc = o.arrival.foldl accum acc0 ∧
      o.wst.sink.text = String.join (aggCalls hs pre (rows o.wst.acc)) ∧ o.wst.sink.failed = false ∧
      o.wst.sink.calls = aggW hs pre (rows o.wst.acc) ∧
      ∀ i, 1 ≤ i → i ≤ aggW hs pre (rows o.wst.acc) → d.fails i = false := by
  have hw := so.retNil.mp hm
  obtain ⟨hwst, hok⟩ := (h.view so).done (Or.inr hw)
  rw [hwst] at hok ⊢
  have hg := (sinkInv_all d (aggCalls hs pre (rows (o.arrival.foldl accum acc0)))).good hok
  rw [aggCalls_length] at hg
  exact ⟨h.finished so hN (by rw [hw]; exact fun h => nomatch h), rfl, hg.1, hok, hg.2⟩

/-- **(1), general form** (the rows may depend on the order of arrival): the destination fails a call k that every
complete run makes -/
theorem AWSpec.reported' (hN : J.staffed) (k : Nat) (hk1 : 1 ≤ k) (hd : d.fails k = true)
    (hkW : ∀ recs, CompleteFor J.items J.F recs → k ≤ aggW hs pre (rows (recs.foldl accum acc0))) : ¬ o.ret none := by
  intro hm
  obtain ⟨hc, hacc, _, _, _, hok⟩ := h.success so hN hm
  rw [hok k hk1 (by rw [hacc]; exact hkW _ hc)] at hd
  cases hd

/-- **(1)**: the destination fails a call k, 1 ≤ k ≤ W (W = the calls `hs`, `pre` and one call per row of the table R):
main does not return nil -/
theorem AWSpec.reported (hN : J.staffed) (hR : RowsAre J.items J.F acc0 accum rows R) (k : Nat) (hk1 : 1 ≤ k)
    (hd : d.fails k = true) (hkW : k ≤ aggW hs pre R) : ¬ o.ret none :=
  h.reported' so hN k hk1 hd fun recs hc => by rw [hR recs hc]; exact hkW

/-- **(2)**: whatever the destination, when main has returned nil every one of the W calls of the run succeeded and the
text accepted is the sequential aggregate text: `hs`, `pre`, then the rows R -/
theorem AWSpec.harmless (hN : J.staffed) (hR : RowsAre J.items J.F acc0 accum rows R) (hm : o.ret none) :
    o.wst.sink.text = String.join (aggCalls hs pre R) ∧ o.wst.sink.failed = false ∧
      o.wst.sink.calls = aggW hs pre R ∧ ∀ i, 1 ≤ i → i ≤ aggW hs pre R → d.fails i = false := by
  obtain ⟨hc, hacc, h'⟩ := h.success so hN hm
  rw [hacc, hR _ hc] at h'
  exact h'

theorem AWSpec.no_write_error (hN : J.staffed) (hR : RowsAre J.items J.F acc0 accum rows R)
    (hd : ∀ i, 1 ≤ i → i ≤ aggW hs pre R → d.fails i = false) (e' : ε) : o.writer ≠ .errS e' := by
  intro hw
  obtain ⟨_, _, hfail⟩ := (h.view so).err e' hw
  rw [hR _ (h.finished so hN (by rw [hw]; exact fun h => nomatch h))] at hfail
  obtain ⟨h1, h2, h3, _⟩ := (sinkInv_all d (aggCalls hs pre R)).bad hfail
  rw [aggCalls_length] at h2
  rw [hd _ h1 h2] at h3
  cases h3

/-- **(1) and (2), which outcome**: reader and workers do not fail and main has returned: nil, with the sequential
aggregate text accepted, when no call of the run fails (`ok`, or k > W); THE WRITE ERROR e when one does -/
theorem AWSpec.outcome (hN : J.staffed) (hrf : J.readFail = none) (hall : ∀ x ∈ J.items, ∃ y, J.F x = .ok y)
    (hR : RowsAre J.items J.F acc0 accum rows R) (hret : ∃ r, o.ret r) :
    ((∀ i, 1 ≤ i → i ≤ aggW hs pre R → d.fails i = false) →
      o.ret none ∧ o.wst.sink.text = String.join (aggCalls hs pre R)) ∧
    (∀ k, 1 ≤ k → k ≤ aggW hs pre R → d.fails k = true → o.ret (some e)) := by
  obtain ⟨r, hm⟩ := hret
  cases r with
  | none =>
    obtain ⟨htext, _, _, hok⟩ := h.harmless so hN hR hm
    exact ⟨fun _ => ⟨hm, htext⟩, fun k hk1 hkW hd => nomatch (hok k hk1 hkW).symm.trans hd⟩
  | some e' =>
    have hw := so.writer_error hrf hall hm
    refine ⟨fun hd => absurd hw (h.no_write_error so hN hR hd e'), fun _ _ _ _ => ?_⟩
    exact ((h.view so).err e' hw).1 ▸ hm

/-- **(3)**: whoever failed, wherever main is, the text accepted by the destination is the fault-free call sequence -
`hs`, `pre`, then the rows R - cut at a call boundary -/
theorem AWSpec.written_is_prefix (hN : J.staffed) (hR : RowsAre J.items J.F acc0 accum rows R) :
    ∃ j, acceptedAt d hs pre acc0 accum rows o.writer o.arrival = String.join ((aggCalls hs pre R).take j) :=
  acceptedAt_prefix hR (h.finished so hN)

/-- **(3), nothing before the last record**: while some record has not been absorbed (it is still on its way, or its
worker failed, or the reader never read it) the writer is at the head of its loop and has made no call since its
start: the sink is what the calls `hs` left there -/
theorem AWSpec.nothing_before (hN : J.staffed) {i : Nat} (hi : i < J.items.length)
    (hni : i ∉ o.arrival.map Prod.fst) :
    o.writer = .recv ∧ o.wst.sink = Sink.putAll d Sink.empty hs ∧
      acceptedAt d hs pre acc0 accum rows o.writer o.arrival = (Sink.putAll d Sink.empty hs).text := by
  have hw : o.writer = .recv := Classical.byContradiction fun hw =>
    hni ((h.finished so hN hw).1.mem_iff.mpr (List.mem_range.mpr hi))
  exact ⟨hw, by rw [(h.view so).recv hw], by rw [hw]; rfl⟩

end run

section onePool
open Gofasta.Model.Sched Gofasta.Lemmas.Sched

/-- `AWSpec (job cfg) d hs pre acc0 accum rows e` (`IsAW.spec`), for a configuration of the one-pool model -/
structure IsAW (cfg : Cfg α β ε (AW κ)) (d : Dest) (hs pre : List String) (acc0 : κ) (accum : κ → Nat × β → κ)
    (rows : κ → List String) (e : ε) : Prop where
  habs : ∀ st r, cfg.absorb st r = AW.absorb accum st r
  hfin : ∀ st, cfg.finish st = AW.finish d pre rows e st
  hinit : cfg.init = AW.start d hs acc0

variable {cfg : Cfg α β ε (AW κ)} {s : State α β ε (AW κ)} {d : Dest} {hs pre : List String} {acc0 : κ}
  {accum : κ → Nat × β → κ} {rows : κ → List String} {e : ε} {R : List String}

theorem IsAW.spec (h : IsAW cfg d hs pre acc0 accum rows e) : AWSpec (job cfg) d hs pre acc0 accum rows e :=
  ⟨h.habs, h.hfin, h.hinit⟩

theorem agg_fault_reported' (h : IsAW cfg d hs pre acc0 accum rows e) (hN : 1 ≤ cfg.N) (k : Nat) (hk1 : 1 ≤ k)
    (hd : d.fails k = true)
    (hkW : ∀ recs, CompleteFor cfg.items cfg.f recs → k ≤ aggW hs pre (rows (recs.foldl accum acc0)))
    (hr : Reach cfg s) : s.main ≠ .ret none :=
  h.spec.reported' (sound hr) hN k hk1 hd hkW

theorem agg_fault_reported (h : IsAW cfg d hs pre acc0 accum rows e) (hN : 1 ≤ cfg.N)
    (hR : RowsAre cfg.items cfg.f acc0 accum rows R) (k : Nat) (hd : d = .failFrom k ∨ d = .failOnce k) (hk1 : 1 ≤ k)
    (hkW : k ≤ aggW hs pre R) (hr : Reach cfg s) : s.main ≠ .ret none :=
  h.spec.reported (sound hr) hN hR k hk1 (Dest.fails_of_at hd) hkW

theorem agg_fault_runSchedule (h : IsAW cfg d hs pre acc0 accum rows e) (hN : 1 ≤ cfg.N)
    (hR : RowsAre cfg.items cfg.f acc0 accum rows R) (k : Nat) (hd : d = .failFrom k ∨ d = .failOnce k) (hk1 : 1 ≤ k)
    (hkW : k ≤ aggW hs pre R) (sched : List Nat) (hlen : μ cfg (init cfg) ≤ sched.length) :
    ∃ e', (runSchedule cfg sched).main = .ret (some e') :=
  (obs (runSchedule cfg sched)).returned_error (runSchedule_returns hN sched hlen)
    (agg_fault_reported h hN hR k hd hk1 hkW (runSchedule_reach cfg sched))

theorem agg_fault_beyond_run_harmless (h : IsAW cfg d hs pre acc0 accum rows e) (hN : 1 ≤ cfg.N)
    (hR : RowsAre cfg.items cfg.f acc0 accum rows R) (hr : Reach cfg s) (hm : s.main = .ret none) :
    s.wst.sink.text = String.join (aggCalls hs pre R) ∧ s.wst.sink.failed = false ∧
      s.wst.sink.calls = aggW hs pre R ∧ ∀ i, 1 ≤ i → i ≤ aggW hs pre R → d.fails i = false :=
  h.spec.harmless (sound hr) hN hR hm

theorem agg_fault_beyond_run_maximal (h : IsAW cfg d hs pre acc0 accum rows e) (hN : 1 ≤ cfg.N)
    (hrf : cfg.readFail = none) (hall : ∀ x ∈ cfg.items, ∃ y, cfg.f x = .ok y)
    (hR : RowsAre cfg.items cfg.f acc0 accum rows R)
    (hd : ∀ i, 1 ≤ i → i ≤ aggW hs pre R → d.fails i = false) (hr : Reach cfg s) (hstuck : enabled cfg s = []) :
    s.main = .ret none ∧ s.wst.sink.text = String.join (aggCalls hs pre R) :=
  (h.spec.outcome (sound hr) hN hrf hall hR (maximal_run_returned hN hr hstuck)).1 hd

theorem agg_fault_maximal_run_write_error (h : IsAW cfg d hs pre acc0 accum rows e) (hN : 1 ≤ cfg.N)
    (hrf : cfg.readFail = none) (hall : ∀ x ∈ cfg.items, ∃ y, cfg.f x = .ok y)
    (hR : RowsAre cfg.items cfg.f acc0 accum rows R) (k : Nat) (hd : d = .failFrom k ∨ d = .failOnce k) (hk1 : 1 ≤ k)
    (hkW : k ≤ aggW hs pre R) (hr : Reach cfg s) (hstuck : enabled cfg s = []) : s.main = .ret (some e) :=
  (h.spec.outcome (sound hr) hN hrf hall hR (maximal_run_returned hN hr hstuck)).2 k hk1 hkW (Dest.fails_of_at hd)

theorem aggAccepted_eq_wst (h : IsAW cfg d hs pre acc0 accum rows e) (hr : Reach cfg s)
    (hw : ∀ e', s.writer ≠ .errS e') : aggAccepted d hs pre acc0 accum rows s = s.wst.sink.text :=
  aggAccepted_eq s ▸ (h.spec.view (sound hr)).accepted_eq_wst hw

theorem aggAccepted_failing (h : IsAW cfg d hs pre acc0 accum rows e) (hr : Reach cfg s) {e' : ε}
    (hw : s.writer = .errS e') :
    aggAccepted d hs pre acc0 accum rows s = (Sink.putAll d s.wst.sink (pre ++ rows s.wst.acc)).text ∧
      (Sink.putAll d s.wst.sink (pre ++ rows s.wst.acc)).failed = true :=
  aggAccepted_eq s ▸ (h.spec.view (sound hr)).accepted_failing hw

theorem agg_written_is_prefix (h : IsAW cfg d hs pre acc0 accum rows e) (hN : 1 ≤ cfg.N)
    (hR : RowsAre cfg.items cfg.f acc0 accum rows R) (hr : Reach cfg s) :
    ∃ j, aggAccepted d hs pre acc0 accum rows s = String.join ((aggCalls hs pre R).take j) :=
  aggAccepted_eq s ▸ h.spec.written_is_prefix (sound hr) hN hR

theorem agg_nothing_before_all_arrived (h : IsAW cfg d hs pre acc0 accum rows e) (hN : 1 ≤ cfg.N) (hr : Reach cfg s)
    {i : Nat} (hi : i < cfg.items.length) (hni : i ∉ s.arrival.map Prod.fst) :
    s.writer = .recv ∧ s.wst.sink = Sink.putAll d Sink.empty hs ∧
      aggAccepted d hs pre acc0 accum rows s = (Sink.putAll d Sink.empty hs).text :=
  aggAccepted_eq s ▸ h.spec.nothing_before (sound hr) hN hi hni

/-- (A), where no call is made before the loop: **while some record has not been absorbed, the sink is empty** -/
theorem agg_sink_empty_before_all_arrived {header : String} (h : IsAW cfg d [] [header] acc0 accum rows e)
    (hN : 1 ≤ cfg.N) (hr : Reach cfg s) {i : Nat} (hi : i < cfg.items.length) (hni : i ∉ s.arrival.map Prod.fst) :
    s.wst.sink = Sink.empty ∧ aggAccepted d [] [header] acc0 accum rows s = "" :=
  (agg_nothing_before_all_arrived h hN hr hi hni).2

end onePool

/-! ## (B) the header write at once: when one of the calls `hs` before the loop fails the writer sits at `cErr <- err`
without having received anything (`HdrSound` of Lemmas/SchedRun) -/

section hdrAWrun
variable {J : Job α β ε (AW κ)} {o : Obs β ε (AW κ)} {d : Dest} {hs pre : List String} {acc0 : κ}
  {accum : κ → Nat × β → κ} {rows : κ → List String} {e : ε} {R : List String}
  (h : AWSpec J d hs pre acc0 accum rows e)
include h

theorem AWSpec.finish_init (hf : (Sink.putAll d Sink.empty hs).failed = true) : J.finish J.init = .error e := by
  rw [h.hfin, h.hinit, AW.start, finish_after_loop, putAll_run_of_failed hf, hf, if_pos rfl]

variable (ho : HdrSound J e (Sink.putAll d Sink.empty hs).failed o)
include ho

theorem AWSpec.hdr_written_is_prefix (hN : J.staffed) (hR : RowsAre J.items J.F acc0 accum rows R) :
    ∃ j, acceptedAt d hs pre acc0 accum rows o.writer o.arrival = String.join ((aggCalls hs pre R).take j) := by
  rcases ho with ⟨_, ho⟩ | ⟨hf, _⟩
  · exact h.written_is_prefix ho hN hR
  · rw [acceptedAt_of_start_failed hf]
    exact start_text_prefix d hs pre R

end hdrAWrun

theorem AWSpec.header_fault_immediate {J : Job α β ε (AW κ)} {o : Obs β ε (AW κ)} {d : Dest} {header : String}
    {pre : List String} {acc0 : κ} {accum : κ → Nat × β → κ} {rows : κ → List String} {e : ε}
    (h : AWSpec J d [header] pre acc0 accum rows e)
    (ho : HdrSound J e (Sink.putAll d Sink.empty [header]).failed o) (hd : d.fails 1 = true) :
    o.arrival = [] ∧ o.writer = .errS e ∧ o.wst.sink = ⟨"", 1, true⟩ ∧
      acceptedAt d [header] pre acc0 accum rows o.writer o.arrival = "" ∧ ¬ o.ret none := by
  have hsink : Sink.putAll d Sink.empty [header] = ⟨"", 1, true⟩ := put_header_failed header hd
  have hf : (Sink.putAll d Sink.empty [header]).failed = true := by rw [hsink]
  rcases ho with ⟨h1, _⟩ | ⟨_, ho⟩
  · exact nomatch hf.symm.trans h1
  · exact ⟨ho.arrival, ho.writer, by rw [ho.wst, h.hinit]; exact hsink,
      by rw [acceptedAt_of_start_failed hf, hsink], ho.notNil⟩

section chain
open Gofasta.Model.SchedChain Gofasta.Lemmas.SchedChain

variable {γ : Type}

structure IsAWc (cfg : Cfg γ ε (AW κ)) (d : Dest) (hs pre : List String) (acc0 : κ) (accum : κ → Nat × γ → κ)
    (rows : κ → List String) (e : ε) : Prop where
  habs : ∀ st r, cfg.absorb st r = AW.absorb accum st r
  hfin : ∀ st, cfg.finish st = AW.finish d pre rows e st
  hinit : cfg.init = AW.start d hs acc0

variable {cfg : Cfg γ ε (AW κ)} {s : State γ ε (AW κ)} {d : Dest} {hs pre : List String} {acc0 : κ}
  {accum : κ → Nat × γ → κ} {rows : κ → List String} {e : ε} {R : List String}

theorem IsAWc.spec (h : IsAWc cfg d hs pre acc0 accum rows e) : AWSpec (chainJob cfg) d hs pre acc0 accum rows e :=
  ⟨h.habs, h.hfin, h.hinit⟩

theorem chain_agg_fault_reported (h : IsAWc cfg d hs pre acc0 accum rows e) (hN : ∀ P ∈ cfg.pools, 1 ≤ P.N)
    (hR : RowsAre cfg.items (pass cfg.pools) acc0 accum rows R) (k : Nat) (hd : d = .failFrom k ∨ d = .failOnce k)
    (hk1 : 1 ≤ k) (hkW : k ≤ aggW hs pre R) (hr : Reach cfg s) : s.main ≠ .ret none :=
  h.spec.reported (chain_sound hr) hN hR k hk1 (Dest.fails_of_at hd) hkW

theorem chain_agg_fault_beyond_run_harmless (h : IsAWc cfg d hs pre acc0 accum rows e)
    (hN : ∀ P ∈ cfg.pools, 1 ≤ P.N) (hR : RowsAre cfg.items (pass cfg.pools) acc0 accum rows R)
    (hr : Reach cfg s) (hm : s.main = .ret none) :
    s.wst.sink.text = String.join (aggCalls hs pre R) ∧ s.wst.sink.failed = false ∧
      s.wst.sink.calls = aggW hs pre R ∧ ∀ i, 1 ≤ i → i ≤ aggW hs pre R → d.fails i = false :=
  h.spec.harmless (chain_sound hr) hN hR hm

theorem chain_agg_fault_beyond_run_maximal (h : IsAWc cfg d hs pre acc0 accum rows e)
    (hN : ∀ P ∈ cfg.pools, 1 ≤ P.N) (hrf : cfg.readFail = none)
    (hall : ∀ x ∈ cfg.items, ∃ y, pass cfg.pools x = .ok y)
    (hR : RowsAre cfg.items (pass cfg.pools) acc0 accum rows R)
    (hd : ∀ i, 1 ≤ i → i ≤ aggW hs pre R → d.fails i = false) (hr : Reach cfg s) (hstuck : enabled cfg s = []) :
    s.main = .ret none ∧ s.wst.sink.text = String.join (aggCalls hs pre R) :=
  (h.spec.outcome (chain_sound hr) hN hrf hall hR (chain_maximal_run_returned hN hr hstuck)).1 hd

theorem chain_agg_fault_maximal_run_write_error (h : IsAWc cfg d hs pre acc0 accum rows e)
    (hN : ∀ P ∈ cfg.pools, 1 ≤ P.N) (hrf : cfg.readFail = none)
    (hall : ∀ x ∈ cfg.items, ∃ y, pass cfg.pools x = .ok y)
    (hR : RowsAre cfg.items (pass cfg.pools) acc0 accum rows R) (k : Nat) (hd : d = .failFrom k ∨ d = .failOnce k)
    (hk1 : 1 ≤ k) (hkW : k ≤ aggW hs pre R) (hr : Reach cfg s) (hstuck : enabled cfg s = []) :
    s.main = .ret (some e) :=
  (h.spec.outcome (chain_sound hr) hN hrf hall hR (chain_maximal_run_returned hN hr hstuck)).2 k hk1 hkW
    (Dest.fails_of_at hd)

def chainAggAccepted (d : Dest) (hs pre : List String) (acc0 : κ) (accum : κ → Nat × γ → κ) (rows : κ → List String)
    (s : State γ ε (AW κ)) : String :=
  match s.writer with
  | .recv => (Sink.putAll d Sink.empty hs).text
  | _ => (Sink.putAll d Sink.empty (aggCalls hs pre (rows (s.arrival.foldl accum acc0)))).text

theorem chainAggAccepted_eq (s : State γ ε (AW κ)) :
    chainAggAccepted d hs pre acc0 accum rows s = acceptedAt d hs pre acc0 accum rows s.writer s.arrival := rfl

theorem chainAggAccepted_eq_wst (h : IsAWc cfg d hs pre acc0 accum rows e) (hr : Reach cfg s)
    (hw : ∀ e', s.writer ≠ .errS e') : chainAggAccepted d hs pre acc0 accum rows s = s.wst.sink.text :=
  chainAggAccepted_eq s ▸ (h.spec.view (chain_sound hr)).accepted_eq_wst hw

theorem chainAggAccepted_failing (h : IsAWc cfg d hs pre acc0 accum rows e) (hr : Reach cfg s) {e' : ε}
    (hw : s.writer = .errS e') :
    chainAggAccepted d hs pre acc0 accum rows s = (Sink.putAll d s.wst.sink (pre ++ rows s.wst.acc)).text ∧
      (Sink.putAll d s.wst.sink (pre ++ rows s.wst.acc)).failed = true :=
  chainAggAccepted_eq s ▸ (h.spec.view (chain_sound hr)).accepted_failing hw

theorem chain_agg_written_is_prefix (h : IsAWc cfg d hs pre acc0 accum rows e) (hN : ∀ P ∈ cfg.pools, 1 ≤ P.N)
    (hR : RowsAre cfg.items (pass cfg.pools) acc0 accum rows R) (hr : Reach cfg s) :
    ∃ j, chainAggAccepted d hs pre acc0 accum rows s = String.join ((aggCalls hs pre R).take j) :=
  chainAggAccepted_eq s ▸ h.spec.written_is_prefix (chain_sound hr) hN hR

theorem chain_agg_nothing_before_all_arrived (h : IsAWc cfg d hs pre acc0 accum rows e)
    (hN : ∀ P ∈ cfg.pools, 1 ≤ P.N) (hr : Reach cfg s) {i : Nat} (hi : i < cfg.items.length)
    (hni : i ∉ s.arrival.map Prod.fst) :
    s.writer = .recv ∧ s.wst.sink = Sink.putAll d Sink.empty hs ∧
      chainAggAccepted d hs pre acc0 accum rows s = (Sink.putAll d Sink.empty hs).text :=
  chainAggAccepted_eq s ▸ h.spec.nothing_before (chain_sound hr) hN hi hni

end chain

end Gofasta.Lemmas.SchedFaultsAgg
