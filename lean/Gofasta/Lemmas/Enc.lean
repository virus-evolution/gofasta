import Gofasta.Spec.EncChecks
import Gofasta.Lemmas.ListFacts
/-
Finite facts about the *regenerated* tables. Each check of `Spec.EncChecks` is evaluated once by the kernel and
lifted by `accepted_elim` to any accepted byte, i.e. any `b` with `enc hard b ≠ 0`.
-/
namespace Gofasta.Lemmas
open Gofasta Base Model Spec

def encTable (hard : Bool) : List Nat := if hard then Gen.encHard else Gen.encSoft

theorem encTable_length (hard : Bool) : (encTable hard).length = 256 := by cases hard <;> decide +kernel

theorem enc_lt {hard : Bool} {b : Nat} (he : enc hard b ≠ 0) : b < 256 :=
  Nat.lt_of_not_le fun h => he (by
    rw [enc, List.getD_eq_getElem?_getD, List.getElem?_eq_none (by rw [← encTable, encTable_length]; exact h)]; rfl)

theorem mem_accepted {hard : Bool} {b : Nat} : b ∈ acceptedBytes hard ↔ enc hard b ≠ 0 := by
  simp only [acceptedBytes, List.mem_filter, List.mem_range, bne_iff_ne, and_iff_right_iff_imp]
  exact enc_lt

theorem accepted_elim {hard : Bool} {p : Nat → Bool} (h : (acceptedBytes hard).all p = true) {b : Nat}
    (he : enc hard b ≠ 0) : p b = true :=
  List.all_eq_true.1 h b (mem_accepted.2 he)

/-! ### every byte beside its code

The checks of `Spec.EncChecks` look the code of each byte up by index, and the kernel walks the
table once per look-up. Pairing every entry of the table with its index walks it once, so each
check is first restated over these pairs and only then evaluated. -/

theorem map_enc_range (hard : Bool) :
    (List.range 256).map (fun b => (enc hard b, b)) = (encTable hard).zipIdx := by
  rw [← map_getD_range _ 0, encTable_length]
  rfl

/-- the accepted bytes as pairs (code, byte); the checks below take the byte first, `q p.2 p.1` -/
def encPairs (hard : Bool) : List (Nat × Nat) := (encTable hard).zipIdx.filter fun p => p.1 != 0

theorem map_enc_accepted (hard : Bool) :
    (acceptedBytes hard).map (fun b => (enc hard b, b)) = encPairs hard := by
  rw [encPairs, ← map_enc_range, List.filter_map]
  rfl

theorem all_bytes (hard : Bool) (q : Nat → Nat → Bool) :
    (List.range 256).all (fun b => q b (enc hard b)) = (encTable hard).zipIdx.all fun p => q p.2 p.1 := by
  rw [← map_enc_range, List.all_map]
  rfl

theorem all_accepted (hard : Bool) (q : Nat → Nat → Bool) :
    (acceptedBytes hard).all (fun b => q b (enc hard b)) = (encPairs hard).all fun p => q p.2 p.1 := by
  rw [← map_enc_accepted, List.all_map]
  rfl

theorem all_accepted₂ (hard : Bool) (r : Nat → Nat → Nat → Nat → Bool) :
    ((acceptedBytes hard).all fun a => (acceptedBytes hard).all fun b => r a (enc hard a) b (enc hard b)) =
      (encPairs hard).all fun p => (encPairs hard).all fun p' => r p.2 p.1 p'.2 p'.1 := by
  rw [all_accepted hard fun a ea => (acceptedBytes hard).all fun b => r a ea b (enc hard b)]
  congr
  funext p
  exact all_accepted hard fun b eb => r p.2 p.1 b eb

/-! ### the checks, each evaluated once, and what they say of an accepted byte

`chkCase` goes the other way: `enc_upper` is proved by an argument and the check follows.
`chkScore` and `chkResolvedDiffer` are only proved true: nothing reads the score per byte, and what
`chkResolvedDiffer` says of two resolved bases is `encDiffer_iff` with `disjoint_acgt` (`Props.C07.tn_col`). -/

theorem chkAccept_ok (hard : Bool) : chkAccept hard = true := by
  rw [chkAccept, all_bytes hard fun b e => (e != 0) == (baseSet hard b).isSome]
  revert hard
  decide +kernel

theorem enc_ne_zero_iff (hard : Bool) (b : Nat) (hb : b < 256) :
    enc hard b ≠ 0 ↔ (baseSet hard b).isSome = true := by
  have h := List.all_eq_true.1 (chkAccept_ok hard) b (List.mem_range.2 hb)
  rw [← beq_iff_eq.1 h, bne_iff_ne]

theorem chkDisjoint_ok (hard : Bool) : chkDisjoint hard = true := by
  rw [chkDisjoint, all_accepted₂ hard fun a ea b eb => encDiffer ea eb == disjointSyms hard a b]
  revert hard
  decide +kernel

theorem encDiffer_iff (hard : Bool) (a b : Nat) (hea : enc hard a ≠ 0) (heb : enc hard b ≠ 0) :
    encDiffer (enc hard a) (enc hard b) = disjointSyms hard a b :=
  beq_iff_eq.1 (accepted_elim (accepted_elim (chkDisjoint_ok hard) hea) heb)

theorem encDiffer_comm (a b : Nat) : encDiffer a b = encDiffer b a := by
  unfold encDiffer; rw [Nat.and_comm]

theorem chkDec_ok (hard : Bool) : chkDec hard = true := by
  rw [chkDec, all_accepted hard fun b e => dec e == upper b]
  revert hard
  decide +kernel

theorem dec_enc (hard : Bool) (b : Nat) (he : enc hard b ≠ 0) : dec (enc hard b) = upper b :=
  beq_iff_eq.1 (accepted_elim (chkDec_ok hard) he)

theorem dec_all {p : Nat → Bool} (h : Gen.decTab.all p = true) (h0 : p 0 = true) (e : Nat) : p (dec e) = true :=
  forall_getD (P := (p · = true)) (List.all_eq_true.1 h) h0 e

theorem chkResolved_ok (hard : Bool) : chkResolved hard = true := by
  rw [chkResolved, all_accepted hard fun b e => encResolved e == isACGT b]
  revert hard
  decide +kernel

theorem encResolved_iff (hard : Bool) (b : Nat) (he : enc hard b ≠ 0) : encResolved (enc hard b) = isACGT b :=
  beq_iff_eq.1 (accepted_elim (chkResolved_ok hard) he)

theorem chkSame_ok : chkSame = true := by
  rw [chkSame, all_accepted₂ false fun a ea b eb => (!(isACGT a)) || ((ea == eb) == (upper a == upper b))]
  decide +kernel

theorem enc_same_iff (a b : Nat) (hea : enc false a ≠ 0) (heb : enc false b ≠ 0) (hr : isACGT a = true) :
    (enc false a == enc false b) = (upper a == upper b) := by
  simpa [hr] using accepted_elim (accepted_elim chkSame_ok hea) heb

theorem chkGapCode_ok : chkGapCode = true := by
  rw [chkGapCode, all_accepted false fun b e => (e == 244) == (b == 45)]
  decide +kernel

/-- the gap code is the code of '-' and of nothing else, for every number: a byte outside the alphabet, and a number
that is not a byte, has code 0 -/
theorem enc_gap_iff (b : Nat) : (enc false b == 244) = (b == 45) := by
  by_cases he : enc false b = 0
  · have : b ≠ 45 := by rintro rfl; revert he; decide +kernel
    simp [he, this]
  · exact beq_iff_eq.1 (accepted_elim chkGapCode_ok he)

theorem upper_spec (b : Nat) : (b < 97 ∨ 122 < b) ∧ upper b = b ∨ 97 ≤ b ∧ b ≤ 122 ∧ upper b + 32 = b := by
  unfold upper
  split <;> omega

theorem upper_idem (b : Nat) : upper (upper b) = upper b := by
  have h1 := upper_spec b
  have h2 := upper_spec (upper b)
  omega

theorem upper_ne_dash (b : Nat) : (upper b != 45) = (b != 45) := by
  have h := upper_spec b
  rw [Bool.eq_iff_iff, bne_iff_ne, bne_iff_ne]
  omega

theorem enc_upper (hard : Bool) (b : Nat) : enc hard (upper b) = enc hard b := by
  -- `upper` moves only the 26 lower-case letters, and their block of the table repeats the upper-case block
  have blocks : ∀ hard, ((encTable hard).drop 97).take 26 = ((encTable hard).drop 65).take 26 := by
    decide +kernel
  rcases upper_spec b with ⟨_, e⟩ | ⟨_, _, e⟩
  · rw [e]
  · have := congrArg (·[b - 97]?) (blocks hard)
    simp only [List.getElem?_take, List.getElem?_drop, show b - 97 < 26 by omega, if_true,
      show 97 + (b - 97) = b by omega, show 65 + (b - 97) = upper b by omega] at this
    simp only [enc, List.getD_eq_getElem?_getD]
    exact congrArg (·.getD 0) this.symm

theorem chkCase_ok (hard : Bool) : chkCase hard = true := by
  simp [chkCase, enc_upper]

/-! ### completeness score: 12 / |base set| (with '-' and '?' counted as any base) -/
theorem chkScore_ok : chkScore = true := by
  refine (all_accepted false fun b e =>
    match baseSet false b with
    | some m => scoreOf e * popcount4 m == 12
    | none => false).trans ?_
  decide +kernel

/-! ### transition tests used by tn93: `a|b == 200` iff {A,G}; `a|b == 56` iff {C,T} (on resolved bases) -/
theorem chkTransitions_ok : chkTransitions = true := by
  rw [chkTransitions, all_accepted₂ false fun a ea b eb =>
    (!(isACGT a && isACGT b)) ||
      (((ea ||| eb) == 200) == ((upper a == 65 && upper b == 71) || (upper a == 71 && upper b == 65))) &&
      (((ea ||| eb) == 56) == ((upper a == 67 && upper b == 84) || (upper a == 84 && upper b == 67)))]
  decide +kernel

theorem enc_transitions (a b : Nat) (hea : enc false a ≠ 0) (heb : enc false b ≠ 0)
    (hra : isACGT a = true) (hrb : isACGT b = true) :
    (((enc false a ||| enc false b) == 200) = ((upper a == 65 && upper b == 71) || (upper a == 71 && upper b == 65))) ∧
    (((enc false a ||| enc false b) == 56) = ((upper a == 67 && upper b == 84) || (upper a == 84 && upper b == 67))) := by
  simpa [hra, hrb] using accepted_elim (accepted_elim chkTransitions_ok hea) heb

theorem chkResolvedDiffer_ok : chkResolvedDiffer = true := by
  rw [chkResolvedDiffer, all_accepted₂ false fun a ea b eb =>
    (!(isACGT a && isACGT b)) || (encDiffer ea eb == !(ea == eb))]
  decide +kernel

theorem isACGT_of_upper_eq {a b : Nat} (h : upper a = upper b) : isACGT a = isACGT b := by
  simp [isACGT, h]

theorem upper_acgt (b : Nat) (h : isACGT b = true) : upper b = 65 ∨ upper b = 67 ∨ upper b = 71 ∨ upper b = 84 := by
  have : ((upper b = 65 ∨ upper b = 67) ∨ upper b = 71) ∨ upper b = 84 := by simpa [isACGT] using h
  omega

/-- an A/C/G/T symbol is neither '-' nor '?', the two symbols `baseSet` treats apart -/
theorem acgt_ne_gap (b : Nat) (h : isACGT b = true) : b ≠ 45 ∧ b ≠ 63 := by
  constructor <;> rintro rfl <;> exact absurd h (by decide)

theorem disjoint_acgt (r q : Nat) (hr : isACGT r = true) (hq : isACGT q = true) :
    disjointSyms false r q = true ↔ upper r ≠ upper q := by
  have ⟨hr1, hr2⟩ := acgt_ne_gap r hr
  have ⟨hq1, hq2⟩ := acgt_ne_gap q hq
  unfold disjointSyms baseSet
  simp only [hr1, hr2, hq1, hq2, if_false]
  rcases upper_acgt r hr with h1 | h1 | h1 | h1 <;> rcases upper_acgt q hq with h2 | h2 | h2 | h2 <;> rw [h1, h2] <;> decide

end Gofasta.Lemmas
