import Gofasta.Model.Fasta
import Gofasta.Lemmas.TextFacts
/-
The FASTA reader state machine on LINES (bytes and line ends come in with `splitLines_render` in `Props/C16`): a list of
records written with ANY chunking of each sequence into lines is read back as exactly those records; and records that
all have an ID and accepted lines are read ONLY when their widths agree (`read_records_iff`).
-/
namespace Gofasta.Lemmas
open Gofasta Model

/-- a record as it is laid out in a file -/
structure LRec where
  id : List Nat                  -- the ID the reader is to find in `desc` (`WFRec.hid`); the lines do not depend on it
  desc : List Nat                -- the header line after '>'
  chunks : List (List Nat)       -- the sequence, line by line, as written

def LRec.seq (r : LRec) : List Nat := r.chunks.flatten

def LRec.lines (r : LRec) : List (List Nat) := (62 :: r.desc) :: r.chunks

def renderLines (recs : List LRec) : List (List Nat) := recs.flatMap LRec.lines

def SeqLine (l : List Nat) : Prop := l ≠ [] ∧ l.head? ≠ some 62

/-- state updates of the reader, named so that they can be rewritten with -/
def addBuf (s : RdState) (e : List Nat) : RdState := { s with buf := s.buf ++ e }

def startRec (s : RdState) (id d : List Nat) : RdState :=
  { started := s.started, id := id, desc := d, buf := [], width := (if s.counter = 0 then s.buf.length else s.width),
    counter := s.counter + 1, out := s.out ++ [mkRec s] }

@[simp] theorem addBuf_started (s : RdState) (e : List Nat) : (addBuf s e).started = s.started := rfl
@[simp] theorem addBuf_id (s : RdState) (e : List Nat) : (addBuf s e).id = s.id := rfl
@[simp] theorem addBuf_desc (s : RdState) (e : List Nat) : (addBuf s e).desc = s.desc := rfl
@[simp] theorem addBuf_buf (s : RdState) (e : List Nat) : (addBuf s e).buf = s.buf ++ e := rfl
@[simp] theorem addBuf_width (s : RdState) (e : List Nat) : (addBuf s e).width = s.width := rfl
@[simp] theorem addBuf_counter (s : RdState) (e : List Nat) : (addBuf s e).counter = s.counter := rfl
@[simp] theorem addBuf_out (s : RdState) (e : List Nat) : (addBuf s e).out = s.out := rfl
theorem addBuf_addBuf (s : RdState) (a b : List Nat) : addBuf (addBuf s a) b = addBuf s (a ++ b) := by
  simp [addBuf, List.append_assoc]
theorem addBuf_nil (s : RdState) : addBuf s [] = s := by simp [addBuf]

theorem rdStep_seq (m : Mode) (s : RdState) (l : List Nat) (hl : SeqLine l) :
    rdStep m s l = if s.started = false then .error (s.out, .badFormat) else
      match seqLine m l with
      | none => .error (s.out, .invalidNuc)
      | some e => .ok (addBuf s e) := by
  obtain ⟨hne, hh⟩ := hl
  cases l with
  | nil => exact absurd rfl hne
  | cons x t =>
    have hx : x ≠ 62 := by intro h; subst h; simp at hh
    unfold rdStep
    split
    · rename_i heq; cases heq
    · rename_i d heq; cases heq; exact absurd rfl hx
    · rcases s with ⟨_ | _, _, _, _, _, _, _⟩ <;> rfl

theorem rdStep_refused (m : Mode) (l : List Nat) (hl : SeqLine l) (h : seqLine m l = none) (s : RdState) :
    ∃ e, rdStep m s l = .error e := by
  rw [rdStep_seq m s l hl, h]
  split <;> exact ⟨_, rfl⟩

theorem rdStep_header (m : Mode) (s : RdState) (d : List Nat) :
    rdStep m s (62 :: d) = match firstField d with
      | none => .error (s.out, .badFormat)
      | some id =>
        if s.started = false then .ok { s with started := true, id := id, desc := d }
        else if s.counter ≠ 0 ∧ s.buf.length ≠ s.width then .error (s.out, .diffLen)
        else .ok (startRec s id d) := by
  simp only [rdStep]
  cases firstField d with
  | none => rfl
  | some id => cases hs : s.started <;> simp [startRec, hs]

theorem rdStep_header_no_id (m : Mode) (s : RdState) {d : List Nat} (hd : firstField d = none) :
    rdStep m s (62 :: d) = .error (s.out, .badFormat) := by
  rw [rdStep_header, hd]

theorem rdStep_first_header (m : Mode) (d id : List Nat) (hid : firstField d = some id) :
    rdStep m {} (62 :: d) = .ok { started := true, id := id, desc := d } := by
  rw [rdStep_header, hid]
  rfl

theorem rdLines_chunks (m : Mode) (g : Nat → Nat) : ∀ (chunks : List (List Nat)) (s : RdState) (rest : List (List Nat)),
    s.started = true → (∀ l ∈ chunks, SeqLine l ∧ seqLine m l = some (l.map g)) →
    rdLines m s (chunks ++ rest) = rdLines m (addBuf s (chunks.flatten.map g)) rest := by
  intro chunks
  induction chunks with
  | nil => intro s rest _ _; simp [addBuf_nil]
  | cons c t ih =>
    intro s rest hs h
    have hc := h c (by simp)
    simp only [List.cons_append, rdLines]
    rw [rdStep_seq m s c hc.1, if_neg (by simp [hs]), hc.2]
    simp only
    rw [ih (addBuf s (c.map g)) rest (by simp [hs]) (fun l hl => h l (by simp [hl])), addBuf_addBuf]
    simp

def recOf (g : Nat → Nat) (r : LRec) (k : Nat) : FaRec :=
  { id := r.id, desc := r.desc, seq := r.seq.map g, idx := k, score := scoreSeq (r.seq.map g) }

def recsFrom (g : Nat → Nat) : List LRec → Nat → List FaRec
  | [], _ => []
  | r :: rs, k => recOf g r k :: recsFrom g rs (k + 1)

/-- a laid-out record the reader of mode `m` takes: its header has the ID, its sequence lines are accepted and stored
through the byte map `g`, and its sequence has length `W`. `hchunks` leaves `g` no freedom on the bytes of the record:
it is `gOf m` there (`seqLine_cases` below). Where the width is not what is being said the statements instantiate
`W := r.seq.length`, which makes `hlen` trivial -/
structure WFRec (m : Mode) (g : Nat → Nat) (W : Nat) (r : LRec) : Prop where
  hid : firstField r.desc = some r.id
  hchunks : ∀ l ∈ r.chunks, SeqLine l ∧ seqLine m l = some (l.map g)
  hlen : r.seq.length = W

/-- what a reader stores for an accepted byte -/
def gOf : Mode → Nat → Nat
  | .plain => asciiUpper
  | .encoded hard => enc hard

theorem seqLine_cases (m : Mode) (l : List Nat) : seqLine m l = none ∨ seqLine m l = some (l.map (gOf m)) := by
  cases m with
  | plain => exact .inr rfl
  | encoded hard =>
    induction l with
    | nil => exact .inr rfl
    | cons b t ih =>
      simp only [seqLine, encodeLine] at ih ⊢
      split
      · exact .inl rfl
      · rcases ih with h | h <;> simp [h, gOf]

theorem recsFrom_append (g : Nat → Nat) : ∀ (a b : List LRec) (k : Nat),
    recsFrom g (a ++ b) k = recsFrom g a k ++ recsFrom g b (k + a.length)
  | [], b, k => rfl
  | x :: a, b, k => by
    simp only [List.cons_append, recsFrom, recsFrom_append g a b (k + 1), List.length_cons]
    rw [show k + 1 + a.length = k + (a.length + 1) by omega]

theorem recsFrom_seq (g : Nat → Nat) : ∀ (rs : List LRec) (k : Nat), ∀ x ∈ recsFrom g rs k, ∃ y ∈ rs, x.seq = y.seq.map g
  | [], _, _, hx => nomatch hx
  | r :: t, k, x, hx => by
    rcases List.mem_cons.1 hx with rfl | hx
    · exact ⟨r, by simp, rfl⟩
    · obtain ⟨y, hy, e⟩ := recsFrom_seq g t (k + 1) x hx
      exact ⟨y, by simp [hy], e⟩

theorem recsFrom_congr (g : Nat → Nat) : ∀ (a b : List LRec) (k : Nat),
    a.map (fun r => (r.id, r.desc, r.seq)) = b.map (fun r => (r.id, r.desc, r.seq)) → recsFrom g a k = recsFrom g b k
  | [], [], _, _ => rfl
  | [], _ :: _, _, h => nomatch h
  | _ :: _, [], _, h => nomatch h
  | x :: xs, y :: ys, k, h => by
    simp only [List.map_cons, List.cons.injEq, Prod.mk.injEq] at h
    obtain ⟨⟨h1, h2, h3⟩, h4⟩ := h
    simp only [recsFrom, recOf, h1, h2, h3, recsFrom_congr g xs ys (k + 1) h4]

/-! ### the reader on records

After a header the reader is in one kind of state only: some records delivered, one pending. Reading is followed record
by record through these states; the result is an equivalence, whose two directions are "a layout of well-formed
records is read as those records" and "rows of unequal length are refused". -/

/-- the reader's state when the records `pre` are delivered and `r` is pending, its header and sequence read. `W` is
the width stored at the second header (the field is still 0 while `pre` is empty) -/
def pending (g : Nat → Nat) (W : Nat) (pre : List LRec) (r : LRec) : RdState :=
  { started := true, id := r.id, desc := r.desc, buf := r.seq.map g, width := if pre = [] then 0 else W,
    counter := pre.length, out := recsFrom g pre 0 }

/-- while `pre = []` the width field is not yet set: the header of `r'` stores the length of `r` there, hence `hW` -/
theorem pending_next (g : Nat → Nat) (W : Nat) (pre : List LRec) (r r' : LRec) (hW : pre = [] → r.seq.length = W) :
    addBuf (startRec (pending g W pre r) r'.id r'.desc) (r'.seq.map g) = pending g W (pre ++ [r]) r' := by
  cases pre with
  | nil => simp [pending, startRec, addBuf, recsFrom, mkRec, recOf, hW rfl]
  | cons p ps => simp [pending, startRec, addBuf, recsFrom_append, recsFrom, mkRec, recOf, Nat.add_comm]

theorem finish_pending (g : Nat → Nat) (W : Nat) (pre : List LRec) (r : LRec) (out : List FaRec)
    (hW : pre = [] → r.seq.length = W) :
    rdFinish (pending g W pre r) = .ok out ↔
      r.seq.length = W ∧ (0 < W ∨ pre ≠ []) ∧ out = recsFrom g (pre ++ [r]) 0 := by
  have hout : (pending g W pre r).out ++ [mkRec (pending g W pre r)] = recsFrom g (pre ++ [r]) 0 := by
    simp [pending, recsFrom_append, recsFrom, mkRec, recOf]
  unfold rdFinish
  rw [hout]
  cases pre with
  | nil =>
    have := hW rfl
    simp only [pending, List.length_map, List.length_nil, Nat.lt_irrefl, decide_false, Bool.or_false, Bool.false_and]
    by_cases h0 : 0 < W <;> simp [this, h0] <;> exact eq_comm
  | cons p ps =>
    by_cases h : r.seq.length = W <;> simp [pending, h] <;> exact eq_comm

/-- `hr'` says nothing of the width of `r'`: that is checked one record later -/
theorem rdLines_step (m : Mode) (g : Nat → Nat) (W : Nat) (pre : List LRec) (r r' : LRec) (rest : List (List Nat))
    (hr' : WFRec m g r'.seq.length r') (hW : pre = [] → r.seq.length = W) :
    rdLines m (pending g W pre r) (r'.lines ++ rest) =
      if pre = [] ∨ r.seq.length = W then rdLines m (pending g W (pre ++ [r]) r') rest
      else .error (recsFrom g pre 0, .diffLen) := by
  have hcond : ((pending g W pre r).counter ≠ 0 ∧ (pending g W pre r).buf.length ≠ (pending g W pre r).width) ↔
      ¬(pre = [] ∨ r.seq.length = W) := by
    cases pre <;> simp [pending]
  rw [LRec.lines, List.cons_append, rdLines, rdStep_header, hr'.hid]
  simp only [show (pending g W pre r).started = true from rfl, Bool.true_eq_false, if_false]
  by_cases hc : pre = [] ∨ r.seq.length = W
  · rw [if_pos hc, if_neg (fun h => hcond.1 h hc)]
    simp only
    rw [rdLines_chunks m g r'.chunks _ _ rfl hr'.hchunks, ← LRec.seq, pending_next g W pre r r' hW]
  · rw [if_neg hc, if_pos (hcond.2 hc)]
    rfl

theorem read_pending (m : Mode) (g : Nat → Nat) (W : Nat) (out : List FaRec) : ∀ (rs pre : List LRec) (r : LRec),
    (∀ x ∈ rs, WFRec m g x.seq.length x) → (pre = [] → r.seq.length = W) →
    ((rdLines m (pending g W pre r) (renderLines rs)).bind rdFinish = .ok out ↔
      r.seq.length = W ∧ (∀ x ∈ rs, x.seq.length = W) ∧ (0 < W ∨ pre ≠ [] ∨ rs ≠ []) ∧
        out = recsFrom g (pre ++ r :: rs) 0)
  | [], pre, r, _, hW => by
    simpa [renderLines, rdLines, Except.bind] using finish_pending g W pre r out hW
  | r' :: rs, pre, r, h, hW => by
    rw [show renderLines (r' :: rs) = r'.lines ++ renderLines rs by simp [renderLines],
      rdLines_step m g W pre r r' _ (h r' (by simp)) hW]
    split
    · have hlen : r.seq.length = W := (‹_› : pre = [] ∨ _).elim hW id
      rw [read_pending m g W out rs (pre ++ [r]) r' (fun x hx => h x (by simp [hx])) (by simp)]
      simp [hlen, and_assoc]
    · exact iff_of_false (fun h => nomatch h) fun h => ‹¬(pre = [] ∨ _)› (.inr h.1)

/-- `W` is free because `pending g W [] r0` does not contain it -/
theorem rdLines_first (m : Mode) (g : Nat → Nat) (W : Nat) (r0 : LRec) (h0 : WFRec m g r0.seq.length r0)
    (rest : List (List Nat)) : rdLines m {} (r0.lines ++ rest) = rdLines m (pending g W [] r0) rest := by
  rw [LRec.lines, List.cons_append, rdLines, rdStep_first_header m _ _ h0.hid]
  exact rdLines_chunks m g r0.chunks _ rest rfl h0.hchunks

theorem read_records_iff (m : Mode) (g : Nat → Nat) (r0 : LRec) (rs : List LRec) (out : List FaRec)
    (h : ∀ x ∈ r0 :: rs, WFRec m g x.seq.length x) :
    (rdLines m {} (renderLines (r0 :: rs))).bind rdFinish = .ok out ↔
      (∀ x ∈ rs, x.seq.length = r0.seq.length) ∧ (0 < r0.seq.length ∨ rs ≠ []) ∧ out = recsFrom g (r0 :: rs) 0 := by
  rw [show renderLines (r0 :: rs) = r0.lines ++ renderLines rs by simp [renderLines],
    rdLines_first m g r0.seq.length r0 (h r0 (by simp)),
    read_pending m g r0.seq.length out rs [] r0 (fun x hx => h x (by simp [hx])) fun _ => rfl]
  simp

theorem readFasta_eq_bind (m : Mode) (bytes : List Nat) :
    readFasta m bytes = (rdLines m {} (splitLines bytes)).bind rdFinish := by
  unfold readFasta
  cases rdLines m {} (splitLines bytes) <;> rfl

theorem rdLines_wfRecs (m : Mode) (g : Nat → Nat) (W : Nat) (r0 : LRec) (rs : List LRec) (hpos : 0 < W ∨ rs ≠ [])
    (h : ∀ x ∈ r0 :: rs, WFRec m g W x) :
    (rdLines m {} (renderLines (r0 :: rs))).bind rdFinish = .ok (recsFrom g (r0 :: rs) 0) := by
  have h0 := (h r0 (by simp)).hlen
  exact (read_records_iff m g r0 rs _ fun x hx => ⟨(h x hx).hid, (h x hx).hchunks, rfl⟩).2
    ⟨fun x hx => (h x (by simp [hx])).hlen.trans h0.symm, h0 ▸ hpos, rfl⟩

theorem rdLines_file (m : Mode) (g : Nat → Nat) (r0 : LRec) (rs : List LRec) (hpos : 0 < r0.seq.length ∨ rs ≠ [])
    (h0 : WFRec m g r0.seq.length r0) (hrs : ∀ r ∈ rs, WFRec m g r0.seq.length r) :
    (rdLines m {} (renderLines (r0 :: rs))).bind rdFinish = .ok (recsFrom g (r0 :: rs) 0) :=
  rdLines_wfRecs m g r0.seq.length r0 rs hpos (List.forall_mem_cons.2 ⟨h0, hrs⟩)

end Gofasta.Lemmas
