import Gofasta.Lemmas.Enc
import Gofasta.Spec.Tables
/-
C17 — the genetic code and nucleotide tables are sound and complete over IUPAC.
The domain is finite: every statement is decided by the kernel on the tables regenerated from
the Go source on this run, then lifted to sequences of any length by induction.
-/
namespace Gofasta.Props.C17
open Gofasta Base Model Spec Lemmas

theorem chkCodons_ok : chkCodons = true := by decide +kernel

/-- the complement checks, character by character, in one pass over the 32 accepted characters -/
theorem comp_checks : ∀ b ∈ accepted32, compTextOk b = true ∧ compEncOk b = true ∧ compText (compText b) = b ∧
    compEnc (compEnc (enc false b)) = enc false b ∧
    letterSet (compText (upper b)) = (letterSet (upper b)).map compSet := by decide +kernel

theorem chkCompText_ok : chkCompText = true := List.all_eq_true.2 fun b hb => (comp_checks b hb).1
theorem chkCompEnc_ok : chkCompEnc = true := List.all_eq_true.2 fun b hb => (comp_checks b hb).2.1
theorem chkCompInvolutive_ok : chkCompInvolutive = true := by
  rw [chkCompInvolutive, Bool.and_eq_true, List.all_eq_true, List.all_eq_true]
  exact ⟨fun b hb => beq_iff_eq.2 (comp_checks b hb).2.2.1, fun b hb => beq_iff_eq.2 (comp_checks b hb).2.2.2.1⟩

theorem asc_pairwise : ∀ (l : List Nat), ascCheck l = true → l.Pairwise (· < ·) := by
  intro l
  induction l with
  | nil => intro _; exact List.Pairwise.nil
  | cons a t ih =>
    intro h
    cases t with
    | nil => simp
    | cons b t' =>
      simp only [ascCheck, Bool.and_eq_true, decide_eq_true_eq] at h
      have ht := ih h.2
      refine List.pairwise_cons.2 ⟨?_, ht⟩
      intro x hx
      rcases List.mem_cons.1 hx with rfl | hx
      · exact h.1
      · have := (List.pairwise_cons.1 ht).1 x hx; omega

theorem merge_sound : ∀ (cs : List (List Nat)) (d : List (List Nat × List Nat)),
    mergeCheck cs d = true → (cs.map codonCode).Pairwise (· < ·) →
    (∀ e ∈ d, e.1 ∈ cs) ∧ (∀ c ∈ cs, (d.find? (fun e => e.1 == c)).map (·.2) = specCodon c) := by
  intro cs
  induction cs with
  | nil =>
    intro d h _
    simp only [mergeCheck, List.isEmpty_iff] at h
    subst h; simp
  | cons c cs ih =>
    intro d h hs
    have hs' : (cs.map codonCode).Pairwise (· < ·) := (List.pairwise_cons.1 (by simpa using hs)).2
    have hnot : c ∉ cs := by
      intro hc
      have h1 := (List.pairwise_cons.1 (by simpa using hs)).1 (codonCode c) (List.mem_map_of_mem hc)
      omega
    cases d with
    | nil =>
      simp only [mergeCheck, Bool.and_eq_true] at h
      obtain ⟨_, h2⟩ := ih [] h.2 hs'
      refine ⟨by simp, ?_⟩
      intro c' hc'
      rcases List.mem_cons.1 hc' with rfl | hc'
      · have := h.1; simp only [Option.isNone_iff_eq_none] at this; simp [this]
      · exact h2 c' hc'
    | cons e d' =>
      obtain ⟨k, v⟩ := e
      simp only [mergeCheck] at h
      split at h
      · rename_i hk
        have hkc : k = c := by simpa using hk
        subst hkc
        simp only [Bool.and_eq_true, beq_iff_eq] at h
        obtain ⟨h1, h2⟩ := ih d' h.2 hs'
        refine ⟨?_, ?_⟩
        · intro e he
          rcases List.mem_cons.1 he with rfl | he
          · simp
          · exact List.mem_cons_of_mem _ (h1 e he)
        · intro c' hc'
          rcases List.mem_cons.1 hc' with rfl | hc'
          · simp [h.1]
          · have hne : (k == c') = false := by
              simp only [beq_eq_false_iff_ne]; intro heq; subst heq; exact hnot hc'
            simp only [List.find?_cons, hne]
            exact h2 c' hc'
      · rename_i hk
        simp only [Bool.and_eq_true] at h
        obtain ⟨h1, h2⟩ := ih ((k, v) :: d') h.2 hs'
        refine ⟨fun e he => List.mem_cons_of_mem _ (h1 e he), ?_⟩
        intro c' hc'
        rcases List.mem_cons.1 hc' with rfl | hc'
        · have hnone : specCodon c' = none := by simpa using h.1
          rw [hnone]
          have : ((k, v) :: d').find? (fun e => e.1 == c') = none := by
            rw [List.find?_eq_none]
            intro e he hbeq
            have : e.1 = c' := by simpa using hbeq
            exact hnot (this ▸ h1 e he)
          simp [this]
        · exact h2 c' hc'

theorem codons_all : (∀ e ∈ Gen.codonDict, e.1 ∈ allCodons) ∧
    (∀ c ∈ allCodons, dictLookup c = specCodon c) := by
  have h := chkCodons_ok
  simp only [chkCodons, Bool.and_eq_true] at h
  exact merge_sound allCodons Gen.codonDict h.1 (asc_pairwise _ h.2)

/-- **C17.codon_sound_complete** — for each of the 3375 codons over the 15 IUPAC codes the
dictionary has an entry iff all A/C/G/T expansions share one product under NCBI table 1, and the
entry is that product. -/
theorem codon_sound_complete (c : List Nat) (hc : c ∈ allCodons) : dictLookup c = specCodon c :=
  codons_all.2 c hc

/-- **C17.dict_domain** — the dictionary has no entry outside the 3375 codons -/
theorem dict_domain (e : List Nat × List Nat) (he : e ∈ Gen.codonDict) : e.1 ∈ allCodons :=
  codons_all.1 e he

theorem mem_codes15_of_letterSet {u s : Nat} (h : letterSet u = some s) : u ∈ codes15 := by
  unfold letterSet at h
  split at h <;> first | decide | cases h

theorem mem_allCodons (a b c : Nat) : [a, b, c] ∈ allCodons ↔ a ∈ codes15 ∧ b ∈ codes15 ∧ c ∈ codes15 := by
  unfold allCodons
  simp only [List.mem_flatMap, List.mem_map]
  constructor
  · rintro ⟨x, hx, y, hy, z, hz, he⟩
    simp only [List.cons.injEq, and_true] at he
    obtain ⟨rfl, rfl, rfl⟩ := he
    exact ⟨hx, hy, hz⟩
  · rintro ⟨ha, hb, hc⟩
    exact ⟨a, ha, b, hb, c, hc, rfl⟩

theorem specCodon_eq_none {c : List Nat} (h : c ∉ allCodons) : specCodon c = none := by
  unfold specCodon
  split
  · next x y z =>
    split
    · next hx hy hz =>
      exact (h ((mem_allCodons x y z).2
        ⟨mem_codes15_of_letterSet hx, mem_codes15_of_letterSet hy, mem_codes15_of_letterSet hz⟩)).elim
    · rfl
  · rfl

/-- sound and complete on the 3375 codons, and empty elsewhere on both sides -/
theorem dictLookup_eq_specCodon (c : List Nat) : dictLookup c = specCodon c := by
  by_cases hc : c ∈ allCodons
  · exact codon_sound_complete c hc
  · have : Gen.codonDict.find? (fun e => e.1 == c) = none :=
      List.find?_eq_none.2 fun e he hb => hc (beq_iff_eq.1 hb ▸ dict_domain e he)
    rw [specCodon_eq_none hc, dictLookup, this]
    rfl

/-- **C17** — complementing any accepted character yields the character denoting the
base-wise complements, in text form … -/
theorem comp_sets_text (b : Nat) (hb : b ∈ accepted32) :
    baseSet false (compText b) = (baseSet false b).map compSet := by
  have := (comp_checks b hb).1
  simp only [compTextOk, Bool.and_eq_true, beq_iff_eq] at this
  exact this.1.1

/-- … and in the bit-encoded form -/
theorem comp_sets_enc (b : Nat) (hb : b ∈ accepted32) : compEnc (enc false b) = enc false (compText b) :=
  beq_iff_eq.1 (comp_checks b hb).2.1

theorem compText_involutive (b : Nat) (hb : b ∈ accepted32) : compText (compText b) = b :=
  (comp_checks b hb).2.2.1

/-- **C17.comp_involutive** — complement is an involution on sequences of any length -/
theorem comp_involutive (s : List Nat) (hs : ∀ b ∈ s, b ∈ accepted32) : complement (complement s) = s := by
  unfold complement
  rw [List.map_map]
  exact (List.map_congr_left fun b hb => compText_involutive b (hs b hb)).trans (List.map_id' s)

/-- **C17.revcomp_involutive** — reverse-complement twice is the identity -/
theorem revcomp_involutive (s : List Nat) (hs : ∀ b ∈ s, b ∈ accepted32) :
    reverseComplement (reverseComplement s) = s := by
  unfold reverseComplement complement
  rw [List.map_reverse, List.reverse_reverse]
  exact comp_involutive s hs

theorem translate_nil (strict : Bool) : translateGo strict [] = some [] := rfl

/-- **C17** — translation goes codon by codon: a codon with an entry contributes that entry … -/
theorem translate_cons (strict : Bool) (a b c : Nat) (rest : List Nat) (aa : List Nat)
    (h : dictLookup [a, b, c] = some aa) :
    translateGo strict (a :: b :: c :: rest) = (translateGo strict rest).map (aa ++ ·) := by
  simp [translateGo, h]

/-- … and a codon without one makes strict translation fail, while the lenient one writes 'X' (88) -/
theorem translate_unknown (a b c : Nat) (rest : List Nat) (h : dictLookup [a, b, c] = none) :
    translateGo true (a :: b :: c :: rest) = none ∧
    translateGo false (a :: b :: c :: rest) = (translateGo false rest).map (88 :: ·) := by
  simp [translateGo, h]

/-- non-vacuity: TAG and TGA are stops, MGR is arginine, CTN leucine, NNN untranslatable -/
example : dictLookup [84, 65, 71] = some [42] ∧ dictLookup [84, 71, 65] = some [42] ∧
    dictLookup [77, 71, 82] = some [82] ∧ dictLookup [67, 84, 78] = some [76] ∧ dictLookup [78, 78, 78] = none := by
  decide +kernel

end Gofasta.Props.C17
