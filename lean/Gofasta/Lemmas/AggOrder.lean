import Gofasta.Props.C13
/-
C12 for `snps --aggregate`: the aggregate table does not depend on the order in which the per-sequence rows arrive.
-/
namespace Gofasta.Lemmas.AggOrder
open Gofasta Model Gofasta.Props.C13

abbrev Entry := Snp × Nat

def keys (m : List Entry) : List Snp := m.map (·.1)

theorem keys_eq (m : List Entry) : keys m = AggVariants.keys m := rfl

theorem countAll_keys (rows : List (List Snp)) :
    (keys (countAll rows)).Nodup ∧ ∀ j, j ∈ keys (countAll rows) ↔ j ∈ rows.flatten := by
  rw [countAll_eq_insAll, keys_eq]
  exact ⟨AggVariants.nodup_keys_insAll_nil _, fun j => AggVariants.mem_keys_insAll_nil j _⟩

theorem countAll_perm (rows1 rows2 : List (List Snp)) (h : rows1.Perm rows2) : (countAll rows1).Perm (countAll rows2) := by
  rw [countAll_eq_insAll, countAll_eq_insAll]
  exact AggVariants.insAll_perm _ _ h.flatten

/-- entries that the sort key does not separate are the same mutation (one reference: one reference symbol per position) -/
def KeyDecides (m : List Entry) : Prop := ∀ a ∈ m, ∀ b ∈ m, a.1.1 = b.1.1 → a.1.2.2 = b.1.2.2 → a.1 = b.1

theorem tied_same_key (a b : Entry) (h : tied snpLt a b = true) : a.1.1 = b.1.1 ∧ a.1.2.2 = b.1.2.2 := by
  rw [tied_iff] at h
  simp only [snpLt, Bool.or_eq_false_iff, decide_eq_false_iff_not, Bool.and_eq_false_iff, beq_eq_false_iff_ne] at h
  omega

theorem sort_perm_eq (m1 m2 : List Entry) (hp : m1.Perm m2) (hk : (keys m1).Nodup) (hd : KeyDecides m1) :
    sortStable snpLt m1 = sortStable snpLt m2 :=
  AggVariants.sort_perm_eq_of_keys (SPO.of_swo snpLt_swo) m1 m2 hp hk fun x hx y hy ht =>
    hd x hx y hy (tied_same_key x y ht).1 (tied_same_key x y ht).2

theorem snps_aggregate_any_order (rows1 rows2 : List (List Snp)) (h : rows1.Perm rows2)
    (hd : KeyDecides (countAll rows1)) :
    sortStable snpLt (countAll rows1) = sortStable snpLt (countAll rows2) :=
  sort_perm_eq _ _ (countAll_perm rows1 rows2 h) (countAll_keys rows1).1 hd

theorem snpsRowEnc_ref_symbol : ∀ (rs qs : List Nat) (i : Nat), ∀ s ∈ snpsRowEnc i rs qs,
    ∃ j, s.1 = i + 1 + j ∧ s.2.1 = dec (rs.getD j 0)
  | [], _, _, _, hs => by cases hs
  | _ :: _, [], _, _, hs => by cases hs
  | r :: rs, x :: xs, i, s, hs => by
    have tail : s ∈ snpsRowEnc (i + 1) rs xs → ∃ j, s.1 = i + 1 + j ∧ s.2.1 = dec ((r :: rs).getD j 0) := by
      intro hs
      obtain ⟨j, h1, h2⟩ := snpsRowEnc_ref_symbol rs xs (i + 1) s hs
      exact ⟨j + 1, by rw [h1, Nat.add_assoc, Nat.add_comm 1 j], h2⟩
    rw [snpsRowEnc] at hs
    split at hs
    · rcases List.mem_cons.1 hs with rfl | hs
      · exact ⟨0, rfl, rfl⟩
      · exact tail hs
    · exact tail hs

theorem keyDecides_of_rows (refE : List Nat) (rows : List (List Snp))
    (h : ∀ row ∈ rows, ∃ q, row = snpsRowEnc 0 refE q) : KeyDecides (countAll rows) := by
  -- an entry of the counting map is a SNP of some row, so its reference symbol is determined by its position
  have hsym : ∀ a ∈ countAll rows, ∃ j, a.1.1 = 0 + 1 + j ∧ a.1.2.1 = dec (refE.getD j 0) := by
    intro a ha
    obtain ⟨ra, hra, hsa⟩ := List.mem_flatten.1 (((countAll_keys _).2 a.1).1 (List.mem_map.2 ⟨a, ha, rfl⟩))
    obtain ⟨qa, rfl⟩ := h ra hra
    exact snpsRowEnc_ref_symbol refE qa 0 a.1 hsa
  intro a ha b hb hpos halt
  obtain ⟨ja, ha1, ha2⟩ := hsym a ha
  obtain ⟨jb, hb1, hb2⟩ := hsym b hb
  have hj : ja = jb := Nat.add_left_cancel (ha1.symm.trans (hpos.trans hb1))
  exact Prod.ext hpos (Prod.ext (by rw [ha2, hb2, hj]) halt)

/-- `snps --aggregate` prints the same table for every order of the records. No hypothesis on the symbols. -/
theorem snpsAggregate_perm (hard : Bool) (thrN thrD : Nat) (ref : List Nat) (recs1 recs2 : List (String × List Nat))
    (h : recs1.Perm recs2) : snpsAggregate hard thrN thrD ref recs1 = snpsAggregate hard thrN thrD ref recs2 := by
  have hd : KeyDecides (countAll (recs1.map fun r => snpsRow hard ref r.2)) :=
    keyDecides_of_rows (ref.map (enc hard)) _ fun row hrow => by
      obtain ⟨r, _, rfl⟩ := List.mem_map.mp hrow
      exact ⟨r.2.map (enc hard), rfl⟩
  unfold snpsAggregate
  simp only []
  rw [snps_aggregate_any_order _ _ (h.map _) hd, h.length_eq]

end Gofasta.Lemmas.AggOrder
