import Gofasta.Lemmas.Reorder
import Gofasta.Props.C13
import Gofasta.Props.C06
import Gofasta.Props.C03
import Gofasta.Lemmas.AggOrder
/-
C12 — output is a deterministic function of the input, not of threads or scheduling (partial).
Proved (about the modelled logic): every index-keyed re-ordering writer emits the records in input order
whatever order they arrive in (result slots indexed by query position: `fanout_result` of Lemmas/FanoutProofs);
the aggregate counts do not depend on the order in which per-sequence results arrive.
The goroutines, channels and wait groups of the drivers are modelled in Model/Sched, Model/SchedChain and Model/Fanout,
with the every-schedule theorems in Lemmas/Sched* and Lemmas/Fanout*. Not a theorem: that the Go runtime behaves as
those models say, and the absence of data races — observed by the jitter/threads/GOMAXPROCS stream and (thorough tier)
the race detector.
-/
namespace Gofasta.Props.C12
open Gofasta Model

/-- **C12.writer_any_order** — fastaio.WriteAlignment, WriteWrapAlignment, snps.writeOutput, updown/list.writeOutput,
variants.WriteVariants and both branches (stdout, directory) of sam.writePairwiseAlignment all have this shape (a pending
map keyed by input index, a counter, a flush loop): for ANY permutation in which records 0..n-1 arrive, the emitted
sequence is record 0, 1, …, n-1 -/
theorem writer_any_order {α : Type} (payload : Nat → α) (n : Nat) (arrival : List Nat) (h : arrival.Perm (List.range n)) :
    Reorder.run (arrival.map fun i => (i, payload i)) = (List.range n).map payload :=
  Reorder.run_perm payload n arrival h

theorem writer_order_independent {α : Type} (payload : Nat → α) (n : Nat) (a1 a2 : List Nat)
    (h1 : a1.Perm (List.range n)) (h2 : a2.Perm (List.range n)) :
    Reorder.run (a1.map fun i => (i, payload i)) = Reorder.run (a2.map fun i => (i, payload i)) := by
  rw [writer_any_order payload n a1 h1, writer_any_order payload n a2 h2]

/-- **C12.aggregate_counts_any_order** — the count stored for a mutation after all per-sequence results have arrived
does not depend on their arrival order -/
theorem aggregate_counts_any_order (k : Snp) (rows1 rows2 : List (List Snp)) (h : rows1.Perm rows2) :
    Gofasta.Props.C13.countOf k (countAll rows1) = Gofasta.Props.C13.countOf k (countAll rows2) := by
  unfold countAll
  rw [Gofasta.Props.C13.countAll_is_occurrences, Gofasta.Props.C13.countAll_is_occurrences, h.flatten.count_eq]

/-- **C12.snpLt_total** — the sort key of the snps aggregate table, (position, query allele), orders any two
distinct entries of one reference strictly one way or the other (so the stable sort's output does not depend on
the map-iteration order it starts from) -/
theorem snpLt_total (a b : Snp × Nat) (h : a.1.1 ≠ b.1.1 ∨ a.1.2.2 ≠ b.1.2.2) : snpLt a b = true ∨ snpLt b a = true := by
  simp only [snpLt, Bool.or_eq_true, decide_eq_true_eq, Bool.and_eq_true, beq_iff_eq]
  omega

theorem snpLt_asymm (a b : Snp × Nat) (h : snpLt a b = true) : snpLt b a = false :=
  Gofasta.Props.C13.snpLt_swo.asymm a b h

/-- `C06.natLt` orders any two different (distance, completeness) pairs one way or the other: only targets equal in both
can be tied in the catchment, and those it keeps in file order -/
theorem natKey_total (a b : Nat × Nat) (h : a ≠ b) : Gofasta.Props.C06.natLt a b = true ∨ Gofasta.Props.C06.natLt b a = true := by
  have : a.1 ≠ b.1 ∨ a.2 ≠ b.2 := by
    by_cases h1 : a.1 = b.1
    · right; intro h2; exact h (Prod.ext h1 h2)
    · left; exact h1
  simp only [Gofasta.Props.C06.natLt, Bool.or_eq_true, decide_eq_true_eq, Bool.and_eq_true, beq_iff_eq]
  omega

/-- in the specification, the reference symbol of a listed SNP is a function of its position (the theorem below takes
the same fact from the model's own row function, `AggOrder.snpsRowEnc_ref_symbol`) -/
theorem spec_ref_symbol (hard : Bool) : ∀ (ref q : List Nat) (i : Nat), ∀ s ∈ Spec.specSnpsFrom hard i ref q,
    i < s.1 ∧ s.2.1 = Spec.shown (ref.getD (s.1 - 1 - i) 0) := by
  intro ref
  induction ref with
  | nil => intro q i s hs; simp [Spec.specSnpsFrom] at hs
  | cons r rs ih =>
    intro q i s hs
    cases q with
    | nil => simp [Spec.specSnpsFrom] at hs
    | cons x xs =>
      simp only [Spec.specSnpsFrom] at hs
      have tail : ∀ s ∈ Spec.specSnpsFrom hard (i + 1) rs xs, i < s.1 ∧ s.2.1 = Spec.shown ((r :: rs).getD (s.1 - 1 - i) 0) := by
        intro s hs
        have := ih xs (i + 1) s hs
        refine ⟨by omega, ?_⟩
        have e : s.1 - 1 - i = (s.1 - 1 - (i + 1)) + 1 := by omega
        rw [e, List.getD_cons_succ]; exact this.2
      split at hs
      · rcases List.mem_cons.1 hs with rfl | hs
        · exact ⟨Nat.lt_succ_self i, by simp⟩
        · exact tail s hs
      · exact tail s hs

-- `hr` and `hq` are not used: the model's row function fixes the reference symbol of a position for any symbols
open Gofasta.Lemmas.AggOrder in
/-- **C12.snps_aggregate_deterministic** — `snps --aggregate`: the whole table (which mutations, their counts, their
order, hence the printed text) is the same whatever order the per-sequence results reach the aggregating writer in;
for every reference and alignment over the accepted alphabet -/
theorem snps_aggregate_deterministic (hard : Bool) (thrN thrD : Nat) (ref : List Nat)
    (recs1 recs2 : List (String × List Nat)) (h : recs1.Perm recs2)
    (hr : C03.Accepted hard ref) (hq : ∀ r ∈ recs1, C03.Accepted hard r.2) :
    snpsAggregate hard thrN thrD ref recs1 = snpsAggregate hard thrN thrD ref recs2 := by
  have _ := hr
  have _ := hq
  exact snpsAggregate_perm hard thrN thrD ref recs1 recs2 h

/-- non-vacuity: three records arriving as 2, 0, 1 -/
example : Reorder.run [(2, "c"), (0, "a"), (1, "b")] = ["a", "b", "c"] := by decide

end Gofasta.Props.C12
