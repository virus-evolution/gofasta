import Gofasta.Lemmas.TextFacts
import Gofasta.Lemmas.ListFacts
/-
C09: what `updown list` writes, `updown topranking` reads back — for every row, whatever bytes but line breaks the ID holds.
-/
namespace Gofasta.Lemmas.CsvRT
open Gofasta Model Model.Csv

/-- a byte that an unquoted field may hold and that is no part of a line end -/
abbrev PlainByte (b : Nat) : Prop := b ≠ comma ∧ b ≠ quote ∧ b ≠ nl ∧ b ≠ cr

def PlainField (f : Bytes) : Prop := ∀ b ∈ f, PlainByte b

theorem plainByte_digit {b : Nat} (h : isDigitB b = true) : PlainByte b :=
  ⟨digit_ne h (by decide), digit_ne h (by decide), digit_ne h (by decide), digit_ne h (by decide)⟩

/-- a byte that may stand for a reference or query symbol in a SNP: not a CSV or list delimiter -/
def symOk (b : Nat) : Prop := b ≠ comma ∧ b ≠ quote ∧ b ≠ nl ∧ b ≠ cr ∧ b ≠ pipe

theorem symOk.plain {b : Nat} (h : symOk b) : PlainByte b := ⟨h.1, h.2.1, h.2.2.1, h.2.2.2.1⟩

theorem symOk.ne_pipe {b : Nat} (h : symOk b) : b ≠ pipe := h.2.2.2.2

theorem forall_mem_ambB {P : Nat → Prop} (hd : ∀ b, isDigitB b = true → P b) (hdash : P dashB) (a : Nat × Nat) :
    ∀ b ∈ ambB a, P b := by
  have hn : ∀ n, ∀ b ∈ digitsOf n, P b := fun n b hb => hd b (digitsOf_isDigit n b hb)
  unfold ambB
  split
  · exact hn _
  · exact List.forall_mem_append.2 ⟨hn _, List.forall_mem_cons.2 ⟨hdash, hn _⟩⟩

theorem forall_mem_snpB {P : Nat → Prop} (hd : ∀ b, isDigitB b = true → P b) (s : Snp) (h1 : P s.2.1) (h2 : P s.2.2) :
    ∀ b ∈ snpB s, P b :=
  List.forall_mem_append.2 ⟨List.forall_mem_cons.2 ⟨h1, fun b hb => hd b (digitsOf_isDigit s.1 b hb)⟩,
    List.forall_mem_singleton.2 h2⟩

theorem forall_mem_quoteField {P : Nat → Prop} (hq : P quote) (id : Bytes) (h : ∀ b ∈ id, P b) :
    ∀ b ∈ quoteField id, P b := by
  unfold quoteField
  split
  · refine List.forall_mem_append.2 ⟨List.forall_mem_cons.2 ⟨hq, List.forall_mem_flatMap.2 fun x hx b hb => ?_⟩,
      List.forall_mem_singleton.2 hq⟩
    split at hb
    · rcases List.mem_cons.1 hb with rfl | hb
      · exact hq
      · rw [List.mem_singleton.1 hb]; exact hq
    · rw [List.mem_singleton.1 hb]; exact h x hx
  · exact h

theorem ambB_ne_nil (a : Nat × Nat) : ambB a ≠ [] := by
  unfold ambB
  split
  · exact digitsOf_ne_nil _
  · exact fun h => digitsOf_ne_nil _ (List.append_eq_nil_iff.1 h).1

def flatAmbs (ambs : List (Nat × Nat)) : List Int := ambs.flatMap fun a => [(a.1 : Int), (a.2 : Int)]

def AmbsOk (ambs : List (Nat × Nat)) : Prop := ∀ a ∈ ambs, a.1 ≤ maxInt64 ∧ a.2 ≤ maxInt64

/-- the body of the loop of getAmbArr: one entry added to the array read so far. It is the anonymous function folded
in `Csv.ambArr`, under a name so that lemmas can speak of one step (`ambArr_eq` is the bridge). -/
def ambStep (acc : Option (List Int)) (a : Bytes) : Option (List Int) :=
  match acc with
  | none => none
  | some A =>
    match splitB dashB a with
    | [x] => (match atoi x with | some v => some (A ++ [v, v]) | none => none)
    | [x, y] => (match atoi x, atoi y with | some v, some w => some (A ++ [v, w]) | _, _ => none)
    | _ => none

theorem ambArr_eq (s : Bytes) : ambArr s = (if s = [] then [] else splitB pipe s).foldl ambStep (some []) := by
  unfold ambArr
  split <;> rfl

theorem ambStep_render (A : List Int) (a : Nat × Nat) (h : a.1 ≤ maxInt64 ∧ a.2 ≤ maxInt64) :
    ambStep (some A) (ambB a) = some (A ++ [(a.1 : Int), (a.2 : Int)]) := by
  have hd : ∀ n, ∀ b ∈ digitsOf n, b ≠ dashB := fun n => digitsOf_ne n dashB (by decide)
  unfold ambStep ambB
  by_cases he : a.1 = a.2
  · simp only [he, if_true, splitB_plain dashB _ (hd _), atoi_digitsOf a.2 h.2]
  · simp only [he, if_false, splitB_append_sep dashB _ _ (hd _), splitB_plain dashB _ (hd _), atoi_digitsOf a.1 h.1,
      atoi_digitsOf a.2 h.2]

theorem ambStep_fold : ∀ (ambs : List (Nat × Nat)) (A : List Int), AmbsOk ambs →
    (ambs.map ambB).foldl ambStep (some A) = some (A ++ flatAmbs ambs)
  | [], A, _ => by simp [flatAmbs]
  | a :: t, A, h => by
    obtain ⟨ha, ht⟩ := List.forall_mem_cons.1 h
    rw [List.map_cons, List.foldl_cons, ambStep_render A a ha, ambStep_fold t _ ht, List.append_assoc]
    rfl

theorem ambArr_render (ambs : List (Nat × Nat)) (h : AmbsOk ambs) :
    ambArr (joinB pipe (ambs.map ambB)) = some (flatAmbs ambs) := by
  rw [ambArr_eq, split_column pipe _ (List.forall_mem_map.2 fun a _ => ambB_ne_nil a)
    (List.forall_mem_map.2 fun a _ => forall_mem_ambB (fun _ hb => digit_ne hb (by decide)) (by decide) a)]
  exact ambStep_fold ambs [] h

def SnpsOk (snps : List Snp) : Prop := ∀ s ∈ snps, s.1 ≤ maxInt64 ∧ symOk s.2.1 ∧ symOk s.2.2

theorem snpB_inner (s : Snp) : ((snpB s).drop 1).take ((snpB s).length - 2) = digitsOf s.1 := by
  have hl : (snpB s).length - 2 = (digitsOf s.1).length := by
    simp only [snpB, List.length_cons, List.length_append, List.length_nil]; omega
  rw [hl]
  exact List.take_left'  rfl

theorem snpB_len (s : Snp) : ¬ (snpB s).length < 2 := by
  simp only [snpB, List.length_cons, List.length_append, List.length_nil]
  omega

theorem snpPositions_ok : ∀ (snps : List Snp), SnpsOk snps →
    snpPositions (snps.map snpB) = .ok (snps.map fun s => (s.1 : Int))
  | [], _ => rfl
  | s :: t, h => by
    obtain ⟨hs, ht⟩ := List.forall_mem_cons.1 h
    simp only [List.map_cons, snpPositions, snpB_len s, if_false, snpB_inner s, atoi_digitsOf s.1 hs.1,
      snpPositions_ok t ht]

theorem snpPositions_render : ∀ (snps : List Snp), SnpsOk snps →
    (match snpPositions (snps.map snpB) with | .ok ps => some ps | _ => none) = some (snps.map fun s => (s.1 : Int)) :=
  fun snps h => by rw [snpPositions_ok snps h]

theorem normalise_noCr : ∀ (t : Bytes), (∀ b ∈ t, b ≠ cr) → normalise t = t
  | [], _ => rfl
  | [b], h => by rw [normalise, if_neg (h b List.mem_cons_self)]
  | a :: b :: t, h => by
    obtain ⟨ha, ht⟩ := List.forall_mem_cons.1 h
    rw [normalise, if_neg (fun hc => ha hc.1), normalise_noCr (b :: t) ht]

theorem run_append : ∀ (a b : Bytes) (recs : List (List Bytes)) (cur : List Bytes) (st : St),
    run recs cur st (a ++ b) =
      (match run recs cur st a with
       | (x, true) => run x.1 x.2.1 x.2.2 b
       | (x, false) => (x, false))
  | [], b, recs, cur, st => by simp [run]
  | c :: t, b, recs, cur, st => by
    simp only [List.cons_append, run]
    cases step recs cur st c with
    | none => rfl
    | some x => exact run_append t b x.1 x.2.1 x.2.2

theorem run_bare : ∀ (f rest : Bytes) (recs : List (List Bytes)) (cur : List Bytes) (acc : Bytes), PlainField f →
    run recs cur (.bare acc) (f ++ rest) = run recs cur (.bare (acc ++ f)) rest
  | [], rest, recs, cur, acc, _ => by simp
  | b :: t, rest, recs, cur, acc, h => by
    obtain ⟨hb, ht⟩ := List.forall_mem_cons.1 h
    simp only [List.cons_append, run, step, hb.1, hb.2.1, hb.2.2.1, if_false]
    rw [run_bare t rest recs cur (acc ++ [b]) ht, List.append_assoc]
    rfl

theorem run_plain_comma (f rest : Bytes) (recs : List (List Bytes)) (cur : List Bytes) (h : PlainField f) :
    run recs cur .fieldStart (f ++ comma :: rest) = run recs (f :: cur) .fieldStart rest := by
  cases f with
  | nil => simp [run, step, comma, quote]
  | cons b t =>
    obtain ⟨hb, ht⟩ := List.forall_mem_cons.1 h
    simp only [List.cons_append, run, step, hb.1, hb.2.1, hb.2.2.1, if_false]
    rw [run_bare t (comma :: rest) recs cur [b] ht]
    simp [run, step]

/-- a plain field followed by the end of the line closes the record (unless the line is empty) -/
theorem run_plain_nl (f rest : Bytes) (recs : List (List Bytes)) (cur : List Bytes) (h : PlainField f) (hc : cur ≠ [] ∨ f ≠ []) :
    run recs cur .fieldStart (f ++ nl :: rest) = run ((f :: cur).reverse :: recs) [] .fieldStart rest := by
  cases f with
  | nil =>
    have hcur : cur ≠ [] := hc.resolve_right (fun h => h rfl)
    simp [run, step, comma, quote, nl, hcur]
  | cons b t =>
    obtain ⟨hb, ht⟩ := List.forall_mem_cons.1 h
    simp only [List.cons_append, run, step, hb.1, hb.2.1, hb.2.2.1, if_false]
    rw [run_bare t (nl :: rest) recs cur [b] ht]
    simp [run, step, nl, comma]

theorem run_quoted : ∀ (id rest : Bytes) (recs : List (List Bytes)) (cur : List Bytes) (acc : Bytes),
    run recs cur (.quoted acc) ((id.flatMap fun b => if b == quote then [quote, quote] else [b]) ++ rest) =
      run recs cur (.quoted (acc ++ id)) rest
  | [], rest, recs, cur, acc => by simp
  | b :: t, rest, recs, cur, acc => by
    rw [List.flatMap_cons, List.append_assoc]
    by_cases hb : b = quote
    · subst hb
      simp only [beq_self_eq_true, if_true, List.cons_append, List.nil_append, run, step]
      rw [run_quoted t rest recs cur (acc ++ [quote]), List.append_assoc]
      rfl
    · have hbq : (b == quote) = false := beq_false_of_ne hb
      simp only [hbq, hb, Bool.false_eq_true, if_false, List.cons_append, List.nil_append, run, step]
      rw [run_quoted t rest recs cur (acc ++ [b]), List.append_assoc]
      rfl

theorem run_id_comma (id rest : Bytes) (recs : List (List Bytes)) (cur : List Bytes) :
    run recs cur .fieldStart (quoteField id ++ comma :: rest) = run recs (id :: cur) .fieldStart rest := by
  unfold quoteField
  by_cases hq : needsQuote id = true
  · simp only [hq, if_true, List.cons_append, List.append_assoc, run, step]
    rw [run_quoted id _ recs cur []]
    simp [run, step, comma, quote]
  · simp only [hq, Bool.false_eq_true, if_false]
    apply run_plain_comma
    intro b hb
    have : ¬ (b == comma || b == quote || b == cr || b == nl) = true :=
      fun hh => hq (List.any_eq_true.2 ⟨b, hb, hh⟩)
    simp only [Bool.or_eq_true, beq_iff_eq, not_or] at this
    exact ⟨this.1.1.1, this.1.1.2, this.2, this.1.2⟩

def rowFields (id : Bytes) (l : UDLine) : List Bytes :=
  [id, joinB pipe (l.snps.map snpB), joinB pipe (l.ambs.map ambB), digitsOf l.snpCount, digitsOf l.ambCount]

theorem rowB_eq (id : Bytes) (l : UDLine) : rowB id l = joinB comma (quoteField id :: (rowFields id l).tail) := by
  simp [rowB, rowFields, joinB]

theorem plain_snps (snps : List Snp) (hs : SnpsOk snps) : PlainField (joinB pipe (snps.map snpB)) :=
  forall_mem_joinB (by decide) (List.forall_mem_map.2 fun s hsm =>
    forall_mem_snpB (fun _ => plainByte_digit) s (hs s hsm).2.1.plain (hs s hsm).2.2.plain)

theorem plain_ambs (ambs : List (Nat × Nat)) : PlainField (joinB pipe (ambs.map ambB)) :=
  forall_mem_joinB (by decide) (List.forall_mem_map.2 fun a _ => forall_mem_ambB (fun _ => plainByte_digit) (by decide) a)

theorem plain_digits (n : Nat) : PlainField (digitsOf n) := fun b hb => plainByte_digit (digitsOf_isDigit n b hb)

theorem run_row (id : Bytes) (l : UDLine) (hs : SnpsOk l.snps) (rest : Bytes) (recs : List (List Bytes)) :
    run recs [] .fieldStart (rowB id l ++ nl :: rest) = run (rowFields id l :: recs) [] .fieldStart rest := by
  simp only [rowB_eq, rowFields, List.tail_cons, joinB, List.append_assoc, List.cons_append]
  rw [run_id_comma, run_plain_comma _ _ _ _ (plain_snps _ hs), run_plain_comma _ _ _ _ (plain_ambs _),
    run_plain_comma _ _ _ _ (plain_digits _), run_plain_nl _ _ _ _ (plain_digits _) (Or.inl (List.cons_ne_nil _ _))]
  rfl

theorem run_rows : ∀ (rows : List (Bytes × UDLine)) (recs : List (List Bytes)), (∀ r ∈ rows, SnpsOk r.2.snps) →
    run recs [] .fieldStart (rows.flatMap fun r => rowB r.1 r.2 ++ [nl]) =
      (((rows.map fun r => rowFields r.1 r.2).reverse ++ recs, [], .fieldStart), true)
  | [], recs, _ => by simp [run]
  | r :: t, recs, h => by
    obtain ⟨hr, ht⟩ := List.forall_mem_cons.1 h
    simp only [List.flatMap_cons, List.append_assoc, List.singleton_append]
    rw [run_row r.1 r.2 hr, run_rows t _ ht]
    simp

theorem header_facts :
    run [] [] .fieldStart (headerB ++ [nl]) = (([splitB comma headerB], [], .fieldStart), true) ∧
    (∀ b ∈ headerB, b ≠ cr) ∧ (splitB comma headerB).length = 5 := by
  unfold headerB
  rw [String.toList_ofList]
  decide +kernel

theorem run_header (rest : Bytes) :
    run [] [] .fieldStart (headerB ++ nl :: rest) = run [splitB comma headerB] [] .fieldStart rest := by
  have := run_append (headerB ++ [nl]) rest [] [] .fieldStart
  simp only [List.append_assoc, List.singleton_append] at this
  rw [this, header_facts.1]

theorem noCr_row (id : Bytes) (l : UDLine) (hid : ∀ b ∈ id, b ≠ cr) (hs : SnpsOk l.snps) : ∀ b ∈ rowB id l, b ≠ cr := by
  rw [rowB_eq]
  refine forall_mem_joinB (by decide) (List.forall_mem_cons.2 ⟨forall_mem_quoteField (by decide) id hid, ?_⟩)
  simp only [rowFields, List.tail_cons, List.forall_mem_cons]
  exact ⟨fun b hb => (plain_snps _ hs b hb).2.2.2, fun b hb => (plain_ambs _ b hb).2.2.2,
    fun b hb => (plain_digits _ b hb).2.2.2, fun b hb => (plain_digits _ b hb).2.2.2, fun _ h => nomatch h⟩

def expected (id : Bytes) (l : UDLine) : Row :=
  { id := id, snps := l.snps.map snpB, snpPos := l.snps.map fun s => (s.1 : Int), ambs := flatAmbs l.ambs,
    ambCount := (l.ambCount : Int) }

/-- a row `updown list` can write: numbers within int, SNP symbols that are not delimiters, an ID without line breaks -/
structure RowOk (id : Bytes) (l : UDLine) : Prop where
  id : ∀ b ∈ id, b ≠ cr ∧ b ≠ nl
  snps : SnpsOk l.snps
  ambs : AmbsOk l.ambs
  count : l.ambCount ≤ maxInt64

theorem parseRow_fields (id : Bytes) (l : UDLine) (h : RowOk id l) (acc : List Row) :
    parseRow (rowFields id l) (.ok acc) = .ok (acc ++ [expected id l]) := by
  have hsn := split_column pipe (l.snps.map snpB) (List.forall_mem_map.2 fun s _ => List.cons_ne_nil _ _)
    (List.forall_mem_map.2 fun s hsm =>
      forall_mem_snpB (fun _ hb => digit_ne hb (by decide)) s (h.snps s hsm).2.1.ne_pipe (h.snps s hsm).2.2.ne_pipe)
  simp only [parseRow, rowFields, List.getD_cons_succ, List.getD_cons_zero, ambArr_render l.ambs h.ambs, hsn,
    snpPositions_ok l.snps h.snps, atoi_digitsOf l.ambCount h.count]
  rfl

theorem parse_all : ∀ (rows : List (Bytes × UDLine)) (acc : List Row), (∀ r ∈ rows, RowOk r.1 r.2) →
    (rows.map fun r => rowFields r.1 r.2).foldl (fun o r => parseRow r o) (.ok acc) =
      .ok (acc ++ rows.map fun r => expected r.1 r.2)
  | [], acc, _ => by simp
  | r :: t, acc, h => by
    obtain ⟨hr, ht⟩ := List.forall_mem_cons.1 h
    rw [List.map_cons, List.foldl_cons, parseRow_fields r.1 r.2 hr acc, parse_all t _ ht, List.append_assoc]
    rfl

theorem sameCount_of_length (r0 : List Bytes) (rs : List (List Bytes)) (h : ∀ x ∈ rs, x.length = r0.length) :
    sameCount (r0 :: rs) = (r0 :: rs, true) := by
  have hall : ∀ x ∈ r0 :: rs, (x.length == r0.length) = true :=
    List.forall_mem_cons.2 ⟨beq_self_eq_true _, fun x hx => beq_iff_eq.2 (h x hx)⟩
  simp only [sameCount, takeWhile_all _ _ hall, beq_self_eq_true]

theorem readRecs_of_run (text : Bytes) (recs : List (List Bytes)) (hcr : ∀ b ∈ text, b ≠ cr)
    (hrun : run [] [] .fieldStart text = ((recs.reverse, [], .fieldStart), true))
    (hsame : sameCount recs = (recs, true)) : readRecs text = (recs, true) := by
  simp only [readRecs, normalise_noCr text hcr, hrun, finish, if_true, List.reverse_reverse, hsame, Bool.and_self]

/-- stated for any text: with the written file in place of `text`, unfolding `readUDL` would send the kernel through the
header line byte by byte -/
theorem readUDL_of_recs (text : Bytes) (h0 : List Bytes) (recs : List (List Bytes)) (e : readRecs text = (h0 :: recs, true)) :
    readUDL text = if h0 ≠ splitB comma headerB then .error else
      match recs.foldl (fun o r => parseRow r o) (.ok []) with
      | .ok parsed => .ok parsed
      | o => o := by
  simp only [readUDL, e, if_true]
  rfl

theorem readRecs_file (rows : List (Bytes × UDLine)) (h : ∀ r ∈ rows, RowOk r.1 r.2) :
    readRecs (fileB rows) = (splitB comma headerB :: rows.map fun r => rowFields r.1 r.2, true) := by
  have hnocr : ∀ b ∈ fileB rows, b ≠ cr :=
    List.forall_mem_append.2 ⟨List.forall_mem_append.2 ⟨header_facts.2.1, List.forall_mem_singleton.2 (by decide)⟩,
      List.forall_mem_flatMap.2 fun r hr => List.forall_mem_append.2
        ⟨noCr_row r.1 r.2 (fun x hx => ((h r hr).id x hx).1) (h r hr).snps, List.forall_mem_singleton.2 (by decide)⟩⟩
  refine readRecs_of_run _ _ hnocr ?_ (sameCount_of_length (splitB comma headerB) (rows.map fun r => rowFields r.1 r.2)
    (List.forall_mem_map.2 fun r _ => header_facts.2.2.symm))
  unfold fileB
  rw [List.append_assoc, List.singleton_append, run_header, run_rows rows _ (fun r hr => (h r hr).snps), List.reverse_cons]

/-- `updown topranking` reads back exactly what `updown list` wrote: for every list of rows,
whatever bytes but line breaks the IDs hold (commas and double quotes included), the CSV reader returns the same IDs, SNP strings,
SNP positions, ambiguity ranges and ambiguity counts, in the same order -/
theorem csv_roundtrip (rows : List (Bytes × UDLine)) (h : ∀ r ∈ rows, RowOk r.1 r.2) :
    readUDL (fileB rows) = .ok (rows.map fun r => expected r.1 r.2) := by
  rw [readUDL_of_recs _ _ _ (readRecs_file rows h), if_neg (fun hne => hne rfl), parse_all rows [] h]
  rfl

end Gofasta.Lemmas.CsvRT
