import Gofasta.Props.C03
import Gofasta.Lemmas.CountMap
/-
C13 — --aggregate frequencies are exactly the per-sequence results, counted.

The snps table is here, an instance of the counting list of `Lemmas/CountMap` (`ins`, `cnt`, namespace
`Gofasta.Lemmas.AggVariants`); the variants table is in `Lemmas/AggVariants` and `Lemmas/AggCount`.
-/
namespace Gofasta.Props.C13
open Gofasta Model Gofasta.Lemmas.AggVariants

def countOf (k : Snp) (m : List (Snp × Nat)) : Nat :=
  match m.find? (fun e => e.1 == k) with
  | some e => e.2
  | none => 0

theorem countInsert_eq_ins : countInsert = ins (κ := Snp) := by
  funext k m
  induction m with
  | nil => rfl
  | cons e t ih => simp only [countInsert, ins, ih]

theorem countOf_eq_cnt (k : Snp) : ∀ (m : List (Snp × Nat)), countOf k m = cnt k m
  | [] => rfl
  | (k', n) :: t => by
    have ih := countOf_eq_cnt k t
    unfold countOf at ih ⊢
    rw [List.find?_cons, cnt]
    by_cases h : k' = k
    · rw [if_pos h, beq_iff_eq.2 h]
    · rw [if_neg h, beq_eq_false_iff_ne.2 h, ih]

theorem countAll_eq_insAll (rows : List (List Snp)) : countAll rows = insAll rows.flatten [] := by
  rw [countAll, insAll, countInsert_eq_ins, List.foldl_flatten]

theorem countOf_insert_self (k : Snp) : ∀ (m : List (Snp × Nat)), countOf k (countInsert k m) = countOf k m + 1 := by
  intro m
  rw [countInsert_eq_ins, countOf_eq_cnt, countOf_eq_cnt, cnt_ins, if_pos rfl]

theorem countOf_insert_other (k j : Snp) (h : j ≠ k) : ∀ (m : List (Snp × Nat)), countOf j (countInsert k m) = countOf j m := by
  intro m
  rw [countInsert_eq_ins, countOf_eq_cnt, countOf_eq_cnt, cnt_ins, if_neg (Ne.symm h), Nat.add_zero]

theorem count_is_occurrences (k : Snp) : ∀ (ss : List Snp) (m : List (Snp × Nat)),
    countOf k (ss.foldl (fun m s => countInsert s m) m) = countOf k m + ss.count k := by
  intro ss m
  rw [countInsert_eq_ins, countOf_eq_cnt, countOf_eq_cnt]
  exact cnt_insAll k ss m

/-- **C13** — after counting the rows of every sequence (the nested fold of `countAll`, here from any start map;
on `countAll` itself: `countAll_eq_insAll`), the count stored for a mutation is the number of times it occurs in the
per-sequence output (rows are duplicate-free — C03.ascending — so this is the number of sequences that carry it:
`snps_count_is_sequences`) -/
theorem countAll_is_occurrences (k : Snp) : ∀ (rows : List (List Snp)) (m : List (Snp × Nat)),
    countOf k (rows.foldl (fun m row => row.foldl (fun m s => countInsert s m) m) m) = countOf k m + (rows.flatten).count k := by
  intro rows m
  rw [← List.foldl_flatten]
  exact count_is_occurrences k _ m

/-- **C13.threshold_exact** — a mutation is kept exactly when count/total ≥ num/den, equality included
(no rounding: the comparison is over naturals) -/
theorem threshold_exact (cnt total num den : Nat) :
    keepFreq cnt total num den = true ↔ num * total ≤ cnt * den :=
  decide_eq_true_iff

theorem threshold_equal_kept (k n : Nat) : keepFreq k n k n = true :=
  (threshold_exact k n k n).2 (Nat.le_refl _)

/-- **C13** — inserting never creates a second entry for a key already present -/
theorem insert_keys (k : Snp) : ∀ (m : List (Snp × Nat)),
    (countInsert k m).map (·.1) = if k ∈ m.map (·.1) then m.map (·.1) else m.map (·.1) ++ [k] := by
  intro m
  rw [countInsert_eq_ins]
  exact keys_ins k m

/-- non-vacuity: two of three rows carry (2,C,T) -/
example : countOf (2, 67, 84) (countAll [[(2, 67, 84)], [(1, 65, 71), (2, 67, 84)], []]) = 2 := by decide

/-- **C13** (snps) — the count behind a frequency is the number of query sequences whose
per-sequence row contains the mutation: for every reference and every alignment over the accepted alphabet -/
theorem snps_count_is_sequences (hard : Bool) (ref : List Nat) (qs : List (List Nat)) (k : Snp)
    (hr : C03.Accepted hard ref) (hq : ∀ q ∈ qs, C03.Accepted hard q) :
    countOf k (countAll (qs.map fun q => snpsRow hard ref q)) =
      ((qs.map fun q => snpsRow hard ref q).filter fun row => row.contains k).length := by
  rw [countAll_eq_insAll, countOf_eq_cnt, cnt_insAll_nil, ← List.flatMap_id]
  apply Lemmas.count_flatMap_nodup id
  intro r hrm
  obtain ⟨q, hqm, rfl⟩ := List.mem_map.1 hrm
  -- the only use of `hr` and `hq`; the positions of a row of `snpsRowEnc` ascend whatever the symbols are
  exact List.Pairwise.of_map (·.1) (fun _ _ hlt e => Nat.lt_irrefl _ (e ▸ hlt)) (C03.ascending hard ref q hr (hq q hqm))

theorem snpLt_swo : SWO snpLt := by
  constructor
  · intro a b h
    simp only [snpLt, Bool.or_eq_true, decide_eq_true_eq, Bool.and_eq_true, beq_iff_eq] at h
    simp only [snpLt, Bool.or_eq_false_iff, decide_eq_false_iff_not, Bool.and_eq_false_iff, beq_eq_false_iff_ne]
    omega
  · intro a b c h
    simp only [snpLt, Bool.or_eq_true, decide_eq_true_eq, Bool.and_eq_true, beq_iff_eq] at h ⊢
    omega

/-- **C13** — the rows of the aggregate table are ordered by genomic position (then allele),
whatever order the counting map was built in; the threshold filter only removes rows -/
theorem aggregate_sorted (m : List (Snp × Nat)) (keep : Snp × Nat → Bool) :
    Sorted snpLt ((sortStable snpLt m).filter keep) :=
  List.Pairwise.filter _ (sorted_sortStable snpLt_swo m)

theorem aggregate_perm (m : List (Snp × Nat)) : (sortStable snpLt m).Perm m := sortStable_perm m

end Gofasta.Props.C13
