import Gofasta.Lemmas.Enc
import Gofasta.Model.Variants
import Gofasta.Spec.Variants
import Gofasta.Lemmas.Indels
import Gofasta.Lemmas.Bytes
/-
C05 — indels are reported in reference coordinates whatever the alignment's columns.
Here: columns that are gaps in both rows change nothing (`column_invariance`), and the scanner of `getIndelsPair`, through
the two machines of Lemmas/Indels, reports the specification's records (`ins_spec`, `del_spec`). The statements for pairs
built from SAM records are in Lemmas/SamIndels.
-/
namespace Gofasta.Props.C05
open Gofasta Base Model Spec

theorem bothGap_noop (s : IndelState) : indelStep s (gapCode, gapCode) = s := by
  simp [indelStep]

theorem fold_skip_bothGap : ∀ (cols : List (Nat × Nat)) (s : IndelState),
    cols.foldl indelStep s = (cols.filter fun c => !(c.1 == gapCode && c.2 == gapCode)).foldl indelStep s := by
  intro cols
  induction cols with
  | nil => intro s; rfl
  | cons c t ih =>
    intro s
    obtain ⟨r, q⟩ := c
    rw [List.foldl_cons, List.filter_cons]
    cases hb : (r == gapCode && q == gapCode) with
    | true =>
      simp only [Bool.and_eq_true, beq_iff_eq] at hb
      rw [hb.1, hb.2, bothGap_noop]
      exact ih s
    | false => exact ih _

/-- **C05.column_invariance** — two alignments of the same query to the same reference that differ
only by columns that are gaps in both rows (other sequences' insertions in an MSA, or nothing at all
in a SAM-derived pair) give exactly the same insertion and deletion records: every reported position
depends only on the pairwise relation. -/
theorem column_invariance (ref q ref' q' : List Nat)
    (h : (ref.zip q).filter (fun c => !(c.1 == gapCode && c.2 == gapCode)) =
         (ref'.zip q').filter (fun c => !(c.1 == gapCode && c.2 == gapCode))) :
    getIndelsPair ref q = getIndelsPair ref' q' := by
  rw [getIndelsPair, getIndelsPair, fold_skip_bothGap (ref.zip q), fold_skip_bothGap (ref'.zip q'), h]

theorem insert_bothGap_column (r1 r2 q1 q2 : List Nat) (hl : r1.length = q1.length) :
    getIndelsPair (r1 ++ gapCode :: r2) (q1 ++ gapCode :: q2) = getIndelsPair (r1 ++ r2) (q1 ++ q2) := by
  apply column_invariance
  rw [List.zip_append hl, List.zip_append hl]
  simp [List.filter_append]

theorem refBases_step (s : IndelState) (c : Nat × Nat) :
    (indelStep s c).refBases = if c.1 = gapCode then s.refBases else s.refBases + 1 := by
  obtain ⟨r, q⟩ := c
  simp only [indelStep, apply_ite IndelState.refBases, ite_self]

theorem refBases_counts : ∀ (cols : List (Nat × Nat)) (s : IndelState),
    (cols.foldl indelStep s).refBases = s.refBases + (cols.filter fun c => c.1 ≠ gapCode).length := by
  intro cols
  induction cols with
  | nil => intro s; rfl
  | cons c t ih =>
    intro s
    rw [List.foldl_cons, ih, refBases_step, List.filter_cons]
    by_cases hc : c.1 = gapCode
    · simp only [hc, if_true, ne_eq, not_true_eq_false, decide_false, Bool.false_eq_true, if_false]
    · simp only [hc, if_false, ne_eq, not_false_eq_true, decide_true, if_true, List.length_cons]
      omega

/-- **C05.ins_position** — when an insertion opens, the position recorded for it is the number of
reference bases to its left (not an alignment column): an insertion that starts right after the
columns `pre` is recorded at `#reference bases in pre`. -/
theorem ins_position (pre : List (Nat × Nat)) (x : Nat) (hx : x ≠ gapCode)
    (hclosed : (pre.foldl indelStep {}).insOpen = false) :
    (indelStep (pre.foldl indelStep {}) (gapCode, x)).insOpen = true ∧
    (indelStep (pre.foldl indelStep {}) (gapCode, x)).insStart = (pre.filter fun c => c.1 ≠ gapCode).length := by
  have hstep : indelStep (pre.foldl indelStep {}) (gapCode, x) =
      { pre.foldl indelStep {} with insOpen := true, insStart := (pre.foldl indelStep {}).refBases, insLen := 1 } := by
    simp only [indelStep, hx, if_false, if_true, hclosed, Bool.false_eq_true]
  rw [hstep]
  exact ⟨rfl, (refBases_counts pre {}).trans (Nat.zero_add _)⟩

/-- three insertions: after an earlier reference-gap column, inside a wider gap block, and abutting the end -/
example : (getIndelsPair
      ((stringToBytes "ACGTAC--GTACGTAG-ATACGT--").map (enc false))
      ((stringToBytes "ACGTACTTGTACGTAGCATACGTGG").map (enc false))).map (fun v => (v.kind, v.pos, v.len))
    = [(.ins, 6, 2), (.ins, 14, 1), (.ins, 20, 2)] := by
  rw [Lemmas.stringToBytes_ofList, Lemmas.stringToBytes_ofList]
  decide +kernel

example : (getIndelsPair ((stringToBytes "GCAG---ACG").map (enc false)) ((stringToBytes "GCAG--GACG").map (enc false))).map
    (fun v => (v.kind, v.pos, v.len)) = [(.ins, 4, 1)] := by
  rw [Lemmas.stringToBytes_ofList, Lemmas.stringToBytes_ofList]
  decide +kernel

open Lemmas

/-- a row over the alphabet: `Lemmas.OkRow` under the name the other properties use -/
def Accepted (s : List Nat) : Prop := ∀ b ∈ s, b < 256 ∧ enc false b ≠ 0

/-- the last line of `getIndelsPair`, which flushes an insertion still open, is the insertion machine's `insFinish`;
it adds nothing to the deletions (`delOf_result`) -/
theorem insOf_result (s : IndelState) :
    insOf (if s.insOpen then s.out ++ [({ kind := .ins, pos := (s.insStart : Int), len := s.insLen } : Variant)] else s.out) =
      insFinish (insProj s) := by
  unfold insFinish insProj
  by_cases h : s.insOpen = true
  · simp [h, insOf]
  · simp [h]

theorem delOf_result (s : IndelState) :
    delOf (if s.insOpen then s.out ++ [({ kind := .ins, pos := (s.insStart : Int), len := s.insLen } : Variant)] else s.out) =
      (delProj s).out := by
  unfold delProj
  by_cases h : s.insOpen = true
  · simp [h, delOf]
  · simp [h]

/-- `fold_skip_bothGap` and `column_invariance` spell this test out -/
def keepCol (c : Nat × Nat) : Bool := !(c.1 == gapCode && c.2 == gapCode)

theorem ins_spec_enc (ref q : List Nat) :
    insOf (getIndelsPair ref q) = specInsBy (· == gapCode) 0 ((ref.zip q).filter keepCol) := by
  have hnorm : ∀ c ∈ (ref.zip q).filter keepCol, ¬ (c.1 = gapCode ∧ c.2 = gapCode) := by
    intro c hc h
    have := (List.mem_filter.1 hc).2
    rw [keepCol, h.1, h.2] at this
    cases this
  -- the insertion machine runs on the projection of the scanner's state (`proj_step`)
  rw [getIndelsPair, insOf_result, fold_skip_bothGap,
    ← List.foldl_hom insProj (g₂ := insStep) fun s c => (proj_step s c).1.symm]
  exact (insMachine_spec ((ref.zip q).filter keepCol) hnorm).2 0 0 0 []

theorem del_spec_enc (ref q : List Nat) :
    delOf (getIndelsPair ref q) = specDelsBy (· == gapCode) (ref.zip q) := by
  rw [getIndelsPair, delOf_result,
    ← List.foldl_hom delProj (g₂ := delStep) fun s c => (proj_step s c).2.symm, del_fold_refcols]
  exact (delMachine_spec _ (refColumnQueryBy (· == gapCode) (ref.zip q)) 0 (Nat.zero_add _)).2 0 0 []

theorem normalise_eq_filter : ∀ (ref q : List Nat), normalise ref q = (ref.zip q).filter fun c => !(isGap c.1 && isGap c.2) := by
  intro ref
  induction ref with
  | nil => intro q; simp [normalise]
  | cons r rs ih =>
    intro q
    cases q with
    | nil => simp [normalise]
    | cons x xs =>
      simp only [normalise, List.zip_cons_cons, List.filter_cons]
      cases h : (isGap r && isGap x) <;> simp [ih]

theorem specDels_normalise (ref q : List Nat) : specDels (normalise ref q) = specDelsBy isGap (ref.zip q) := by
  have h : refColumnQueryBy isGap (normalise ref q) = refColumnQueryBy isGap (ref.zip q) := by
    unfold refColumnQueryBy
    rw [normalise_eq_filter, List.filter_filter]
    congr 1
    apply List.filter_congr
    intro c _
    cases isGap c.1 <;> simp
  unfold specDels specDelsBy
  simp only [h]

theorem isGap_enc (b : Nat) : (enc false b == gapCode) = isGap b := enc_gap_iff b

theorem ins_spec_bytes (ref q : List Nat) :
    insOf (getIndelsPair (ref.map (enc false)) (q.map (enc false))) = specIns 0 (normalise ref q) := by
  have hk : keepCol ∘ Prod.map (enc false) (enc false) = fun c => !(isGap c.1 && isGap c.2) := by
    funext c
    simp only [Function.comp, keepCol, Prod.map_fst, Prod.map_snd, isGap_enc]
  rw [ins_spec_enc, List.zip_map, normalise_eq_filter, List.filter_map, hk]
  exact specInsBy_map (enc false) isGap (· == gapCode) _ _ 0 (Nat.le_refl _) fun c _ => isGap_enc c.1

theorem del_spec_bytes (ref q : List Nat) :
    delOf (getIndelsPair (ref.map (enc false)) (q.map (enc false))) = specDelsBy isGap (ref.zip q) := by
  have hq : refColumnQueryBy (· == gapCode) ((ref.zip q).map (Prod.map (enc false) (enc false))) =
      (refColumnQueryBy isGap (ref.zip q)).map (enc false) := by
    have hk : (fun c : Nat × Nat => !(c.1 == gapCode)) ∘ Prod.map (enc false) (enc false) = fun c => !isGap c.1 := by
      funext c
      simp only [Function.comp, Prod.map_fst, isGap_enc]
    rw [refColumnQueryBy, List.filter_map, hk, List.map_map, refColumnQueryBy, List.map_map]
    rfl
  rw [del_spec_enc, List.zip_map, specDelsBy, hq, List.length_map, specDelsBy,
    specDelRunsBy_map (enc false) isGap (· == gapCode) _ _ 0 (Nat.le_refl _) fun b _ => isGap_enc b]

/-- **C05.ins_spec** — the `ins:` records of rows over the accepted alphabet are `specIns` of the pair without its
both-gap columns: one record per maximal run of reference-gap columns, at the number of reference bases to its left. `hr`
and `hq` are not used: the statement holds of rows of arbitrary numbers (`ins_spec_bytes`) -/
theorem ins_spec (ref q : List Nat) (hr : Accepted ref) (hq : Accepted q) :
    insOf (getIndelsPair (ref.map (enc false)) (q.map (enc false))) = specIns 0 (normalise ref q) := by
  have _ := hr
  have _ := hq
  exact ins_spec_bytes ref q

/-- **C05.del_spec** — likewise the `del:` records are `specDelsBy isGap`: the maximal runs of reference bases opposite a
gap, without those that hold the first or the last reference base (`del_spec_bytes`) -/
theorem del_spec (ref q : List Nat) (hr : Accepted ref) (hq : Accepted q) :
    delOf (getIndelsPair (ref.map (enc false)) (q.map (enc false))) = specDelsBy isGap (ref.zip q) := by
  have _ := hr
  have _ := hq
  exact del_spec_bytes ref q

end Gofasta.Props.C05
