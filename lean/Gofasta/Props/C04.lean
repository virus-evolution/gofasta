import Gofasta.Lemmas.AACalls
import Gofasta.Lemmas.Bytes
/-
C04 — variants loses no nucleotide difference and every aa call is a true translation.
-/
namespace Gofasta.Props.C04
open Gofasta Base Model Spec

theorem mem_codes (regions : List Region) (L p : Nat) :
    p ∈ codes regions L ↔ (1 ≤ p ∧ p ≤ L) ∧ ∀ r ∈ regions, p ∉ r.positions := by
  unfold codes
  rw [List.mem_filterMap]
  constructor
  · rintro ⟨i, hi, hx⟩
    have hi' := List.mem_range.1 hi
    split at hx
    · cases hx
    · rename_i hany
      cases hx
      exact ⟨by omega, fun r hr hp => hany (List.any_eq_true.2 ⟨r, hr, by simpa using hp⟩)⟩
  · rintro ⟨⟨h1, hL⟩, hno⟩
    refine ⟨p - 1, List.mem_range.2 (by omega), ?_⟩
    rw [show p - 1 + 1 = p by omega, if_neg]
    intro h
    obtain ⟨r, hr, hp⟩ := List.any_eq_true.1 h
    exact hno r hr (by simpa using hp)

/-- **C04.partition** — the genome is split without loss: every position 1..L is either in the
'intergenic' list or in the positions of some *returned* region. (Finding F-C04: it fails for a list computed from
regions that are then discarded, as RegionsFromGFF once did; `regionsFromGFF` takes the regions it returns.) -/
theorem partition (regions : List Region) (L p : Nat) (h1 : 1 ≤ p) (hL : p ≤ L) :
    p ∈ codes regions L ∨ ∃ r ∈ regions, p ∈ r.positions := by
  by_cases h : ∃ r ∈ regions, p ∈ r.positions
  · exact Or.inr h
  · exact Or.inl ((mem_codes regions L p).2 ⟨⟨h1, hL⟩, fun r hr hp => h ⟨r, hr, hp⟩⟩)

theorem codes_disjoint (regions : List Region) (L p : Nat) (h : p ∈ codes regions L) :
    (1 ≤ p ∧ p ≤ L) ∧ ∀ r ∈ regions, p ∉ r.positions :=
  (mem_codes regions L p).1 h

theorem translate_strict_mod3 (s : List Nat) : ∀ t, translateGo true s = some t → s.length % 3 = 0 := by
  fun_induction translateGo true s with
  | case1 => intro _ _; rfl
  | case2 a b c rest aa haa ih =>
    intro t ht
    obtain ⟨t', ht', _⟩ := Option.map_eq_some_iff.1 ht
    have := ih t' ht'
    simp only [List.length_cons]
    omega
  | case3 a b c rest _ _ => intro t ht; cases ht
  | case4 a b c rest _ hs => exact absurd rfl hs
  | case5 s _ _ => intro t ht; cases ht

/-- the same with a bound `n` on the length, which plays no part -/
theorem translate_some_mod3 : ∀ (n : Nat) (s : List Nat), s.length ≤ n → ∀ t, translateGo true s = some t → s.length % 3 = 0 :=
  fun _ s _ => translate_strict_mod3 s

/-- **C04** (GenBank) — every region built from a GenBank feature consists of whole codons -/
theorem genbank_region_mod3 (f : GbFeature) (r : Region) (h : regionFromGenbank f = some r) :
    r.positions.length % 3 = 0 := by
  unfold regionFromGenbank at h
  simp only at h
  split at h
  · cases h
  · rename_i hm
    simp only [Option.some.injEq] at h
    subst h
    simpa using hm

/-- non-vacuity: the shape of the shipped GFF (an unnamed CDS 3..14 with a named child 3..8):
position 10 is covered by no returned region, so it is in the intergenic list -/
example : (regionsFromGFF
      [{ type := "CDS", start := 3, stop := 14, strand := "+", phase := 0, id := some "p", name := none },
       { type := "mature_protein_region_of_CDS", start := 3, stop := 8, strand := "+", phase := 0, id := some "c", name := some "c" }]
      (stringToBytes "AAATGAAACCCGGGTTAA")).map (fun x => (x.1.map (·.name), x.2)) =
    some (["c"], [1, 2, 9, 10, 11, 12, 13, 14, 15, 16, 17, 18]) := by
  rw [Gofasta.Lemmas.stringToBytes_ofList]
  decide +kernel

open Gofasta.Lemmas in
/-- **C04.intergenic** — outside the coding features: exactly the positions with disjoint base sets -/
theorem intergenic (ref q : List Nat) (hl : ref.length = q.length) (hr : OkRow ref) (hq : OkRow q) (inter : List Nat) :
    getNucsPair (ref.map (enc false)) (q.map (enc false)) (refCols (ref.map (enc false))) inter =
      (inter.filter (differsAt ref q)).map (nucRecord ref q) :=
  nucs_spec ref q hl hr hq inter

open Gofasta.Lemmas in
/-- **C04.coding** — inside a coding feature, codon by codon: the call iff the query codon translates unambiguously
(standard code, feature's strand, joined segments in coding order) to a residue other than the annotated one;
otherwise the codon's positions with disjoint base sets -/
theorem coding (ref q : List Nat) (reg : Region) (hl : ref.length = q.length) (hr : OkRow ref) (hq : OkRow q)
    (hv : ValidPositions ref q reg.positions) :
    getAAsPair (ref.map (enc false)) (q.map (enc false)) (refCols (ref.map (enc false))) reg = regionRecords ref q reg :=
  aas_spec ref q reg hl hr hq hv

open Gofasta.Lemmas in
/-- **C04.records_exact** — the mutation list of a query is, as a set, exactly: the indels of the pair (C05), the
intergenic positions with disjoint base sets, and the per-codon records of every coding feature; the final sort and
de-duplication drop nothing (but a deletion recorded at position 0) and invent nothing -/
theorem records_exact (ref q : List Nat) (regions : List Region) (inter : List Nat) (hl : ref.length = q.length)
    (hr : OkRow ref) (hq : OkRow q) (hv : ∀ reg ∈ regions, ValidPositions ref q reg.positions) (v : Variant) :
    v ∈ getVariantsPair (ref.map (enc false)) (q.map (enc false)) regions inter ↔
      (v ∈ getIndelsPair (ref.map (enc false)) (q.map (enc false)) ∨
       v ∈ (inter.filter (differsAt ref q)).map (nucRecord ref q) ∨
       ∃ reg ∈ regions, v ∈ regionRecords ref q reg) ∧ ¬ isDel0 v := by
  rw [mem_getVariantsPair_iff, nucs_spec ref q hl hr hq inter]
  exact and_congr_left fun _ => or_congr_right (or_congr_right (exists_congr fun reg => and_congr_right fun hreg => by
    rw [aas_spec ref q reg hl hr hq (hv reg hreg)]))

open Gofasta.Lemmas in
/-- **C04.aa_call_sound** — every amino-acid record of a codon is a true translation: the query codon's expansions
all give the reported residue, and it differs from the annotated one -/
theorem aa_call_sound (ref q : List Nat) (reg : Region) (k : Nat) (codon : List Nat) (v : Variant)
    (h : aaCall ref q reg k codon = some v) :
    ∃ t, specCodonAA reg.strand (codon.filterMap fun p => (pairAt ref q p).map (·.2)) = some t ∧
      t ≠ reg.translation.getD k 0 ∧ t ≠ 88 ∧ v.queAl = [t] ∧ v.refAl = [reg.translation.getD k 0] ∧
      v.feature = reg.name ∧ v.residue = k + 1 := by
  obtain ⟨t, ht, hne, rfl⟩ := aaCall_eq_some h
  exact ⟨t, ht, hne, specCodonAA_ne_X _ _ _ ht, rfl, rfl, rfl, rfl⟩

/-- **C04.aa_call_complete** — conversely, a codon whose query translation is unambiguous and differs from the
annotated residue has a call -/
theorem aa_call_complete (ref q : List Nat) (reg : Region) (k : Nat) (codon : List Nat) (t : Nat)
    (ht : specCodonAA reg.strand (codon.filterMap fun p => (pairAt ref q p).map (·.2)) = some t)
    (hne : t ≠ reg.translation.getD k 0) : (aaCall ref q reg k codon).isSome = true := by
  unfold aaCall
  simp only [ht]
  rw [if_pos hne]
  rfl

open Gofasta.Lemmas in
/-- **C04** (coding) — every position of a codon with disjoint base sets is mentioned: as its own
`nuc:` record, or inside the SNP list of the codon's amino-acid record -/
theorem codon_mentions_every_snp (ref q : List Nat) (reg : Region) (k : Nat) (codon : List Nat) (p : Nat)
    (hp : p ∈ codon) (hd : differsAt ref q p = true) :
    nucRecord ref q p ∈ codonRecs ref q reg k codon ∨
    ∃ v ∈ codonRecs ref q reg k codon, v.kind = .aa ∧
      ∃ l : List Variant, nucRecord ref q p ∈ l ∧ v.snps = joinWith ";" (l.map fmtNuc) := by
  have hm : nucRecord ref q p ∈ (codon.filter (differsAt ref q)).map (nucRecord ref q) :=
    List.mem_map.2 ⟨p, List.mem_filter.2 ⟨hp, hd⟩, rfl⟩
  unfold codonRecs
  cases h : aaCall ref q reg k codon with
  | none => left; exact hm
  | some v =>
    obtain ⟨t, _, _, rfl⟩ := aaCall_eq_some h
    exact Or.inr ⟨_, List.mem_cons_self, rfl, _, hm, rfl⟩

end Gofasta.Props.C04
