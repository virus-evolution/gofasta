import Gofasta.Props.C01
import Gofasta.Props.C02
import Gofasta.Props.C03
import Gofasta.Props.C04
import Gofasta.Props.C05
import Gofasta.Props.C06
import Gofasta.Props.C07
import Gofasta.Props.C08
import Gofasta.Props.C09
import Gofasta.Props.C10
import Gofasta.Props.C11
import Gofasta.Props.C12
import Gofasta.Props.C13
import Gofasta.Props.C14
import Gofasta.Props.C15
import Gofasta.Props.C16
import Gofasta.Props.C17
import Gofasta.Props.C18
import Gofasta.Props.C19
import Gofasta.Lemmas.SamWalk
import Gofasta.Lemmas.SamFlatten
import Gofasta.Lemmas.PairSingle
import Gofasta.Lemmas.Balance
import Gofasta.Lemmas.SortSpec
import Gofasta.Lemmas.UpdownRecon
import Gofasta.Lemmas.AACalls
import Gofasta.Lemmas.FastaLayout
import Gofasta.Lemmas.FastaReader
import Gofasta.Lemmas.Indels
import Gofasta.Lemmas.CsvRoundTrip
import Gofasta.Lemmas.AggOrder
import Gofasta.Lemmas.Layout
import Gofasta.Lemmas.PairSpec
import Gofasta.Lemmas.FastaWrite
import Gofasta.Lemmas.ClosestOrder
import Gofasta.Lemmas.AggVariants
import Gofasta.Lemmas.PairMulti
import Gofasta.Lemmas.PairSkipIns
import Gofasta.Lemmas.PushBins
import Gofasta.Lemmas.WhichWaySpec
import Gofasta.Lemmas.SamIndels
import Gofasta.Driver.Dispatch
import Gofasta.Lemmas.VariantsOrder
import Gofasta.Lemmas.CsvFasta
import Gofasta.Lemmas.RegionEquiv
import Gofasta.Lemmas.SamVarPipeline
import Gofasta.Lemmas.AggCount
import Gofasta.Lemmas.TopRankingSpec
import Gofasta.Lemmas.SamRoundTrip
import Gofasta.Lemmas.GffRoundTrip
import Gofasta.Lemmas.GbRoundTrip
import Gofasta.Props.Cli
import Gofasta.Props.Pipes
import Gofasta.Props.ColsClosest
import Gofasta.Props.ColsSnps
import Gofasta.Props.ColsUpdown
import Gofasta.Props.ColsVariants
import Gofasta.Props.ColsSam
import Gofasta.Lemmas.FromBytesSam
import Gofasta.Lemmas.GffFasta
import Gofasta.Lemmas.FromBytesGff
import Gofasta.Lemmas.FromBytesGb
import Gofasta.Lemmas.Refusals
import Gofasta.Lemmas.Outcome
import Gofasta.Lemmas.Run
import Gofasta.Lemmas.SchedProofs
import Gofasta.Lemmas.SchedChainProofs
import Gofasta.Lemmas.SchedRun
import Gofasta.Lemmas.SchedWriters
import Gofasta.Lemmas.SchedFaultWriter
import Gofasta.Lemmas.SchedHdrStart
import Gofasta.Lemmas.SchedAggWriter
import Gofasta.Lemmas.SchedChainHdrStart
import Gofasta.Lemmas.SchedCommands
import Gofasta.Lemmas.FanoutProofs
import Gofasta.Lemmas.Sink
import Gofasta.Lemmas.SchedFaults
import Gofasta.Lemmas.SchedFaultsAgg
import Gofasta.Lemmas.SchedFaultsAggCode
import Gofasta.Lemmas.SchedFaultsChainHdr
import Gofasta.Lemmas.FanoutFaults
import Gofasta.Lemmas.FanoutCommands
import Gofasta.Lemmas.TopaCommands
import Gofasta.Lemmas.TopaDirFixed
import Gofasta.Lemmas.GffRowOrder
import Gofasta.Lemmas.Bytes
import Gofasta.Lemmas.CountMap
import Gofasta.Lemmas.ListFacts
import Gofasta.Lemmas.TextFacts
