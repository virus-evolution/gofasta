import Gofasta.Model.Csv
import Gofasta.Props.C16
import Gofasta.Model.Validate
/-
C18 — invalid or inconsistent input is refused with a non-zero exit, never silently (partial).
Proved: the decision logic — for each listed condition, the modelled reader / validator refuses.
Observed, not proved: that the Go pipeline delivers the error to `main` and exits non-zero promptly
(channel hand-offs, goroutine blocking): the binary is run on every corrupted input with a time-out.
-/
namespace Gofasta.Props.C18
open Gofasta Base Model Spec Gofasta.Props.C16

/-- so `Props.C16.strict_symbol` applies at every line after the first header: a bad symbol there is reported as such,
not as a format error -/
theorem started_preserved (m : Mode) (s s' : RdState) (l : List Nat) (hs : s.started = true) (h : rdStep m s l = .ok s') :
    s'.started = true := by
  rcases line_cases l with rfl | ⟨d, rfl⟩ | hl
  · cases h; exact hs
  · rw [Lemmas.rdStep_header] at h
    split at h
    · cases h
    · rw [if_neg (by simp [hs])] at h
      split at h
      · cases h
      · cases h; exact hs
  · rw [Lemmas.rdStep_seq m s l hl, if_neg (by simp [hs])] at h
    split at h
    · cases h
    · cases h; exact hs

theorem error_anywhere {m : Mode} {l : List Nat} (h : ∀ s, ∃ e, rdStep m s l = .error e) :
    ∀ (pre : List (List Nat)) (s : RdState) (post : List (List Nat)), ∃ e, rdLines m s (pre ++ l :: post) = .error e
  | [], s, post => by
    obtain ⟨e, he⟩ := h s
    exact ⟨e, by rw [List.nil_append, rdLines, he]⟩
  | x :: t, s, post => by
    rw [List.cons_append, rdLines]
    cases rdStep m s x with
    | error e => exact ⟨e, rfl⟩
    | ok s' => exact error_anywhere h t s' post

theorem rdStep_bad_symbol (hard : Bool) (s : RdState) (bad : List Nat) (hs : Lemmas.SeqLine bad)
    (hb : ∃ b ∈ bad, enc hard b = 0) : ∃ e, rdStep (.encoded hard) s bad = .error e := by
  obtain ⟨b, hb, he⟩ := hb
  exact Lemmas.rdStep_refused (.encoded hard) bad hs (encodeLine_none_of_bad hard bad b hb he) s

/-- **C18.bad_symbol_anywhere** — a sequence line containing a byte outside the alphabet makes the encoded readers
fail wherever it sits in the stream — first, middle or last record, before or after any number of valid lines.
It holds from every state (`error_anywhere`, `rdStep_bad_symbol`): before the first header such a line is a format
error, so the hypothesis `s.started = true` is carried by the statement and used by nothing. -/
theorem bad_symbol_anywhere (hard : Bool) : ∀ (pre : List (List Nat)) (s : RdState) (bad : List Nat) (post : List (List Nat)),
    s.started = true → bad ≠ [] → bad.head? ≠ some 62 → (∃ b ∈ bad, enc hard b = 0) →
    ∃ e, rdLines (.encoded hard) s (pre ++ bad :: post) = .error e :=
  fun pre s bad post _ hne hh hb => error_anywhere (fun s => rdStep_bad_symbol hard s bad ⟨hne, hh⟩ hb) pre s post

/-- **C18.widths** — a row whose width differs from the reference's is refused, whichever row it is -/
theorem widths_refused (refWidth : Nat) (pre post : List Nat) (w : Nat) (h : w ≠ refWidth) :
    refusesWidths refWidth (pre ++ w :: post) = true := by
  simp [refusesWidths, h]

theorem widths_accepted (refWidth : Nat) (rows : List Nat) (h : ∀ w ∈ rows, w = refWidth) :
    refusesWidths refWidth rows = false := by
  simp only [refusesWidths, List.any_eq_false, bne_iff_ne, ne_eq, Decidable.not_not]
  exact h

/-- **C18.query_target** — `closest` refuses a target alignment whose width differs from the query's -/
theorem query_target_refused (a b : Nat) (h : a ≠ b) : refusesQueryTarget a b = true := by simp [refusesQueryTarget, h]

/-- **C18.reference_count** — more than one record in --reference is refused -/
theorem reference_count_refused (n : Nat) (h : 1 < n) : refusesReferenceCount n = true := by
  simp [refusesReferenceCount]; omega

/-- checkArgs refuses exactly the windows that, after the defaults for absent coordinates (-1), are not inside
1..reference length or have start > end -/
theorem checkArgs_none_iff (L : Nat) (start stop : Int) :
    checkArgs L start stop = none ↔
      ((if start = -1 then 1 else start) < 1 ∨ (if start = -1 then 1 else start) > L ∨
       (if stop = -1 then (L : Int) else stop) < 1 ∨ (if stop = -1 then (L : Int) else stop) > L ∨
       (if start = -1 then 1 else start) > (if stop = -1 then (L : Int) else stop)) := by
  simp only [checkArgs]
  generalize (if start = -1 then (1 : Int) else start) = s
  generalize (if stop = -1 then (L : Int) else stop) = e
  split
  · simp only [true_iff]; omega
  · split
    · simp only [true_iff]; omega
    · split
      · simp only [true_iff]; omega
      · simp only [reduceCtorEq, false_iff]; omega

/-- **C18.window** — window coordinates outside 1..reference length, or start > end, are refused -/
theorem window_refused (L : Nat) (s e : Int) (hs : s ≠ -1) (he : e ≠ -1)
    (h : s < 1 ∨ s > L ∨ e < 1 ∨ e > L ∨ s > e) : refusesWindow L s e = true := by
  rw [refusesWindow, Option.isNone_iff_eq_none, checkArgs_none_iff, if_neg hs, if_neg he]
  exact h

/-- `hs` and `he` follow from `h` -/
theorem window_accepted (L : Nat) (s e : Int) (h : 1 ≤ s ∧ s ≤ e ∧ e ≤ L) (hs : s ≠ -1) (he : e ≠ -1) :
    refusesWindow L s e = false := by
  rw [refusesWindow, Option.isNone_eq_false_iff, Option.isSome_iff_ne_none, Ne, checkArgs_none_iff, if_neg hs, if_neg he]
  omega

/-- **C18.suffix** — an annotation file whose suffix is neither `.gb` nor `.gff` is refused -/
theorem suffix_refused (ext : String) (h1 : ext ≠ ".gb") (h2 : ext ≠ ".gff") : refusesSuffix ext = true := by
  simp [refusesSuffix, h1, h2]

/-- **C18.no_option** — topranking without any size or distance option is refused -/
theorem no_option_refused : refusesOptions 0 0 0 0 0 0 0 0 0 0 = true := by decide

/-- **C18.csv** — an empty CSV, or one whose first row is not the `updown list` header, is refused -/
theorem csv_empty_refused : refusesCsv [] = true := rfl
theorem csv_header_refused (h : List String) (rest : List (List String)) (hh : h ≠ udHeader) : refusesCsv (h :: rest) = true := by
  simp [refusesCsv, hh]

/-- **C18.empty_fasta** — an empty FASTA stream yields no record and is refused (opening a file is not modelled) -/
theorem empty_fasta_refused (m : Mode) : ∃ e, readFasta m [] = .error e :=
  ⟨([], .empty), no_records⟩

open Gofasta.Model.Csv in
/-- **C18.csv (on bytes)** — with the CSV layer modelled down to the bytes: the empty file and two specimens of a file
of blank lines only ("\n", "\r\n\n") are refused (blank-only files in general are an instance of
`csv_bytes_header_refused`, given that `readRecs` finds no record in them, which is not stated) -/
theorem csv_bytes_empty_refused : readUDL [] = .error ∧ readUDL [nl] = .error ∧ readUDL [cr, nl, nl] = .error := by
  refine ⟨by decide, by decide, by decide⟩

open Gofasta.Model.Csv in
theorem csv_bytes_header_refused (text : Bytes) (h : (readRecs text).1.head? ≠ some (splitB comma headerB)) :
    readUDL text = .error := by
  unfold readUDL
  cases hr : (readRecs text).1 with
  | nil => simp [hr]
  | cons r rest =>
    rw [hr] at h
    have hne : r ≠ splitB comma headerB := by
      intro e; apply h; simp [e]
    simp [hr, hne]

open Gofasta.Model.Csv in
/-- a row that cannot be parsed (bad ambiguity range, bad SNP position, bad count) turns every later outcome into an
error: nothing after it is presented as success -/
theorem csv_error_sticks (rows : List (List Bytes)) : rows.foldl (fun o r => parseRow r o) .error = .error := by
  induction rows with
  | nil => rfl
  | cons r t ih => exact ih

end Gofasta.Props.C18
