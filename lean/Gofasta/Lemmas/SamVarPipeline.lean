import Gofasta.Driver.SamVar
import Gofasta.Props.C11
import Gofasta.Lemmas.FastaWrite
import Gofasta.Lemmas.SamIndels
/-
C11, whole pipeline: `gofasta sam variants` reports, for every query of a SAM file, exactly the mutation row that
`gofasta variants` reports when it is given the pairwise alignment that `gofasta sam toPairAlign` writes for that
query (reference row first), with the same annotation and the same options.

Both commands are the functions the test harness executes (`Driver.samVarCommand`, `Driver.varCommand`);
`samVarCommand` is restated on structured arguments (`samVarCore`, equal by `rfl`) so that no `Case` parsing is
involved.

The theorems pass the pair function as `fun b r => blockToSeqPair b r` (the harness's call), not as
`blockToSeqPair`: a `rw` with a lemma stated on the one does not fire on the other.
-/
namespace Gofasta.Lemmas.SamVarPipeline
open Gofasta Base Model Spec Driver Gofasta.Props.C02 Gofasta.Props.C11 Gofasta.Lemmas

/-- the annotation of `sam variants`: regions and intergenic positions over the de-gapped upper-cased reference
(no comparison with the GenBank ORIGIN length is made by this command) -/
def samRegions (vi : VarIn) (refRaw : List Nat) : Option (List Region × List Nat) :=
  if vi.annfmt == "gb" then regionsFromGenbank vi.gb (degapUpper refRaw).length
  else regionsFromGFF vi.gff (degapUpper refRaw)

def qnameOf (b : List SamRec) : String := (b.headD default).name

/-- `sam variants` once the reference (raw bytes `refRaw`, ID `refID`) and the blocks are known -/
def samVarOn (vi : VarIn) (refID : String) (refRaw : List Nat) (blocks : List (List SamRec))
    (pairOf : List SamRec → List Nat → List Nat × List Nat)
    (caller : List Nat → List Nat → List Region → List Nat → List Variant) : String :=
  match samRegions vi refRaw with
  | none => "!error"
  | some (regions, inter) =>
    let lists := blocks.map fun b =>
      let p := pairOf b (refRaw.map upper)
      (qnameOf b, caller p.1 p.2 regions inter)
    if vi.agg then variantsAggregate vi.append vi.start vi.stop vi.thrn vi.thrd refID lists
    else variantsOutput vi.append vi.start vi.stop refID lists

/-- the reference of `sam variants`: the reference file when one is given, else the annotation's sequence -/
def refRawOf (vi : VarIn) (refFromFile : Bool) (refBytes : List Nat) : List Nat := if refFromFile then refBytes else vi.origin
def refIDOf (refFromFile : Bool) (rname : String) : String := if refFromFile then rname else "annotation_fasta"

def samVarCore (vi : VarIn) (recs : List SamRec) (refFromFile : Bool) (refBytes : List Nat) (rname : String)
    (blocksFn : List SamRec → List (List SamRec))
    (pairOf : List SamRec → List Nat → List Nat × List Nat)
    (caller : List Nat → List Nat → List Region → List Nat → List Variant) : String :=
  samVarOn vi (refIDOf refFromFile rname) (refRawOf vi refFromFile refBytes) (blocksFn recs) pairOf caller

theorem samVarCommand_eq (c : Case) (blocksFn : List SamRec → List (List SamRec))
    (pairOf : List SamRec → List Nat → List Nat × List Nat)
    (caller : List Nat → List Nat → List Region → List Nat → List Variant) :
    samVarCommand c blocksFn pairOf caller =
      samVarCore (varIn c) (parseRecs (c.get "recs")) (c.bool "reffromfile") (c.bytes "ref") (c.get "rname")
        blocksFn pairOf caller := rfl

/-! ### the two commands in a common form -/

/-- what either command prints once its mutation lists are known -/
def printLists (vi : VarIn) (refID : String) (lists : List (String × List Variant)) : String :=
  if vi.agg then variantsAggregate vi.append vi.start vi.stop vi.thrn vi.thrd refID lists
  else variantsOutput vi.append vi.start vi.stop refID lists

/-- both tables drop the rows named like the reference and see nothing else of its ID -/
theorem printLists_congr (vi : VarIn) (refID refID' : String) (rows rows' : List (String × List Variant))
    (h : rows.filter (fun r => r.1 != refID) = rows'.filter (fun r => r.1 != refID')) :
    printLists vi refID rows = printLists vi refID' rows' := by
  unfold printLists variantsOutput variantsAggregate
  simp only [h]

/-- the pair `sam variants` computes for a block -/
def pairOfQuery (refRaw : List Nat) (b : List SamRec) : List Nat × List Nat := blockToSeqPair b (refRaw.map upper)

def samLists (refRaw : List Nat) (blocks : List (List SamRec)) (regions : List Region) (inter : List Nat) :
    List (String × List Variant) :=
  blocks.map fun b => (qnameOf b, modelPair (pairOfQuery refRaw b).1 (pairOfQuery refRaw b).2 regions inter)

theorem samVarOn_some (vi : VarIn) (refID : String) (refRaw : List Nat) (blocks : List (List SamRec))
    (regions : List Region) (inter : List Nat) (hregs : samRegions vi refRaw = some (regions, inter)) :
    samVarOn vi refID refRaw blocks (fun b r => blockToSeqPair b r) modelPair =
      printLists vi refID (samLists refRaw blocks regions inter) := by
  unfold samVarOn
  rw [hregs]
  rfl

theorem samVarOn_error (vi : VarIn) (refID : String) (refRaw : List Nat) (blocks : List (List SamRec))
    (hregs : samRegions vi refRaw = none) :
    samVarOn vi refID refRaw blocks (fun b r => blockToSeqPair b r) modelPair = "!error" := by
  unfold samVarOn; rw [hregs]

/-- the input of `variants` for the pair file of one query: two records, the reference row (named `rn`) first, then
the query row; the reference is taken by name (`mode` = msa) or as the first record (`mode` = stdin); annotation and
options are those of `vi` -/
def pairVarIn (vi : VarIn) (mode rn qname : String) (R Q : List Nat) : VarIn :=
  { vi with refmode := mode, refname := rn, recs := [(rn, R), (qname, Q)] }

/-- what `variants` computes before it prints: the ID to skip and one mutation list per row -/
def varRows (vi : VarIn) (pairFn : List Nat → List Nat → List Region → List Nat → List Variant) :
    Option (String × List (String × List Variant)) :=
  match refAndRows vi with
  | none => none
  | some (refRow, rows, refID) =>
    let refD := degapUpper refRow
    let regs := if vi.annfmt == "gb" then
        (if refD.length != vi.origin.length then none else regionsFromGenbank vi.gb refD.length)
      else regionsFromGFF vi.gff refD
    match regs with
    | none => none
    | some (regions, inter) =>
      if rows.any (fun r => r.2.length != refRow.length) then none else
      some (refID, rows.map fun r => (r.1, pairFn refRow r.2 regions inter))

theorem varCommand_eq_varRows (vi : VarIn) (pairFn : List Nat → List Nat → List Region → List Nat → List Variant) :
    varCommand vi pairFn =
      match varRows vi pairFn with
      | none => "!error"
      | some (refID, lists) => printLists vi refID lists := by
  unfold varCommand varRows
  cases refAndRows vi with
  | none => rfl
  | some t =>
    obtain ⟨refRow, rows, refID⟩ := t
    simp only []
    -- the annotation, whichever way it is built: both sides branch on it alike
    generalize (if vi.annfmt == "gb" then _ else regionsFromGFF vi.gff _) = regs
    rcases regs with _ | ⟨regions, inter⟩
    · rfl
    · simp only []
      cases rows.any (fun r => r.2.length != refRow.length) <;> rfl

theorem degapUpper_eq_degap (s : List Nat) : degapUpper s = (degap s).map upper := rfl

theorem degapUpper_noDash {s : List Nat} (h : NoDash s) : degapUpper s = s.map upper := by
  rw [degapUpper_eq_degap, degap_noDash h]

theorem degapUpper_map_upper (s : List Nat) : degapUpper (s.map upper) = degapUpper s := by
  unfold degapUpper
  rw [List.filter_map, List.map_map]
  have : (fun x => x != 45) ∘ upper = fun x => x != 45 := funext upper_ne_dash
  rw [this]
  exact List.map_congr_left fun a _ => upper_idem a

/-- the conditions of C02 on the reference -/
structure RefOk (refRaw : List Nat) : Prop where
  noDash : NoDash refRaw
  ge : ∀ x ∈ refRaw, star ≤ x

theorem RefOk.upper {refRaw : List Nat} (h : RefOk refRaw) : RefOk (refRaw.map upper) := by
  constructor
  · intro b hb
    obtain ⟨a, ha, rfl⟩ := List.mem_map.1 hb
    have := h.noDash a ha
    have := upper_spec a
    unfold dash at *
    omega
  · intro b hb
    obtain ⟨a, ha, rfl⟩ := List.mem_map.1 hb
    have := h.ge a ha
    have := upper_spec a
    unfold star at *
    omega

/-- the two facts of C02 the pipeline needs -/
theorem pair_facts (refRaw : List Nat) (b : List SamRec) (href : RefOk refRaw)
    (hwf : ∀ r ∈ b, WFSamRec r refRaw.length) :
    degapUpper (pairOfQuery refRaw b).1 = degapUpper refRaw ∧
    (pairOfQuery refRaw b).2.length = (pairOfQuery refRaw b).1.length := by
  have hwf' : ∀ r ∈ b, WFSamRec r (refRaw.map upper).length := by rwa [List.length_map]
  constructor
  · rw [pairOfQuery, degapUpper_eq_degap, PairMulti.multi_ref_lossless b _ href.upper.noDash href.upper.ge hwf',
      ← degapUpper_noDash href.upper.noDash, degapUpper_map_upper]
  · exact (PairMulti.multi_lengths b _ href.upper.noDash href.upper.ge hwf').symm

/-- the rows of the output: in stdin mode the first record is consumed as the reference, by name it stays a row -/
def pairRows (mode rn qname : String) (R Q : List Nat) : List (String × List Nat) :=
  if mode = "stdin" then [(qname, Q)] else [(rn, R), (qname, Q)]

theorem refAndRows_pair (vi : VarIn) (mode rn qname : String) (R Q : List Nat) (hmode : mode ≠ "ann") :
    refAndRows (pairVarIn vi mode rn qname R Q) = some (R, pairRows mode rn qname R Q, rn) := by
  unfold refAndRows pairVarIn pairRows
  simp only []
  split
  · exact absurd rfl hmode
  · simp
  · rename_i h1 h2
    have : ¬ mode = "stdin" := fun e => h2 e
    simp [this]

theorem varRows_pair (vi : VarIn) (mode rn qname : String) (R Q : List Nat) (refRaw : List Nat)
    (pairFn : List Nat → List Nat → List Region → List Nat → List Variant)
    (hmode : mode ≠ "ann")
    (hD : degapUpper R = degapUpper refRaw)
    (hlen : Q.length = R.length)
    (hgb : vi.annfmt = "gb" → (degapUpper refRaw).length = vi.origin.length) :
    varRows (pairVarIn vi mode rn qname R Q) pairFn =
      (samRegions vi refRaw).map fun ri => (rn, (pairRows mode rn qname R Q).map fun r => (r.1, pairFn R r.2 ri.1 ri.2)) := by
  have hregs : (if vi.annfmt == "gb" then
        (if (degapUpper refRaw).length != vi.origin.length then none else regionsFromGenbank vi.gb (degapUpper refRaw).length)
      else regionsFromGFF vi.gff (degapUpper refRaw)) = samRegions vi refRaw := by
    unfold samRegions
    by_cases hg : vi.annfmt = "gb"
    · simp [hg, hgb hg]
    · simp [hg]
  have hw : (pairRows mode rn qname R Q).any (fun r => r.2.length != R.length) = false := by
    unfold pairRows
    split <;> simp [hlen]
  unfold varRows
  rw [refAndRows_pair vi mode rn qname R Q hmode]
  simp only []
  rw [show (pairVarIn vi mode rn qname R Q).annfmt = vi.annfmt from rfl,
    show (pairVarIn vi mode rn qname R Q).origin = vi.origin from rfl,
    show (pairVarIn vi mode rn qname R Q).gb = vi.gb from rfl,
    show (pairVarIn vi mode rn qname R Q).gff = vi.gff from rfl, hD, hregs]
  rcases samRegions vi refRaw with _ | ⟨regions, inter⟩
  · rfl
  · simp only [hw, Bool.false_eq_true, if_false, Option.map_some]

theorem pairRows_filter (mode rn qname : String) (R Q : List Nat) (f : String × List Nat → String × List Variant)
    (hf : ∀ r, (f r).1 = r.1) :
    ((pairRows mode rn qname R Q).map f).filter (fun r => r.1 != rn) = ([(qname, Q)].map f).filter (fun r => r.1 != rn) := by
  unfold pairRows
  split
  · rfl
  · simp only [List.map_cons, List.filter_cons, hf]
    simp

/-- a printed form `P` of the pair of block `b` is faithful: each row encodes to the row `sam variants` hands to the
caller, and the printed reference row de-gaps (and upper-cases) to the same sequence -/
structure PrintedOk (refRaw : List Nat) (b : List SamRec) (P : List Nat × List Nat) : Prop where
  hR : P.1.map (enc false) = (pairOfQuery refRaw b).1.map (enc false)
  hQ : P.2.map (enc false) = (pairOfQuery refRaw b).2.map (enc false)
  hD : degapUpper P.1 = degapUpper (pairOfQuery refRaw b).1

/-- the model of `sam toPairAlign` prints the bytes of the pair themselves -/
theorem printedOk_self (refRaw : List Nat) (b : List SamRec) : PrintedOk refRaw b (pairOfQuery refRaw b) := ⟨rfl, rfl, rfl⟩

theorem printedOk_upper (refRaw : List Nat) (b : List SamRec) :
    PrintedOk refRaw b ((pairOfQuery refRaw b).1.map upper, (pairOfQuery refRaw b).2.map upper) := by
  constructor
  -- the pair as a variable: unifying against `blockToSeqPair …` makes `whnf` try to compute it
  all_goals generalize pairOfQuery refRaw b = p
  · rw [List.map_map]
    exact List.map_congr_left fun x _ => enc_upper false x
  · rw [List.map_map]
    exact List.map_congr_left fun x _ => enc_upper false x
  · exact degapUpper_map_upper p.1

/-- `printedOk_upper` holds of any reference and records; stated under the hypotheses of the pipeline theorems -/
theorem printedOk_upper_wf (refRaw : List Nat) (b : List SamRec) (href : RefOk refRaw)
    (hwf : ∀ r ∈ b, WFSamRec r refRaw.length) (hlt : ∀ x ∈ refRaw, x < 256) :
    PrintedOk refRaw b ((pairOfQuery refRaw b).1.map upper, (pairOfQuery refRaw b).2.map upper) := by
  have _ := href
  have _ := hwf
  have _ := hlt
  exact printedOk_upper refRaw b

/-- rows printed as the decoded characters of their codes (Go: the encoded pair written as FASTA), accepted symbols -/
theorem printedOk_decoded (refRaw : List Nat) (b : List SamRec)
    (h1 : Accepted (pairOfQuery refRaw b).1) (h2 : Accepted (pairOfQuery refRaw b).2) :
    PrintedOk refRaw b ((((pairOfQuery refRaw b).1.map (enc false)).map dec), (((pairOfQuery refRaw b).2.map (enc false)).map dec)) := by
  constructor
  all_goals generalize pairOfQuery refRaw b = p at *
  · exact row_roundtrip p.1 h1
  · exact row_roundtrip p.2 h2
  · exact (congrArg degapUpper (printed_row p.1 h1)).trans (degapUpper_map_upper p.1)

/-- either row, printed from its codes, is its upper-cased self (`printed_row`) -/
theorem map_upper_of_codes (l1 l2 : List Nat) (h : l1.map (enc false) = l2.map (enc false)) (hacc : Accepted l2) :
    l1.map upper = l2.map upper := by
  have hacc1 : Accepted l1 := fun a ha => by
    obtain ⟨c, hc, e⟩ := List.mem_map.1 (h ▸ List.mem_map_of_mem ha : enc false a ∈ l2.map (enc false))
    have hne : enc false a ≠ 0 := e ▸ (hacc c hc).2
    exact ⟨enc_lt hne, hne⟩
  rw [← printed_row l1 hacc1, h, printed_row l2 hacc]

theorem printedOk_of_codes (refRaw : List Nat) (b : List SamRec) (P : List Nat × List Nat)
    (hR : P.1.map (enc false) = (pairOfQuery refRaw b).1.map (enc false))
    (hQ : P.2.map (enc false) = (pairOfQuery refRaw b).2.map (enc false))
    (hacc : Accepted (pairOfQuery refRaw b).1) (hlt : ∀ x ∈ P.1, x < 256) : PrintedOk refRaw b P := by
  have _ := hlt
  refine ⟨hR, hQ, ?_⟩
  rw [← degapUpper_map_upper P.1, map_upper_of_codes _ _ hR hacc, degapUpper_map_upper]

/-! ### (1) one query -/

def rowsOf (o : Option (String × List (String × List Variant))) : List (String × List Variant) :=
  match o with
  | some (_, rows) => rows
  | none => []

/-- the lists `variants` computes on the pair file of block `b` -/
def pairLists (vi : VarIn) (mode refID : String) (b : List SamRec) (P : List Nat × List Nat) : List (String × List Variant) :=
  rowsOf (varRows (pairVarIn vi mode refID (qnameOf b) P.1 P.2) modelPair)

theorem varRows_block (vi : VarIn) (mode rn : String) (refRaw : List Nat) (b : List SamRec) (P : List Nat × List Nat)
    (hmode : mode ≠ "ann") (href : RefOk refRaw) (hwf : ∀ r ∈ b, WFSamRec r refRaw.length)
    (hgb : vi.annfmt = "gb" → refRaw.length = vi.origin.length) (hP : PrintedOk refRaw b P) :
    varRows (pairVarIn vi mode rn (qnameOf b) P.1 P.2) modelPair =
      (samRegions vi refRaw).map (fun _ => (rn, pairLists vi mode rn b P)) ∧
    ∀ regions inter, samRegions vi refRaw = some (regions, inter) →
      (pairLists vi mode rn b P).filter (fun r => r.1 != rn) =
        (samLists refRaw [b] regions inter).filter (fun r => r.1 != rn) := by
  obtain ⟨hR, hQ, hD⟩ := hP
  obtain ⟨hdeg, hlen⟩ := pair_facts refRaw b href hwf
  have hlenR : P.1.length = (pairOfQuery refRaw b).1.length := by simpa using congrArg List.length hR
  have hlenQ : P.2.length = (pairOfQuery refRaw b).2.length := by simpa using congrArg List.length hQ
  rw [pairLists, varRows_pair vi mode rn (qnameOf b) P.1 P.2 refRaw modelPair hmode (hD.trans hdeg)
    (hlenQ.trans (hlen.trans hlenR.symm))
    (fun hg => by rw [degapUpper_noDash href.noDash, List.length_map]; exact hgb hg)]
  constructor
  · cases samRegions vi refRaw <;> rfl
  · intro regions inter hregs
    rw [hregs]
    show ((pairRows mode rn (qnameOf b) P.1 P.2).map fun r => (r.1, modelPair P.1 r.2 regions inter)).filter _ = _
    rw [pairRows_filter mode rn (qnameOf b) P.1 P.2 (fun r => (r.1, modelPair P.1 r.2 regions inter)) (fun _ => rfl)]
    unfold samLists modelPair
    rw [List.map_singleton, List.map_singleton, hR, hQ]

/-- **C11.pipeline, one query.** `variants` on the pair file of block `b` (reference record named `rn` first, then
the query; reference taken by name or as first record; rows `P` a faithful printed form of the pair), with the
annotation and the options of `sam variants`: the output - error, per-sequence table or aggregate table - is that
of `sam variants` on this one block. `hname` is `rfl` when the reference record carries the reference's ID. -/
theorem varCommand_pair (vi : VarIn) (mode rn refID : String) (refRaw : List Nat) (b : List SamRec) (P : List Nat × List Nat)
    (hmode : mode ≠ "ann") (href : RefOk refRaw) (hwf : ∀ r ∈ b, WFSamRec r refRaw.length)
    (hgb : vi.annfmt = "gb" → refRaw.length = vi.origin.length)
    (hname : (qnameOf b != rn) = (qnameOf b != refID))
    (hP : PrintedOk refRaw b P) :
    varCommand (pairVarIn vi mode rn (qnameOf b) P.1 P.2) modelPair =
      samVarOn vi refID refRaw [b] (fun b r => blockToSeqPair b r) modelPair := by
  obtain ⟨hrows, hfilt⟩ := varRows_block vi mode rn refRaw b P hmode href hwf hgb hP
  rw [varCommand_eq_varRows, hrows]
  cases hregs : samRegions vi refRaw with
  | none => exact (samVarOn_error vi refID refRaw [b] hregs).symm
  | some ri =>
    rw [samVarOn_some vi refID refRaw [b] ri.1 ri.2 hregs]
    refine printLists_congr vi rn refID _ _ ((hfilt ri.1 ri.2 hregs).trans ?_)
    -- the one row is dropped on both sides or on neither
    simp only [samLists, List.map_cons, List.map_nil, List.filter_cons, List.filter_nil, hname]

/-- the row `sam variants` prints for one block (nothing for a query named like the reference) -/
def queryRow (vi : VarIn) (refID : String) (refRaw : List Nat) (regions : List Region) (inter : List Nat) (b : List SamRec) : String :=
  if qnameOf b != refID then
    variantsLine vi.append vi.start vi.stop (qnameOf b)
      (modelPair (pairOfQuery refRaw b).1 (pairOfQuery refRaw b).2 regions inter)
  else ""

/-- the first line of the per-sequence table of `variants` and `sam variants` -/
def header : String := "query,mutations\n"

/-! ### (2) the whole file, one row per query -/

theorem samVarOn_rows (vi : VarIn) (refID : String) (refRaw : List Nat) (blocks : List (List SamRec))
    (regions : List Region) (inter : List Nat) (hregs : samRegions vi refRaw = some (regions, inter)) (hagg : vi.agg = false) :
    samVarOn vi refID refRaw blocks (fun b r => blockToSeqPair b r) modelPair =
      header ++ String.join (blocks.map (queryRow vi refID refRaw regions inter)) := by
  rw [samVarOn_some vi refID refRaw blocks regions inter hregs, printLists, hagg, if_neg Bool.false_ne_true,
    variantsOutput, samLists, List.filter_map, List.map_map, join_filter_map, header]
  rfl

/-- **C11.pipeline, whole file (per-sequence output), both commands.** For blocks of well-formed records: the output
of `sam variants` is the header followed by one row per block, in order, and the row of each block is exactly the
row `variants` prints after the header for the pair file of that block -/
theorem samVarOn_rows_are_variants_rows (vi : VarIn) (mode refID : String) (refRaw : List Nat) (blocks : List (List SamRec))
    (printed : List SamRec → List Nat × List Nat)
    (regions : List Region) (inter : List Nat) (hregs : samRegions vi refRaw = some (regions, inter)) (hagg : vi.agg = false)
    (hmode : mode ≠ "ann") (href : RefOk refRaw) (hwf : ∀ b ∈ blocks, ∀ r ∈ b, WFSamRec r refRaw.length)
    (hgb : vi.annfmt = "gb" → refRaw.length = vi.origin.length)
    (hP : ∀ b ∈ blocks, PrintedOk refRaw b (printed b)) :
    samVarOn vi refID refRaw blocks (fun b r => blockToSeqPair b r) modelPair =
        header ++ String.join (blocks.map (queryRow vi refID refRaw regions inter)) ∧
    ∀ b ∈ blocks, varCommand (pairVarIn vi mode refID (qnameOf b) (printed b).1 (printed b).2) modelPair =
        header ++ queryRow vi refID refRaw regions inter b := by
  refine ⟨samVarOn_rows vi refID refRaw blocks regions inter hregs hagg, ?_⟩
  intro b hb
  rw [varCommand_pair vi mode refID refID refRaw b (printed b) hmode href (hwf b hb) hgb rfl (hP b hb),
    samVarOn_rows vi refID refRaw [b] regions inter hregs hagg, List.map_singleton, String.join_cons, String.join_nil,
    String.append_empty]

/-! ### (3) both output forms: the writer of `variants` on the lists `variants` computes per pair file -/

/-- **C11.pipeline, whole file, per-sequence and aggregate form.** The output of `sam variants` is the writer of
`variants` (per-sequence table, or aggregate table with the same threshold) applied to the concatenation, in file
order, of the lists `variants` computes on the pair file of each query. In particular the aggregate table of
`sam variants` is `variantsAggregate` of the per-query lists `variants` computes. -/
theorem samVarOn_eq_variants_lists (vi : VarIn) (mode refID : String) (refRaw : List Nat) (blocks : List (List SamRec))
    (printed : List SamRec → List Nat × List Nat)
    (regions : List Region) (inter : List Nat) (hregs : samRegions vi refRaw = some (regions, inter))
    (hmode : mode ≠ "ann") (href : RefOk refRaw) (hwf : ∀ b ∈ blocks, ∀ r ∈ b, WFSamRec r refRaw.length)
    (hgb : vi.annfmt = "gb" → refRaw.length = vi.origin.length)
    (hP : ∀ b ∈ blocks, PrintedOk refRaw b (printed b)) :
    samVarOn vi refID refRaw blocks (fun b r => blockToSeqPair b r) modelPair =
      (if vi.agg then
        variantsAggregate vi.append vi.start vi.stop vi.thrn vi.thrd refID
          (blocks.flatMap fun b => pairLists vi mode refID b (printed b))
      else
        variantsOutput vi.append vi.start vi.stop refID
          (blocks.flatMap fun b => pairLists vi mode refID b (printed b))) := by
  rw [samVarOn_some vi refID refRaw blocks regions inter hregs]
  refine printLists_congr vi refID refID _ _ ?_
  rw [samLists, List.map_eq_flatMap, List.filter_flatMap, List.filter_flatMap]
  exact flatMap_congr _ _ blocks fun b hb =>
    ((varRows_block vi mode refID refRaw b (printed b) hmode href (hwf b hb) hgb (hP b hb)).2 regions inter hregs).symm

/-- (3) spelled out for the aggregate form, together with what `variants --aggregate` prints for one pair file -/
theorem samVarOn_aggregate (vi : VarIn) (mode refID : String) (refRaw : List Nat) (blocks : List (List SamRec))
    (printed : List SamRec → List Nat × List Nat)
    (regions : List Region) (inter : List Nat) (hregs : samRegions vi refRaw = some (regions, inter)) (hagg : vi.agg = true)
    (hmode : mode ≠ "ann") (href : RefOk refRaw) (hwf : ∀ b ∈ blocks, ∀ r ∈ b, WFSamRec r refRaw.length)
    (hgb : vi.annfmt = "gb" → refRaw.length = vi.origin.length)
    (hP : ∀ b ∈ blocks, PrintedOk refRaw b (printed b)) :
    samVarOn vi refID refRaw blocks (fun b r => blockToSeqPair b r) modelPair =
        variantsAggregate vi.append vi.start vi.stop vi.thrn vi.thrd refID
          (blocks.flatMap fun b => pairLists vi mode refID b (printed b)) ∧
    ∀ b ∈ blocks, varCommand (pairVarIn vi mode refID (qnameOf b) (printed b).1 (printed b).2) modelPair =
        variantsAggregate vi.append vi.start vi.stop vi.thrn vi.thrd refID (pairLists vi mode refID b (printed b)) := by
  constructor
  · rw [samVarOn_eq_variants_lists vi mode refID refRaw blocks printed regions inter hregs hmode href hwf hgb hP, if_pos hagg]
  · intro b hb
    rw [varCommand_eq_varRows, (varRows_block vi mode refID refRaw b (printed b) hmode href (hwf b hb) hgb (hP b hb)).1, hregs]
    exact if_pos hagg

/-! ### the bytes of a pair: nothing but reference bytes, SEQ bytes, '-' and 'N' -/

theorem specPair_bytes (Pr : Nat → Prop) (block : List SamRec) (ref : List Nat) (hwf : ∀ r ∈ block, WFSamRec r ref.length)
    (hd : Pr dash) :
    ((∀ x ∈ ref, Pr x) → ∀ x ∈ (specPair block ref).1, Pr x) ∧
    (Pr letN → (∀ r ∈ block, ∀ x ∈ r.seq, Pr x) → ∀ x ∈ (specPair block ref).2, Pr x) := by
  rw [PairSpec.specPair_eq]
  constructor
  · intro hr x hx
    obtain ⟨c, hc, rfl⟩ := List.mem_map.1 hx
    rcases PairSpec.mem_pairCols block ref c hc with ⟨p, h⟩ | ⟨p, hp, rfl⟩
    · rw [PairSpec.insSeg_fst block p c h]
      exact hd
    · show Pr (ref.getD p 0)
      rw [List.getD_eq_getElem?_getD, List.getElem?_eq_getElem hp]
      exact hr _ (List.getElem_mem hp)
  · intro hn hs x hx
    obtain ⟨c, hc, rfl⟩ := List.mem_map.1 hx
    rcases PairSpec.mem_pairCols block ref c hc with ⟨p, h⟩ | ⟨p, -, rfl⟩
    · obtain ⟨r, hr, hb⟩ := SamIndels.insSeg_snd_mem block p c h
      exact hs r hr _ hb
    · show Pr ((flatCol block p).getD letN)
      cases hf : flatCol block p with
      | none => exact hn
      | some x =>
        rcases flatCol_some block p x hf with rfl | ⟨rfl, -⟩ | ⟨r, hr, hcov⟩
        · exact hn
        · exact hd
        · exact hs r hr x (covAt_base_mem r (hwf r hr).hq p x hcov)

theorem pair_bytes (Pr : Nat → Prop) (refRaw : List Nat) (b : List SamRec) (href : RefOk refRaw)
    (hwf : ∀ r ∈ b, WFSamRec r refRaw.length) (hd : Pr dash) :
    ((∀ x ∈ refRaw, Pr (upper x)) → ∀ x ∈ (pairOfQuery refRaw b).1, Pr x) ∧
    (Pr letN → (∀ r ∈ b, ∀ x ∈ r.seq, Pr x) → ∀ x ∈ (pairOfQuery refRaw b).2, Pr x) := by
  have hwf' : ∀ r ∈ b, WFSamRec r (refRaw.map upper).length := by rwa [List.length_map]
  rw [pairOfQuery, PairMulti.blockToSeqPair_eq_specPair b _ href.upper.noDash href.upper.ge hwf']
  refine ⟨fun hr => (specPair_bytes Pr b _ hwf' hd).1 fun x hx => ?_, (specPair_bytes Pr b _ hwf' hd).2⟩
  obtain ⟨a, ha, rfl⟩ := List.mem_map.1 hx
  exact hr a ha

/-! ### the pair file: what `sam toPairAlign` writes and what the reader of `variants` gets back -/

/-- no window asked for: the whole reference -/
theorem checkArgs_whole (L : Nat) (hpos : 0 < L) : checkArgs L (-1) (-1) = some (1, L, false) := by
  unfold checkArgs
  simp only [if_true]
  have h1 : ¬ ((1 : Int) > (L : Int) ∨ (1 : Int) < 1) := by omega
  have h2 : ¬ ((L : Int) > (L : Int) ∨ (L : Int) < 1) := by omega
  have h3 : ¬ ((1 : Int) > (L : Int)) := by omega
  rw [if_neg h1, if_neg h2, if_neg h3]
  rfl

/-- `sam toPairAlign` without window, with the reference and the insertions kept, writes one file per query holding
the pair `sam variants` computes for that query (the harness upper-cases the reference before the call) -/
theorem toPairAlign_files (refRaw : List Nat) (refName : String) (wrap : Int) (recs : List SamRec) (hpos : 0 < refRaw.length) :
    toPairAlign (refRaw.map upper) refName (-1) (-1) wrap false false recs =
      some ((samBlocks recs).map fun b =>
        (qnameOf b, pairText wrap refName (qnameOf b) false (pairOfQuery refRaw b))) := by
  unfold toPairAlign
  rw [checkArgs_whole _ (by simpa using hpos)]
  rfl

theorem pairText_join (wrap : Int) (rn qn : String) (p : List Nat × List Nat) (idr idq : List Nat) :
    pairText wrap rn qn false p =
      String.join ([(rn, p.1, idr), (qn, p.2, idq)].map fun r => tomaRecordText wrap r.1 r.2.1) := by
  have hrec : ∀ (name : String) (s : List Nat), tomaRecordText wrap name s = ">" ++ name ++ "\n" ++ wrapLines wrap s := by
    intro name s
    unfold tomaRecordText
    by_cases hw : wrap > 0
    · simp only [hw, if_true]
    · have : wrap ≤ 0 := by omega
      simp only [hw, if_false, wrapLines, this, if_true]
  unfold pairText
  simp only [Bool.false_eq_true, if_false, List.map_cons, List.map_nil, String.join_cons, String.join_nil, hrec,
    String.append_assoc, String.append_empty]

/-- **the text route.** The encoded FASTA reader of `variants`, applied to the text `sam toPairAlign` writes for a pair
(any wrap width), returns two records whose encoded rows are the rows `sam variants` hands to the caller: no
symbol, no column is changed by writing the pair and reading it back. Needed: names that are valid headers, a
non-empty reference row, rows of equal length made of accepted ASCII symbols. -/
theorem pairText_reads_back (wrap : Int) (rn qn : String) (p : List Nat × List Nat) (idr idq : List Nat)
    (hW : 0 < p.1.length)
    (h : ∀ r ∈ [(rn, p.1, idr), (qn, p.2, idq)], FastaWrite.WriteOk false p.1.length r) :
    readFasta (.encoded false) (stringToBytes (pairText wrap rn qn false p)) =
      .ok [{ id := idr, desc := stringToBytes rn, seq := p.1.map (enc false), idx := 0, score := scoreSeq (p.1.map (enc false)) },
           { id := idq, desc := stringToBytes qn, seq := p.2.map (enc false), idx := 1, score := scoreSeq (p.2.map (enc false)) }] := by
  rw [pairText_join wrap rn qn p idr idq, FastaWrite.written_reads_back false wrap p.1.length hW _ _ h]
  simp only [List.map_cons, List.map_nil, recsFrom, recOf, FastaWrite.lrecOf_seq]
  rfl

/-- hence the caller of `variants`, run on the records read back from the pair file, computes the list
`sam variants` computes from the pair itself -/
theorem caller_on_read_back (wrap : Int) (rn qn : String) (p : List Nat × List Nat) (idr idq : List Nat)
    (hW : 0 < p.1.length)
    (h : ∀ r ∈ [(rn, p.1, idr), (qn, p.2, idq)], FastaWrite.WriteOk false p.1.length r)
    (regions : List Region) (inter : List Nat) :
    ∃ r1 r2, readFasta (.encoded false) (stringToBytes (pairText wrap rn qn false p)) = .ok [r1, r2] ∧
      r1.id = idr ∧ r2.id = idq ∧
      getVariantsPair r1.seq r2.seq regions inter = modelPair p.1 p.2 regions inter :=
  ⟨_, _, pairText_reads_back wrap rn qn p idr idq hW h, rfl, rfl, rfl⟩

/-! ### the commands as the harness runs them -/

/-- the hypotheses on the input of `sam variants`:
* the reference holds no '-' and no byte below '*';
* every retained record fits the reference, its SEQ covers its CIGAR and holds letters;
* GenBank annotation and reference read from a file: the file's sequence has the length of the ORIGIN -/
structure SamVarOk (vi : VarIn) (recs : List SamRec) (refFromFile : Bool) (refBytes : List Nat) : Prop where
  ref : RefOk (refRawOf vi refFromFile refBytes)
  recs : ∀ r ∈ recs, isSkipped r = false → WFSamRec r (refRawOf vi refFromFile refBytes).length
  gb : vi.annfmt = "gb" → refFromFile = true → refBytes.length = vi.origin.length

theorem SamVarOk.hgb {vi : VarIn} {recs : List SamRec} {refFromFile : Bool} {refBytes : List Nat}
    (h : SamVarOk vi recs refFromFile refBytes) :
    vi.annfmt = "gb" → (refRawOf vi refFromFile refBytes).length = vi.origin.length := by
  intro hg
  unfold refRawOf
  cases refFromFile with
  | true => exact h.gb hg rfl
  | false => rfl

theorem SamVarOk.blocks {vi : VarIn} {recs : List SamRec} {refFromFile : Bool} {refBytes : List Nat}
    (h : SamVarOk vi recs refFromFile refBytes) :
    ∀ b ∈ samBlocks recs, ∀ r ∈ b, WFSamRec r (refRawOf vi refFromFile refBytes).length :=
  fun b hb => (samBlocks_wf _ recs h.recs b hb).2

/-- **C11 (main theorem).** For every SAM file and reference meeting `SamVarOk`, every annotation, every option
set, both ways of naming the reference to `variants` (`mode` = "msa": by name, "stdin": first record), and every
faithful printed form of the pairs (`printed`; e.g. the bytes themselves, as the model of `sam toPairAlign` prints):

* (1) for every query `b` of the file, `variants` on the pair file of `b` outputs exactly what `sam variants` outputs
  for the file reduced to that query (same error, same header, same row, same aggregate table);
* (2)+(3) the output of `sam variants` on the whole file is the error when the annotation cannot be built
  (and then `variants` fails too, by (1)); otherwise it is the writer of `variants` - per-sequence table, or aggregate
  table with the same threshold - applied to the concatenation, in file order, of the lists `variants` computes on the
  pair files. -/
theorem sam_variants_is_variants_on_pairs (vi : VarIn) (recs : List SamRec) (refFromFile : Bool) (refBytes : List Nat)
    (rname mode : String) (printed : List SamRec → List Nat × List Nat)
    (hmode : mode ≠ "ann") (hok : SamVarOk vi recs refFromFile refBytes)
    (hP : ∀ b ∈ samBlocks recs, PrintedOk (refRawOf vi refFromFile refBytes) b (printed b)) :
    (∀ b ∈ samBlocks recs,
      varCommand (pairVarIn vi mode (refIDOf refFromFile rname) (qnameOf b) (printed b).1 (printed b).2) modelPair =
        samVarOn vi (refIDOf refFromFile rname) (refRawOf vi refFromFile refBytes) [b] (fun b r => blockToSeqPair b r) modelPair) ∧
    samVarCore vi recs refFromFile refBytes rname samBlocks (fun b r => blockToSeqPair b r) modelPair =
      (match samRegions vi (refRawOf vi refFromFile refBytes) with
       | none => "!error"
       | some _ =>
         if vi.agg then
           variantsAggregate vi.append vi.start vi.stop vi.thrn vi.thrd (refIDOf refFromFile rname)
             ((samBlocks recs).flatMap fun b => pairLists vi mode (refIDOf refFromFile rname) b (printed b))
         else
           variantsOutput vi.append vi.start vi.stop (refIDOf refFromFile rname)
             ((samBlocks recs).flatMap fun b => pairLists vi mode (refIDOf refFromFile rname) b (printed b))) := by
  constructor
  · intro b hb
    exact varCommand_pair vi mode _ _ _ b (printed b) hmode hok.ref (hok.blocks b hb) hok.hgb rfl (hP b hb)
  · unfold samVarCore
    cases hregs : samRegions vi (refRawOf vi refFromFile refBytes) with
    | none => exact samVarOn_error vi _ _ _ hregs
    | some ri =>
      obtain ⟨regions, inter⟩ := ri
      exact samVarOn_eq_variants_lists vi mode _ _ _ printed regions inter hregs hmode hok.ref hok.blocks hok.hgb hP

/-- **C11, per-sequence output, row by row.** When the annotation can be built and no aggregate is asked for, the
output of `sam variants` is the header followed by one row per query in file order (`queryRow`; nothing for a query
named like the reference), and `variants` on the pair file of a query prints the header and that very row. -/
theorem sam_variants_rows (vi : VarIn) (recs : List SamRec) (refFromFile : Bool) (refBytes : List Nat)
    (rname mode : String) (printed : List SamRec → List Nat × List Nat)
    (regions : List Region) (inter : List Nat)
    (hregs : samRegions vi (refRawOf vi refFromFile refBytes) = some (regions, inter)) (hagg : vi.agg = false)
    (hmode : mode ≠ "ann") (hok : SamVarOk vi recs refFromFile refBytes)
    (hP : ∀ b ∈ samBlocks recs, PrintedOk (refRawOf vi refFromFile refBytes) b (printed b)) :
    samVarCore vi recs refFromFile refBytes rname samBlocks (fun b r => blockToSeqPair b r) modelPair =
      header ++ String.join ((samBlocks recs).map
        (queryRow vi (refIDOf refFromFile rname) (refRawOf vi refFromFile refBytes) regions inter)) ∧
    ∀ b ∈ samBlocks recs,
      varCommand (pairVarIn vi mode (refIDOf refFromFile rname) (qnameOf b) (printed b).1 (printed b).2) modelPair =
        header ++ queryRow vi (refIDOf refFromFile rname) (refRawOf vi refFromFile refBytes) regions inter b :=
  samVarOn_rows_are_variants_rows vi mode _ _ _ printed regions inter hregs hagg hmode hok.ref hok.blocks hok.hgb hP

/-- the same about the very functions the harness executes (`runSamVar` runs `samVarCommand c samBlocks
(fun b r => blockToSeqPair b r) modelPair`, `runVar` runs `varCommand vi modelPair`), with the pair files holding the
bytes of the pairs, as the model of `sam toPairAlign` prints them -/
theorem samVarCommand_rows (c : Case) (mode : String) (regions : List Region) (inter : List Nat)
    (hregs : samRegions (varIn c) (refRawOf (varIn c) (c.bool "reffromfile") (c.bytes "ref")) = some (regions, inter))
    (hagg : (varIn c).agg = false) (hmode : mode ≠ "ann")
    (hok : SamVarOk (varIn c) (parseRecs (c.get "recs")) (c.bool "reffromfile") (c.bytes "ref")) :
    samVarCommand c samBlocks (fun b r => blockToSeqPair b r) modelPair =
      header ++ String.join ((samBlocks (parseRecs (c.get "recs"))).map
        (queryRow (varIn c) (refIDOf (c.bool "reffromfile") (c.get "rname"))
          (refRawOf (varIn c) (c.bool "reffromfile") (c.bytes "ref")) regions inter)) ∧
    ∀ b ∈ samBlocks (parseRecs (c.get "recs")),
      varCommand (pairVarIn (varIn c) mode (refIDOf (c.bool "reffromfile") (c.get "rname")) (qnameOf b)
          (pairOfQuery (refRawOf (varIn c) (c.bool "reffromfile") (c.bytes "ref")) b).1
          (pairOfQuery (refRawOf (varIn c) (c.bool "reffromfile") (c.bytes "ref")) b).2) modelPair =
        header ++ queryRow (varIn c) (refIDOf (c.bool "reffromfile") (c.get "rname"))
          (refRawOf (varIn c) (c.bool "reffromfile") (c.bytes "ref")) regions inter b := by
  rw [samVarCommand_eq]
  exact sam_variants_rows (varIn c) _ _ _ _ mode (pairOfQuery _) regions inter hregs hagg hmode hok
    (fun b _ => printedOk_self _ b)

/-! ### non-vacuity: one query with a substitution in a CDS, an insertion and a deletion -/

/-- reference ATGGCATTTTAACC; CDS 1..12 = ATG GCA TTT TAA (M A F stop) -/
def pvRef : List Nat := [65, 84, 71, 71, 67, 65, 84, 84, 84, 84, 65, 65, 67, 67]
def pvFeat : GbFeature := ⟨"g", .range, [(1, 12)], 1, [77, 65, 70]⟩
def pvGff : GffRow := ⟨"CDS", 1, 12, "+", 0, some "id1", some "g"⟩
/-- annotation (GenBank feature and GFF row of the same CDS), ORIGIN = the reference, --append-snps, no window -/
def pvVi (fmt : String) (agg : Bool) : VarIn := ⟨fmt, [pvFeat], [pvGff], "", "", pvRef, [], true, 0, 0, agg, 0, 1⟩
/-- 4M1I3M2D5M at POS 1, SEQ ATGG T AAT TAACC: C5A inside the CDS, T inserted after base 4, bases 8-9 deleted -/
def pvRec : SamRec := ⟨"q", 0, 0, [(0, 4), (1, 1), (0, 3), (2, 2), (0, 5)], [65, 84, 71, 71, 84, 65, 65, 84, 84, 65, 65, 67, 67]⟩

theorem pv_ref : pvRef = strBytes "ATGGCATTTTAACC" := by
  show _ = stringToBytes _
  rw [stringToBytes_ofList]
  rfl
theorem pv_refOk : RefOk pvRef := ⟨by unfold NoDash; decide, by decide⟩
theorem pv_wf : WFSamRec pvRec pvRef.length := ⟨by decide, by decide, by decide⟩

theorem pv_ok (fmt : String) (agg : Bool) : SamVarOk (pvVi fmt agg) [pvRec] true pvRef := by
  refine ⟨pv_refOk, ?_, fun _ _ => rfl⟩
  intro r hr _
  rw [List.mem_singleton.1 hr]
  exact pv_wf

theorem pv_blocks : samBlocks [pvRec] = [[pvRec]] := rfl

/-- the pair of the one query, evaluated once for the examples below: ATGG-CATTTTAACC over ATGGTAAT--TAACC -/
theorem pv_pair : pairOfQuery pvRef [pvRec] =
    ([65, 84, 71, 71, 45, 67, 65, 84, 84, 84, 84, 65, 65, 67, 67], [65, 84, 71, 71, 84, 65, 65, 84, 45, 45, 84, 65, 65, 67, 67]) := by
  decide +kernel

example : pairOfQuery pvRef [pvRec] = (strBytes "ATGG-CATTTTAACC", strBytes "ATGGTAAT--TAACC") := by
  show _ = (stringToBytes _, stringToBytes _)
  rw [pv_pair, stringToBytes_ofList, stringToBytes_ofList]
  rfl
example : (samRegions (pvVi "gb" false) pvRef).isSome = true ∧ (samRegions (pvVi "gff" false) pvRef).isSome = true := by
  decide +kernel

/-- the hypotheses of the main theorem hold here, for both annotation formats, both output forms and both ways of
naming the reference; its conclusion for the one query of the file -/
example (fmt : String) (agg : Bool) (mode : String) (hmode : mode ≠ "ann") :
    varCommand (pairVarIn (pvVi fmt agg) mode "ref" "q" (pairOfQuery pvRef [pvRec]).1 (pairOfQuery pvRef [pvRec]).2) modelPair =
      samVarCore (pvVi fmt agg) [pvRec] true pvRef "ref" samBlocks (fun b r => blockToSeqPair b r) modelPair := by
  have h := (sam_variants_is_variants_on_pairs (pvVi fmt agg) [pvRec] true pvRef "ref" mode (pairOfQuery pvRef) hmode
    (pv_ok fmt agg) (fun b _ => printedOk_self _ b)).1 [pvRec] (by rw [pv_blocks]; exact List.mem_singleton.2 rfl)
  exact h

/-- the run that most of the examples below share -/
theorem pv_out : samVarCore (pvVi "gb" false) [pvRec] true pvRef "ref" samBlocks (fun b r => blockToSeqPair b r) modelPair =
    "query,mutations\nq,aa:g:A2E(nuc:C5A)|ins:4:1|del:8:2\n" := by decide +kernel

/-- and the common value is not an error: the three expected mutations, in both output forms -/
example : samVarCore (pvVi "gb" false) [pvRec] true pvRef "ref" samBlocks (fun b r => blockToSeqPair b r) modelPair =
    "query,mutations\nq,aa:g:A2E(nuc:C5A)|ins:4:1|del:8:2\n" := pv_out
example : varCommand (pairVarIn (pvVi "gff" false) "stdin" "ref" "q" (pairOfQuery pvRef [pvRec]).1 (pairOfQuery pvRef [pvRec]).2) modelPair =
    "query,mutations\nq,aa:g:A2E(nuc:C5A)|ins:4:1|del:8:2\n" := by
  rw [pv_pair]
  decide +kernel
example : samVarCore (pvVi "gff" true) [pvRec] true pvRef "ref" samBlocks (fun b r => blockToSeqPair b r) modelPair =
    "mutation,frequency\naa:g:A2E(nuc:C5A),1.000000000\nins:4:1,1.000000000\ndel:8:2,1.000000000\n" := by decide +kernel

/-! ### the hypotheses that cannot be dropped (each pair: output of `sam variants`, output of `variants` on the pair file) -/

/-- `mode` = "ann" (reference = the annotation's sequence, both records are rows): the reference row of the pair is
longer than the ORIGIN as soon as the query inserts a base, and `variants` refuses the alignment -/
example : (samVarCore (pvVi "gb" false) [pvRec] true pvRef "ref" samBlocks (fun b r => blockToSeqPair b r) modelPair,
    varCommand (pairVarIn (pvVi "gb" false) "ann" "ref" "q" (pairOfQuery pvRef [pvRec]).1 (pairOfQuery pvRef [pvRec]).2) modelPair) =
    ("query,mutations\nq,aa:g:A2E(nuc:C5A)|ins:4:1|del:8:2\n", "!error") := by
  rw [pv_out, pv_pair]
  exact congrArg (Prod.mk _) (by decide +kernel)

def pvRef15 : List Nat := pvRef ++ [65]
/-- `SamVarOk.gb`: GenBank annotation, reference read from a file one base longer than the ORIGIN:
`variants` compares the lengths and fails, `sam variants` does not compare them -/
example : (samVarCore (pvVi "gb" false) [pvRec] true pvRef15 "ref" samBlocks (fun b r => blockToSeqPair b r) modelPair,
    varCommand (pairVarIn (pvVi "gb" false) "msa" "ref" "q" (pairOfQuery pvRef15 [pvRec]).1 (pairOfQuery pvRef15 [pvRec]).2) modelPair) =
    ("query,mutations\nq,aa:g:A2E(nuc:C5A)|ins:4:1|del:8:2\n", "!error") := by decide +kernel

def pvViDash : VarIn := ⟨"gb", [pvFeat], [pvGff], "", "", pvRef ++ [45], [], true, 0, 0, false, 0, 1⟩
/-- `RefOk.noDash`: a '-' in the annotation's sequence (reference taken from the annotation, GenBank): `sam variants`
counts the de-gapped bases, `variants` compares that count with the length of the ORIGIN and fails -/
example : (samVarCore pvViDash [pvRec] false [] "ref" samBlocks (fun b r => blockToSeqPair b r) modelPair,
    varCommand (pairVarIn pvViDash "msa" "annotation_fasta" "q" (pairOfQuery (pvRef ++ [45]) [pvRec]).1
      (pairOfQuery (pvRef ++ [45]) [pvRec]).2) modelPair) =
    ("query,mutations\nq,aa:g:A2E(nuc:C5A)|ins:4:1|del:8:2|ins:14:1\n", "!error") := by decide +kernel

def pvOver : SamRec := ⟨"q", 0, 10, [(0, 6)], [84, 65, 65, 67, 67, 65]⟩
/-- `WFSamRec.hr`: a record that runs past the end of the reference (6M at POS 11 on 14 bases): the rows of the pair
have different lengths (14 and 16), `variants` refuses them, `sam variants` reports calls -/
example : (samVarCore (pvVi "gb" false) [pvOver] true pvRef "ref" samBlocks (fun b r => blockToSeqPair b r) modelPair,
    varCommand (pairVarIn (pvVi "gb" false) "msa" "ref" "q" (pairOfQuery pvRef [pvOver]).1 (pairOfQuery pvRef [pvOver]).2) modelPair) =
    ("query,mutations\nq,nuc:A11T|nuc:C13A\n", "!error") := by decide +kernel
example : ((pairOfQuery pvRef [pvOver]).1.length, (pairOfQuery pvRef [pvOver]).2.length) = (14, 16) := by decide +kernel

theorem pv_var_qq : varCommand (pairVarIn (pvVi "gb" false) "msa" "q" "q" (pairOfQuery pvRef [pvRec]).1 (pairOfQuery pvRef [pvRec]).2)
    modelPair = "query,mutations\n" := by
  rw [pv_pair]
  decide +kernel
/-- `hname` of `varCommand_pair`: the reference record of the pair file carries the name of the query while
`sam variants` knows the reference under another ID: `variants` drops the row of the query, `sam variants` prints it.
(With the same ID on both sides no condition on the names is needed: both commands drop a query named like the
reference: the second example.) -/
example : (samVarCore (pvVi "gb" false) [pvRec] true pvRef "ref" samBlocks (fun b r => blockToSeqPair b r) modelPair,
    varCommand (pairVarIn (pvVi "gb" false) "msa" "q" "q" (pairOfQuery pvRef [pvRec]).1 (pairOfQuery pvRef [pvRec]).2) modelPair) =
    ("query,mutations\nq,aa:g:A2E(nuc:C5A)|ins:4:1|del:8:2\n", "query,mutations\n") := by
  rw [pv_out, pv_var_qq]
example : (samVarCore (pvVi "gb" false) [pvRec] true pvRef "q" samBlocks (fun b r => blockToSeqPair b r) modelPair,
    varCommand (pairVarIn (pvVi "gb" false) "msa" "q" "q" (pairOfQuery pvRef [pvRec]).1 (pairOfQuery pvRef [pvRec]).2) modelPair) =
    ("query,mutations\n", "query,mutations\n") := by
  rw [pv_var_qq]
  exact congrArg (fun out => (out, _)) (by decide +kernel)

/- hypotheses inherited from C02 for which no differing output was found: a SEQ shorter than its CIGAR
(`WFSamRec.hq`; the missing bases become 'N' in both routes) and a reference byte below '*' (`RefOk.ge`; two records,
the byte is overwritten by '*' in the reference row of the pair, so `PrintedOk.hD` fails, but both outputs agree) -/
def pvShort : SamRec := ⟨"q", 0, 0, [(0, 14)], [65, 84, 71, 71, 67, 65, 84, 84, 84, 84]⟩
example : (samVarCore (pvVi "gb" false) [pvShort] true pvRef "ref" samBlocks (fun b r => blockToSeqPair b r) modelPair,
    varCommand (pairVarIn (pvVi "gb" false) "msa" "ref" "q" (pairOfQuery pvRef [pvShort]).1 (pairOfQuery pvRef [pvShort]).2) modelPair) =
    ("query,mutations\nq,\n", "query,mutations\nq,\n") := by decide +kernel
def pvRefHash : List Nat := [65, 84, 71, 71, 67, 65, 84, 84, 84, 84, 65, 65, 35, 67]
def pvA : SamRec := ⟨"q", 0, 0, [(0, 5)], [65, 84, 71, 71, 67]⟩
def pvB : SamRec := ⟨"q", 2048, 6, [(0, 8)], [84, 84, 84, 84, 65, 65, 67, 67]⟩
theorem pv_pairHash : pairOfQuery pvRefHash [pvA, pvB] =
    ([65, 84, 71, 71, 67, 65, 84, 84, 84, 84, 65, 65, 42, 67], [65, 84, 71, 71, 67, 78, 84, 84, 84, 84, 65, 65, 67, 67]) := by
  decide +kernel
example : (pairOfQuery pvRefHash [pvA, pvB]).1 = strBytes "ATGGCATTTTAA*C" := by
  show _ = stringToBytes _
  rw [pv_pairHash, stringToBytes_ofList]
  rfl
example : samVarCore (pvVi "gff" false) [pvA, pvB] true pvRefHash "ref" samBlocks (fun b r => blockToSeqPair b r) modelPair =
    varCommand (pairVarIn (pvVi "gff" false) "msa" "ref" "q" (pairOfQuery pvRefHash [pvA, pvB]).1
      (pairOfQuery pvRefHash [pvA, pvB]).2) modelPair := by
  rw [pv_pairHash]
  decide +kernel

/-- the text route on the example: the pair file `sam toPairAlign` writes (any wrap width) is read back by the encoded
reader as the two encoded rows -/
example (wrap : Int) :
    readFasta (.encoded false) (stringToBytes (pairText wrap "ref" "q" false (pairOfQuery pvRef [pvRec]))) =
      .ok [{ id := strBytes "ref", desc := stringToBytes "ref", seq := (pairOfQuery pvRef [pvRec]).1.map (enc false), idx := 0,
             score := scoreSeq ((pairOfQuery pvRef [pvRec]).1.map (enc false)) },
           { id := strBytes "q", desc := stringToBytes "q", seq := (pairOfQuery pvRef [pvRec]).2.map (enc false), idx := 1,
             score := scoreSeq ((pairOfQuery pvRef [pvRec]).2.map (enc false)) }] := by
  rw [pv_pair]
  apply pairText_reads_back wrap "ref" "q" _ (strBytes "ref") (strBytes "q") (by decide +kernel)
  intro r hr
  simp only [List.mem_cons, List.mem_nil_iff, or_false] at hr
  rcases hr with rfl | rfl
  · exact ⟨by decide +kernel, ⟨by decide +kernel, by decide +kernel⟩, rfl, by decide +kernel⟩
  · exact ⟨by decide +kernel, ⟨by decide +kernel, by decide +kernel⟩, by decide +kernel, by decide +kernel⟩

end Gofasta.Lemmas.SamVarPipeline
