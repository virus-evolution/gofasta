import Gofasta.Lemmas.SamFlatten
import Gofasta.Lemmas.SortSpec
/-
C02 for a query aligned by a single record. The two operator tables span alike (`spans_agree`); `blockToSeqPair` on one
record is the two walked rows extended to the right (`blockToSeqPair_single`), hence lossless, of the stated lengths and
gap count, and, with the columns under '-' of the reference row removed (`keepRefCols`, in which every
`*_skip_insertions` statement is written), the toMultiAlign --pad row of C01.
-/
namespace Gofasta.Lemmas
open Gofasta Model Spec Gofasta.Props.C01 Gofasta.Props.C02

/-- the two tables consume alike, so a CIGAR spans the same under both. `WFSamRec` and the statements of C01 speak
`qSpan samNoIns` / `refSpan samNoIns`; the statements about the paired walk speak `samInsRef`, the table that walk reads -/
theorem spans_agree : ∀ (cigar : List (Nat × Nat)),
    qSpan samInsRef cigar = qSpan samNoIns cigar ∧ refSpan samInsRef cigar = refSpan samNoIns cigar := by
  intro cigar
  induction cigar with
  | nil => exact ⟨rfl, rfl⟩
  | cons c rest ih =>
    obtain ⟨op, len⟩ := c
    rcases op_cases op with ⟨_, h0, h3⟩ | ⟨_, h0, h3⟩ | ⟨_, h0, h3⟩ | ⟨_, h0, h3⟩ | ⟨_, h0, h3⟩ | ⟨_, h0, h3⟩ | ⟨_, h0, h3⟩ <;>
      simp only [qSpan, refSpan, h0, h3, ih.1, ih.2, and_self]

theorem que_row_length : ∀ (cigar : List (Nat × Nat)) (seq ref : List Nat) (q r : Nat),
    q + qSpan samInsRef cigar ≤ seq.length →
    (walkOps samInsRef seq ref cigar q r).1.length = refSpan samInsRef cigar + insSpan cigar := by
  intro cigar
  induction cigar with
  | nil => intro seq ref q r _; rfl
  | cons c rest ih =>
    intro seq ref q r hq
    obtain ⟨op, len⟩ := c
    rcases op_cases op with ⟨ho, _, he⟩ | ⟨ho, _, he⟩ | ⟨ho, _, he⟩ | ⟨ho, _, he⟩ | ⟨ho, _, he⟩ | ⟨ho, _, he⟩ | ⟨ho, _, he⟩ <;>
      simp only [qSpan, he] at hq <;>
      simp (disch := omega) only [walkOps, refSpan, insSpan, he, emit, List.length_append, length_slice,
        List.length_replicate, List.length_nil, if_true, Bool.false_eq_true, if_false] <;>
      rw [ih seq ref _ _ (by omega)] <;>
      split <;>
      omega

/-- the query row restricted to the columns where the reference row is not '-' -/
def keepRefCols (R Q : List Nat) : List Nat := ((R.zip Q).filter fun p => p.1 != dash).map (·.2)

theorem keepRefCols_append (R1 Q1 R2 Q2 : List Nat) (h : R1.length = Q1.length) :
    keepRefCols (R1 ++ R2) (Q1 ++ Q2) = keepRefCols R1 Q1 ++ keepRefCols R2 Q2 := by
  unfold keepRefCols
  rw [List.zip_append h, List.filter_append, List.map_append]

theorem keepRefCols_noDash (R Q : List Nat) (hnd : NoDash R) (h : R.length = Q.length) : keepRefCols R Q = Q := by
  unfold keepRefCols
  rw [List.filter_eq_self.2 fun p hp => by simpa using hnd p.1 (List.of_mem_zip hp).1]
  exact List.map_snd_zip (Nat.le_of_eq h.symm)

theorem keepRefCols_dashes (n : Nat) (Q : List Nat) : keepRefCols (List.replicate n dash) Q = [] := by
  unfold keepRefCols
  rw [List.filter_eq_nil_iff.2 fun p hp => by simp [List.eq_of_mem_replicate (List.of_mem_zip hp).1]]
  rfl

theorem keepRefCols_map (f : Nat → Nat) (R Q : List Nat) : keepRefCols R (Q.map f) = (keepRefCols R Q).map f := by
  unfold keepRefCols
  rw [List.zip_map_right, List.filter_map, List.map_map, List.map_map]
  rfl

theorem keepRefCols_copy (R X R' Q' : List Nat) (hnd : NoDash R) (h : R.length = X.length) :
    keepRefCols (R ++ R') (X ++ Q') = X ++ keepRefCols R' Q' := by
  rw [keepRefCols_append _ _ _ _ h, keepRefCols_noDash R X hnd h]

theorem keepRefCols_gap (n : Nat) (X R' Q' : List Nat) (h : X.length = n) :
    keepRefCols (List.replicate n dash ++ R') (X ++ Q') = keepRefCols R' Q' := by
  rw [keepRefCols_append _ _ _ _ (by rw [List.length_replicate, h]), keepRefCols_dashes, List.nil_append]

/-- the paired walk with its insertion columns removed is the toMultiAlign walk -/
theorem walk_keepRefCols (ref : List Nat) (hnd : NoDash ref) : ∀ (cigar : List (Nat × Nat)) (seq : List Nat) (q r : Nat),
    q + qSpan samInsRef cigar ≤ seq.length → r + refSpan samInsRef cigar ≤ ref.length →
    keepRefCols (walkOps samInsRef seq ref cigar q r).2 (walkOps samInsRef seq ref cigar q r).1 =
      (walkOps samNoIns seq [] cigar q r).1 := by
  intro cigar
  induction cigar with
  | nil => intro seq q r _ _; rfl
  | cons c rest ih =>
    intro seq q r hq hr
    obtain ⟨op, len⟩ := c
    rcases op_cases op with ⟨_, h0, h3⟩ | ⟨_, h0, h3⟩ | ⟨_, h0, h3⟩ | ⟨_, h0, h3⟩ | ⟨_, h0, h3⟩ | ⟨_, h0, h3⟩ | ⟨_, h0, h3⟩ <;>
      simp only [qSpan, refSpan, h3] at hq hr <;>
      simp only [walkOps, h0, h3, emit, if_true, Bool.false_eq_true, if_false, List.nil_append]
    · -- M = X
      rw [keepRefCols_copy _ _ _ _ (noDash_slice hnd r len) (by rw [length_slice (by omega), length_slice (by omega)]),
        ih seq _ _ (by omega) (by omega)]
    · -- I : the inserted bases stand under '-'
      rw [keepRefCols_gap _ _ _ _ (length_slice (by omega)), ih seq _ _ (by omega) (by omega)]
    · -- D
      rw [keepRefCols_copy _ _ _ _ (noDash_slice hnd r len) (by rw [length_slice (by omega), List.length_replicate]),
        ih seq _ _ (by omega) (by omega)]
    · -- N
      rw [keepRefCols_copy _ _ _ _ (noDash_slice hnd r len) (by rw [length_slice (by omega), List.length_replicate]),
        ih seq _ _ (by omega) (by omega)]
    · exact ih seq _ _ (by omega) (by omega)
    · exact ih seq _ _ (by omega) (by omega)
    · exact ih seq _ _ (by omega) (by omega)

/-- the insertions of the only record of a block move nothing: they only advance that row's offset -/
theorem foldl_applyInsertion_single : ∀ (l : List (Nat × Nat × Nat)) (row : PairRow), (∀ x ∈ l, x.2.2 = 0) →
    ∃ row', l.foldl applyInsertion [row] = [row'] ∧ row'.ref = row.ref ∧ row'.que = row.que := by
  intro l
  induction l with
  | nil => intro row _; exact ⟨row, rfl, rfl, rfl⟩
  | cons x t ih =>
    intro row h
    have hstep : applyInsertion [row] x = [{ row with offset := row.offset + x.2.1 }] := by
      simp [applyInsertion, h x List.mem_cons_self]
    rw [List.foldl_cons, hstep]
    exact ih _ fun y hy => h y (List.mem_cons_of_mem _ hy)

theorem insertionsOf_sum : ∀ (cigar : List (Nat × Nat)) (pos : Nat), ((insertionsOf pos cigar).map (·.2)).sum = insSpan cigar := by
  intro cigar
  induction cigar with
  | nil => intro pos; rfl
  | cons c rest ih =>
    intro pos
    obtain ⟨op, len⟩ := c
    simp only [insertionsOf, insSpan, List.map_append, List.sum_append, ih]
    by_cases h : op = 1 <;> simp [h]

/-- `blockToSeqPair` on one record whose walk wrote the rows `R` and `Q` of one length: the fold of `applyInsertion` and the
flattening change nothing, so what is left is the right extension (`total`, `diff` in `blockToSeqPair`): the reference
bases not yet written after `R`, as many no-coverage marks after `Q` -/
theorem blockToSeqPair_of_walk (rec : SamRec) (ref R Q : List Nat) (hw : walkWithRef rec ref true = (Q, R))
    (hlen : Q.length = R.length) :
    blockToSeqPair [rec] ref = (R ++ ref.drop (ref.length - (insSpan rec.cigar + ref.length - R.length)),
      swapInNs (Q ++ List.replicate (insSpan rec.cigar + ref.length - R.length) star)) := by
  have hsum : ((([rec].zip (List.range [rec].length)).flatMap fun (r, i) =>
      (insertionsOf r.pos r.cigar).map fun x => (x.1, x.2, i)).map (·.2.1)).sum = insSpan rec.cigar := by
    rw [← insertionsOf_sum rec.cigar rec.pos]
    simp [List.map_map, Function.comp_def]
  obtain ⟨row', hm, hmr, hmq⟩ := foldl_applyInsertion_single
    (sortStable (fun a b => decide (a.1 < b.1)) (([rec].zip (List.range [rec].length)).flatMap fun (r, i) =>
      (insertionsOf r.pos r.cigar).map fun x => (x.1, x.2, i)))
    { ref := R, que := Q, refEnd := (R.filter (· != dash)).length } (by
      intro x hx
      rw [mem_sortStable] at hx
      simp at hx
      obtain ⟨_, _, _, rfl⟩ := hx
      rfl)
  unfold blockToSeqPair
  simp only [List.map_cons, List.map_nil, hw]
  rw [hm, hsum]
  simp only [List.map_cons, List.map_nil, List.foldl_cons, List.foldl_nil, Nat.zero_max, flattenRows_single, hmr, hmq]
  rw [padTo, padTo, hlen, Nat.sub_self, List.replicate_zero, List.append_nil, List.append_nil]

theorem blockToSeqPair_single (rec : SamRec) (ref : List Nat)
    (hq : qSpan samInsRef rec.cigar ≤ rec.seq.length)
    (hr : rec.pos + refSpan samInsRef rec.cigar ≤ ref.length) :
    let w := walkOps samInsRef rec.seq ref rec.cigar 0 rec.pos
    blockToSeqPair [rec] ref =
      (ref.take rec.pos ++ w.2 ++ ref.drop (rec.pos + refSpan samInsRef rec.cigar),
       swapInNs (List.replicate rec.pos star ++ w.1 ++
         List.replicate (ref.length - (rec.pos + refSpan samInsRef rec.cigar)) star)) := by
  intro w
  have hw2 : w.2.length = refSpan samInsRef rec.cigar + insSpan rec.cigar := ref_row_length ref rec.cigar rec.seq 0 rec.pos hr
  have hw1 : w.1.length = refSpan samInsRef rec.cigar + insSpan rec.cigar :=
    que_row_length rec.cigar rec.seq ref 0 rec.pos (by omega)
  have hR : (ref.take rec.pos ++ w.2).length = rec.pos + (refSpan samInsRef rec.cigar + insSpan rec.cigar) := by
    rw [List.length_append, List.length_take, hw2, Nat.min_eq_left (Nat.le_trans (Nat.le_add_right _ _) hr)]
  rw [blockToSeqPair_of_walk rec ref (ref.take rec.pos ++ w.2) (List.replicate rec.pos star ++ w.1)
    (walkWithRef_ins rec ref)
    (by rw [hR, List.length_append, List.length_replicate, hw1]), hR]
  rw [← Nat.add_assoc, Nat.add_comm (insSpan rec.cigar) ref.length, Nat.add_sub_add_right, Nat.sub_sub_self hr]

/-- **C02** — removing '-' from the reference row gives back exactly the reference -/
theorem single_ref_lossless (rec : SamRec) (ref : List Nat) (hnd : NoDash ref)
    (hq : qSpan samInsRef rec.cigar ≤ rec.seq.length)
    (hr : rec.pos + refSpan samInsRef rec.cigar ≤ ref.length) :
    degap (blockToSeqPair [rec] ref).1 = ref := by
  rw [blockToSeqPair_single rec ref hq hr]
  simp only [degap_append]
  rw [ref_row_degap ref hnd, degap_noDash fun x hx => hnd x (List.mem_of_mem_take hx),
    degap_noDash fun x hx => hnd x (List.mem_of_mem_drop hx), List.append_assoc, ← List.drop_drop,
    List.take_append_drop, List.take_append_drop]

/-- **C02** — the two rows have the same length: reference length plus inserted bases -/
theorem single_lengths (rec : SamRec) (ref : List Nat)
    (hq : qSpan samInsRef rec.cigar ≤ rec.seq.length)
    (hr : rec.pos + refSpan samInsRef rec.cigar ≤ ref.length) :
    (blockToSeqPair [rec] ref).1.length = ref.length + insSpan rec.cigar ∧
    (blockToSeqPair [rec] ref).2.length = ref.length + insSpan rec.cigar := by
  rw [blockToSeqPair_single rec ref hq hr]
  have h2 := ref_row_length ref rec.cigar rec.seq 0 rec.pos hr
  have h1 := que_row_length rec.cigar rec.seq ref 0 rec.pos (by omega)
  simp only [swapInNs, List.length_append, List.length_map, List.length_take, List.length_drop, List.length_replicate, h1, h2]
  omega

/-- **C02** — the reference row has exactly as many '-' columns as the record inserts bases -/
theorem single_gap_count (rec : SamRec) (ref : List Nat) (hnd : NoDash ref)
    (hq : qSpan samInsRef rec.cigar ≤ rec.seq.length)
    (hr : rec.pos + refSpan samInsRef rec.cigar ≤ ref.length) :
    ((blockToSeqPair [rec] ref).1.filter (· == dash)).length = insSpan rec.cigar := by
  have := length_dash_add_degap (blockToSeqPair [rec] ref).1
  rw [single_ref_lossless rec ref hnd hq hr, (single_lengths rec ref hq hr).1] at this
  omega

/-- **C02** — deleting the reference-gap columns from the query row gives exactly the
`toMultiAlign --pad` row of the same query (the specification's row) -/
theorem single_skip_insertions (rec : SamRec) (ref : List Nat) (hnd : NoDash ref)
    (hq : qSpan samInsRef rec.cigar ≤ rec.seq.length)
    (hr : rec.pos + refSpan samInsRef rec.cigar ≤ ref.length)
    (hns : NoStarBases rec) :
    keepRefCols (blockToSeqPair [rec] ref).1 (blockToSeqPair [rec] ref).2 = specTomaRow [rec] ref.length true := by
  have hsp := spans_agree rec.cigar
  rw [← single_record_row rec ref.length true (hsp.1 ▸ hq) (hsp.2 ▸ hr) hns 0 0, blockToSeqPair_single rec ref hq hr]
  show keepRefCols _ (swapInNs _) = swapInNs (walkNoIns rec ref.length)
  rw [walkNoIns_eq rec ref.length (hsp.1 ▸ hq), ← hsp.2]
  unfold swapInNs
  rw [keepRefCols_map]
  congr 1
  simp only [List.append_assoc]
  rw [keepRefCols_copy _ _ _ _ (fun x hx => hnd x (List.mem_of_mem_take hx)) (by rw [List.length_take, List.length_replicate]; omega),
    keepRefCols_append _ _ _ _ (by
      rw [ref_row_length ref rec.cigar rec.seq 0 rec.pos hr, que_row_length rec.cigar rec.seq ref 0 rec.pos (by omega)]),
    walk_keepRefCols ref hnd rec.cigar rec.seq 0 rec.pos (by omega) hr,
    keepRefCols_noDash _ _ (fun x hx => hnd x (List.mem_of_mem_drop hx)) (by rw [List.length_drop, List.length_replicate])]

/-- non-vacuity: the record of the C02 example meets every hypothesis -/
example : NoDash [65, 67, 71, 84, 65, 67, 71, 84, 65, 67] ∧ qSpan samInsRef Props.C02.exRec.cigar ≤ Props.C02.exRec.seq.length ∧
    Props.C02.exRec.pos + refSpan samInsRef Props.C02.exRec.cigar ≤ 10 ∧ NoStarBases Props.C02.exRec := by
  refine ⟨?_, by decide, by decide, ?_⟩
  · unfold NoDash; decide
  · unfold NoStarBases; decide

end Gofasta.Lemmas
